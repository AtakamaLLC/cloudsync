import Csverif.Proofs.StateMoving
/-
C11: the loader (state.py:725-746).  A state rebuilt from stored entries whose ids are pairwise different per
side satisfies the invariant; the entries that `storage_commit` of a state satisfying the invariant writes (everything reachable
from the id indexes, each once) are of that kind.
-/
namespace CS.State

def loadSide (st : St) (i : Nat) (s : Sd) : St :=
  let sd := st.side i s
  if sd.oid.isNone then st else
    let st := if truthyS sd.path then st.setPathSlot s sd.path sd.oid i else st
    let st := st.setOids s (AL.set (st.oids s) sd.oid i)
    if sd.changed.truthy then st.csAdd i else st

theorem loadOne_eq (st : St) (i : Nat) : loadOne st i = loadSide (loadSide st i .L) i .R := rfl

@[simp] theorem ents_loadSide (st : St) (i : Nat) (s : Sd) : (loadSide st i s).ents = st.ents := by
  unfold loadSide; dsimp only; split
  · rfl
  · split <;> split <;> simp
@[simp] theorem side_loadSide (st : St) (i : Nat) (s : Sd) (j : Nat) (s' : Sd) : (loadSide st i s).side j s' = st.side j s' := by
  simp [St.side, St.ent]
theorem walk_loadSide {R : St → St → Prop} (W : Walk R) (st : St) (i : Nat) (s : Sd) : R st (loadSide st i s) := by
  unfold loadSide
  dsimp only
  split
  · exact W.refl st
  · have h1 : R st (if truthyS (st.side i s).path = true then st.setPathSlot s (st.side i s).path (st.side i s).oid i else st) := by
      split
      · exact W.setPathSlot ..
      · exact W.refl st
    have h2 := W.trans h1 (W.setOid _ s (st.side i s).oid i)
    split
    · exact W.trans h2 (W.other rfl rfl rfl)
    · exact h2

@[simp] theorem moving_loadSide (st : St) (i : Nat) (s : Sd) : (loadSide st i s).moving = st.moving := walk_loadSide movWalk st i s

/-- loop invariant of the loader: `X` = the entry sides not yet loaded; `pendC`, `pendS`: the pending set holds every loaded entry with a
    change flag on a side that has an id, and nothing else -/
structure LJ (X : Ex2) (st : St) : Prop where
  idx : Idx X st
  /-- with ids pairwise different per side, this is why the id of the side being loaded is still free (`hfree` in `lj_loadSide`) -/
  fut : ∀ s key j, AL.get (st.oids s) key = some j → ¬ X j s
  pendC : ∀ i s, ¬ X i s → (st.side i s).oid ≠ none → (st.side i s).changed.truthy = true → i ∈ st.cs
  pendS : ∀ i, i ∈ st.cs → ∃ s, ¬ X i s ∧ (st.side i s).oid ≠ none ∧ (st.side i s).changed.truthy = true

theorem LJ.congrX {X X' : Ex2} {st : St} (h : LJ X st) (hx : ∀ i s, X' i s ↔ X i s) : LJ X' st :=
  ⟨h.idx.mono (fun i s hh => (hx i s).2 hh),
   fun s key j hk hh => h.fut s key j hk ((hx j s).1 hh),
   fun i s hn => h.pendC i s (fun hh => hn ((hx i s).2 hh)),
   fun i hi => by obtain ⟨s, h1, h2⟩ := h.pendS i hi; exact ⟨s, fun hh => h1 ((hx i s).1 hh), h2⟩⟩

theorem get_oids_loadSide {st : St} {i : Nat} {s : Sd} {k : Path.Str} (ho : (st.side i s).oid = some k) (s' : Sd) (key : Oid) :
    AL.get ((loadSide st i s).oids s') key = if s' = s ∧ key = some k then some i else AL.get (st.oids s') key := by
  unfold loadSide
  simp only [ho, Option.isNone_some, Bool.false_eq_true, if_false]
  by_cases hs : s' = s <;> split <;> split <;> simp [AL.get_set, hs]

theorem mem_cs_loadSide (st : St) (i : Nat) (s : Sd) (j : Nat) :
    j ∈ (loadSide st i s).cs ↔ j ∈ st.cs ∨ (j = i ∧ (st.side i s).oid ≠ none ∧ (st.side i s).changed.truthy = true) := by
  unfold loadSide
  dsimp only
  cases (st.side i s).oid with
  | none => simp
  | some k =>
    simp only [Option.isNone_some, Bool.false_eq_true, if_false]
    split <;> split <;> simp [*, or_comm]

theorem idx_loadSide {X : Ex2} {st : St} {i : Nat} {s : Sd} (h : Idx (X.add i s) st)
    (hfree : ∀ k, (st.side i s).oid = some k → AL.get (st.oids s) (some k) = none) (hlt : i < st.ents.length) :
    Idx X (loadSide st i s) := by
  unfold loadSide
  dsimp only
  cases ho : (st.side i s).oid with
  | none => exact IdxV.idx (h.view.unexempt (fun hn => absurd ho hn) (fun hn => absurd ho hn)) h.pathKey
  | some k =>
    simp only [Option.isNone_some, Bool.false_eq_true, if_false]
    -- the id slot first, then the path slot under it
    have h1 : IdxV (X.add i s) (st.view.setGet s (some k) (some i)) := h.view.putGet (by simp) hlt ho (hfree k ho)
    have hI : Idx X ((if truthyS (st.side i s).path = true then st.setPathSlot s (st.side i s).path (some k) i else st).setOids s
        (AL.set ((if truthyS (st.side i s).path = true then st.setPathSlot s (st.side i s).path (some k) i else st).oids s) (some k) i)) := by
      split
      · next ht =>
        refine IdxV.idx ?_ ((h.pathKey.setSlot s _ (some k) i ht hlt).congr (by simp) (by simp))
        rw [view_setOids _ (fun _ => AL.get_set ..), view_setPathSlot]
        exact IdxV.unexempt (e := i) (s := s) (h1.putSlot rfl ho (by simp)) (fun _ => by simp [ho]) (fun _ _ => by simp [ho])
      · next ht =>
        refine IdxV.idx ?_ (h.pathKey.congr (by simp) (by simp))
        rw [view_setOids _ (fun _ => AL.get_set ..)]
        exact h1.unexempt (fun _ => by simp [ho]) (fun _ ht' => absurd ht' (by simpa using ht))
    split
    · exact hI.congr (by simp) (by simp) (by simp) (by simp)
    · exact hI

theorem lj_loadSide {X : Ex2} {st : St} {i : Nat} {s : Sd} (h : LJ (X.add i s) st) (hx : ¬ X i s)
    (hd : ∀ j, (st.side i s).oid ≠ none → (st.side j s).oid = (st.side i s).oid → j = i) (hlt : i < st.ents.length) :
    LJ X (loadSide st i s) := by
  have hfree : ∀ k, (st.side i s).oid = some k → AL.get (st.oids s) (some k) = none := by
    intro k ho
    cases hg : AL.get (st.oids s) (some k) with
    | none => rfl
    | some j =>
      obtain rfl : j = i := hd j (by simp [ho]) (by rw [h.idx.oidSlot s _ j hg, ho])
      exact absurd (Or.inr ⟨rfl, rfl⟩) (h.fut s _ j hg)
  have hX : ∀ j s', ¬ X j s' → ¬ (j = i ∧ s' = s) → ¬ (X.add i s) j s' := fun j s' h1 h2 h3 => h3.elim h1 h2
  refine ⟨idx_loadSide h.idx hfree hlt, fun s' key j hk => ?_, fun j s' hxj hoj hcj => ?_, fun j hj => ?_⟩
  · cases ho : (st.side i s).oid with
    | none =>
      have : loadSide st i s = st := by unfold loadSide; simp [ho]
      rw [this] at hk; exact fun hh => h.fut s' key j hk (Or.inl hh)
    | some k =>
      rw [get_oids_loadSide ho] at hk
      split at hk
      · next hc => cases hk; exact hc.1 ▸ hx
      · exact fun hh => h.fut s' key j hk (Or.inl hh)
  · rw [side_loadSide] at hoj hcj
    rw [mem_cs_loadSide]
    by_cases hc : j = i ∧ s' = s
    · obtain ⟨rfl, rfl⟩ := hc; exact Or.inr ⟨rfl, hoj, hcj⟩
    · exact Or.inl (h.pendC j s' (hX j s' hxj hc) hoj hcj)
  · rcases (mem_cs_loadSide ..).1 hj with hj | ⟨rfl, h1, h2⟩
    · obtain ⟨s', h1, h2⟩ := h.pendS j hj
      exact ⟨s', fun hh => h1 (Or.inl hh), by simpa using h2⟩
    · exact ⟨s, hx, by simpa using ⟨h1, h2⟩⟩

def OidsDistinct (st : St) : Prop :=
  ∀ i j s, (st.side i s).oid ≠ none → (st.side j s).oid = (st.side i s).oid → j = i

/-- the not-yet-loaded sides after `k` entries -/
def fromK (k : Nat) : Ex2 := fun i _ => k ≤ i

theorem lj_loadOne {k : Nat} {st : St} (h : LJ (fromK k) st) (hd : OidsDistinct st) (hlt : k < st.ents.length) :
    LJ (fromK (k + 1)) (loadOne st k) := by
  rw [loadOne_eq]
  have h0 : LJ (((fromK (k + 1)).add k .R).add k .L) st := by
    apply h.congrX
    intro i s
    unfold Ex2.add fromK
    constructor
    · rintro ((h1 | ⟨h1, _⟩) | ⟨h1, _⟩) <;> omega
    · intro h1
      by_cases hik : i = k
      · subst hik; cases s
        · exact Or.inr ⟨rfl, rfl⟩
        · exact Or.inl (Or.inr ⟨rfl, rfl⟩)
      · exact Or.inl (Or.inl (by omega))
  have h1 : LJ ((fromK (k + 1)).add k .R) (loadSide st k .L) :=
    lj_loadSide h0 (by unfold Ex2.add fromK; rintro (h | ⟨_, h⟩) <;> first | omega | cases h) (fun j => hd k j .L) hlt
  exact lj_loadSide h1 (by unfold fromK; omega) (fun j => by simpa using hd k j .R) (by simpa using hlt)

theorem ents_loadOne (st : St) (i : Nat) : (loadOne st i).ents = st.ents := by rw [loadOne_eq]; simp
theorem moving_loadOne (st : St) (i : Nat) : (loadOne st i).moving = st.moving := by rw [loadOne_eq]; simp

theorem oidsDistinct_loadOne {st : St} (h : OidsDistinct st) (i : Nat) : OidsDistinct (loadOne st i) := by
  intro a b s; rw [loadOne_eq]; simpa using h a b s

theorem foldl_loadOne (st0 : St) (hd : OidsDistinct st0) (h0 : LJ (fromK 0) st0) :
    ∀ k, k ≤ st0.ents.length →
      LJ (fromK k) ((List.range k).foldl loadOne st0) ∧ ((List.range k).foldl loadOne st0).ents = st0.ents ∧
      ((List.range k).foldl loadOne st0).moving = st0.moving ∧ OidsDistinct ((List.range k).foldl loadOne st0)
  | 0, _ => ⟨h0, rfl, rfl, hd⟩
  | k + 1, hk => by
    obtain ⟨h1, h2, h3, h4⟩ := foldl_loadOne st0 hd h0 k (by omega)
    rw [List.range_succ, List.foldl_append]
    simp only [List.foldl_cons, List.foldl_nil]
    exact ⟨lj_loadOne h1 h4 (by rw [h2]; omega), by rw [ents_loadOne, h2], by rw [moving_loadOne, h3], oidsDistinct_loadOne h4 k⟩

theorem LJ.done {st : St} (h : LJ (fromK st.ents.length) st) :
    Inv st ∧ ∀ i, i ∈ st.cs ↔ ∃ s, (st.side i s).oid ≠ none ∧ (st.side i s).changed.truthy = true := by
  obtain ⟨hidx, _, hc, hs⟩ := h
  have hx : ∀ i s, (st.side i s).oid ≠ none → ¬ fromK st.ents.length i s := by
    intro i s ho hge
    exact ho (oid_oob st i s (by unfold fromK at hge; omega))
  refine ⟨⟨{ hidx with byOid := fun i s _ ho => hidx.byOid i s (hx i s ho) ho,
                       byPath := fun i s _ ho => hidx.byPath i s (hx i s ho) ho }, ?_⟩, ?_⟩
  · rintro i ⟨s, h1, h2⟩
    have ho : (st.side i s).oid ≠ none := by intro hh; rw [hh] at h2; cases h2
    exact hc i s (hx i s ho) ho h1
  · intro i
    constructor
    · intro hi; obtain ⟨s, _, h2⟩ := hs i hi; exact ⟨s, h2⟩
    · rintro ⟨s, ho, h1⟩; exact hc i s (hx i s ho) ho h1

theorem LJ.start (es : List Entry) (now last : Int) : LJ (fromK 0) { ents := es, now := now, last := last } := by
  refine ⟨Idx.of_empty rfl rfl (fun i s hx => absurd (Nat.zero_le i) hx), ?_, fun i s hx => absurd (Nat.zero_le i) hx, nofun⟩
  intro s k i h; cases s <;> simp [St.oids, St.ix] at h

/-- what is not restored from storage -/
def resetE (e : Entry) : Entry := { e with priority := 0, l := { e.l with lastGotten := 0 }, r := { e.r with lastGotten := 0 } }

theorem load_eq (now : Int) (es : List Entry) :
    load now es = (List.range (es.map resetE).length).foldl loadOne { ents := es.map resetE, now := now, last := now } := rfl

/-- **the loader establishes the invariant** from any stored entries whose ids are pairwise different per side; the rebuilt
    pending set is exactly the set of entries with a change flag on a side that has an id -/
theorem load_inv (now : Int) (es : List Entry) (hd : OidsDistinct { ents := es.map resetE, now := now, last := now }) :
    Inv (load now es) ∧ (load now es).moving = [] ∧
    ∀ i, i ∈ (load now es).cs ↔ ∃ s, ((load now es).side i s).oid ≠ none ∧ ((load now es).side i s).changed.truthy = true := by
  rw [load_eq]
  obtain ⟨h1, h2, h3, _⟩ := foldl_loadOne { ents := es.map resetE, now := now, last := now } hd (LJ.start ..) (es.map resetE).length (Nat.le_refl _)
  have h1' : LJ (fromK ((List.range (es.map resetE).length).foldl loadOne { ents := es.map resetE, now := now, last := now }).ents.length)
      ((List.range (es.map resetE).length).foldl loadOne { ents := es.map resetE, now := now, last := now }) := by rw [h2]; exact h1
  exact ⟨h1'.done.1, h3, h1'.done.2⟩

theorem nodup_setAdd {l : List Nat} (h : l.Nodup) (i : Nat) : (setAdd l i).Nodup := by
  unfold setAdd
  split
  · exact h
  · next hn => rw [List.nodup_append]; exact ⟨h, by simp, fun a ha b hb => by simp at hb; subst hb; intro hab; exact hn (hab ▸ ha)⟩

theorem nodup_dedupAppend : ∀ (l acc : List Nat), acc.Nodup → (dedupAppend acc l).Nodup
  | [], _, h => h
  | i :: t, _, h => nodup_dedupAppend t _ (nodup_setAdd h i)

theorem nodup_getAll (st : St) (d : Bool) : (st.getAll d).Nodup := by
  unfold St.getAll
  exact nodup_dedupAppend _ _ (nodup_dedupAppend _ _ List.nodup_nil)

theorem oid_resetE (e : Entry) (s : Sd) : ((resetE e).side s).oid = (e.side s).oid := by cases s <;> rfl

theorem reload_inv (st : St) (hi : Inv st) :
    Inv (reload st) ∧ (reload st).moving = [] ∧
    ∀ i, i ∈ (reload st).cs ↔ ∃ s, ((reload st).side i s).oid ≠ none ∧ ((reload st).side i s).changed.truthy = true := by
  unfold reload
  apply load_inv
  have hside : ∀ a s, (({ ents := ((st.getAll true).map st.ent).map resetE, now := st.now, last := st.now } : St).side a s).oid =
      match (st.getAll true)[a]? with
      | some x => (st.side x s).oid
      | none => none := by
    intro a s
    simp only [St.side, St.ent, List.getD_eq_getElem?_getD, List.getElem?_map]
    cases (st.getAll true)[a]? with
    | none => simp; cases s <;> rfl
    | some x => simp [oid_resetE, St.ent]
  intro a b s ho heq
  rw [hside] at ho heq
  rw [hside] at heq
  cases ha : (st.getAll true)[a]? with
  | none => rw [ha] at ho; exact absurd rfl ho
  | some x =>
    rw [ha] at ho heq
    cases hb : (st.getAll true)[b]? with
    | none => rw [hb] at heq; exact absurd heq.symm ho
    | some y =>
      rw [hb] at heq
      simp only at ho heq
      have hx := hi.1.byOid x s (fun h => h) ho
      have hy := hi.1.byOid y s (fun h => h) (by rw [heq]; exact ho)
      rw [heq, hx] at hy
      have hxy : x = y := by injection hy
      subst hxy
      have hlt : a < (st.getAll true).length := by
        apply Decidable.byContradiction; intro hge
        rw [List.getElem?_eq_none (by omega)] at ha; cases ha
      exact ((List.getElem?_inj hlt (nodup_getAll st true)).1 (ha.trans hb.symm)).symm

end CS.State
