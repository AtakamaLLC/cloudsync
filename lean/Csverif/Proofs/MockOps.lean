import Csverif.Proofs.MockSim
/- One simulation lemma per provider operation other than `rename` (which is in MockDir).  The two lookups leave the state
   alone, so `sim_infoPath` / `sim_infoOid` give `ResRel` only, each for `info_*` and `exists_*` at once. -/
namespace CS.MockFS
open CS.Path
open CS.Tree (Kind Err)
variable {C H : Type}

def Sim (c : Cfg) (fl : Flavour) (hcfg : HashCfg C H) (r : St C × Res C H) (tr : Tree.T C × Tree.Res C) : Prop :=
  Inv c fl r.1 ∧ Rel c r.1 tr.1 ∧ ResRel c fl hcfg r.2 tr.2

theorem leafBad_eq {c : Cfg} (hc : COk2 c) {fl : Flavour} (hfs : c.sep ∉ fl.forbidden) {p : Str} (hp : Clean c fl p) :
    hasForbidden fl p = Tree.leafBad (tcfg c fl) (Path.C c p) := by
  obtain ⟨_, hpp, _⟩ := clean_C hc hp
  conv => lhs; rw [hpp]
  rw [hasForbidden_canon fl hfs]
  rfl

theorem parent_rel {c : Cfg} (hc : COk2 c) {fl : Flavour} {s : St C} {t : Tree.T C} (hr : Rel c s t)
    {p : Str} (hp : Clean c fl p) :
    verifyParent c s p = Tree.parentCheck t (Tree.fold (tcfg c fl) (Path.C c p)) := by
  obtain ⟨hl, hpp, _⟩ := clean_C hc hp
  have hci : Comps c (Path.C c p).dropLast := List.dropLast_eq_take ▸ Comps.take hl _
  have hd : dirname c p = canon c.sep (Path.C c p).dropLast := by
    conv => lhs; rw [hpp]
    exact dirname_canon hc.ok hl
  unfold verifyParent Tree.parentCheck
  simp only [hd, tfold_eq, show (foldL c (Path.C c p)).dropLast = foldL c (Path.C c p).dropLast from List.map_dropLast.symm]
  by_cases hin : (Path.C c p).dropLast = []
  · simp [hin, canon, intercalate, foldL]
  · have h1 : (canon c.sep (Path.C c p).dropLast == [c.sep]) = false := by
      simp only [beq_eq_false_iff_ne, ne_eq, canon_eq_sep hci.1]; exact hin
    have h2 : (foldL c (Path.C c p).dropLast).isEmpty = false := by
      simp only [List.isEmpty_eq_false_iff, ne_eq, foldL_nil_iff]; exact hin
    simp only [h1, h2, Bool.false_eq_true, if_false]
    rw [hr.get _ (comps_foldL_ok hc hci), infoPath_eq, norm_canon hc.ok hci]
    cases pv s (canon c.sep (foldL c (Path.C c p).dropLast)) <;> rfl

theorem sim_create {c : Cfg} (hc : COk2 c) {fl : Flavour} (hfs : c.sep ∉ fl.forbidden) (hcfg : HashCfg C H)
    {s : St C} {t : Tree.T C} (hi : Inv c fl s) (hr : Rel c s t) {p : Str} (hp : Clean c fl p) (d : C) :
    Sim c fl hcfg (create c fl hcfg s p d) (Tree.create (tcfg c fl) t (Path.C c p) d) := by
  unfold create Tree.create
  have hnf : (tcfg c fl).nameFirst = true := rfl
  rw [leafBad_eq hc hfs hp, hnf, Bool.true_and]
  by_cases hb : Tree.leafBad (tcfg c fl) (Path.C c p) = true
  · simp only [hb, if_true]; exact ⟨hi, hr, .err⟩
  · simp only [hb, Bool.false_eq_true, if_false]
    have hex : (Tree.get t (Tree.fold (tcfg c fl) (Path.C c p))).isSome = (infoPath c s p).isSome := by
      rw [get_infoPath hc hr]; simp
    rw [hex]
    by_cases he : (infoPath c s p).isSome = true
    · simp only [he, if_true]; exact ⟨hi, hr, .err⟩
    · simp only [he, Bool.false_eq_true, if_false]
      rw [← parent_rel hc hr hp]
      cases hvp : verifyParent c s p with
      | some e => exact ⟨hi, hr, .err⟩
      | none =>
        simp only
        have hfree : infoPath c s p = none := by simpa using he
        have ho := newObj_path hc s hp .file (some d)
        show Sim c fl hcfg
          (registerEvent (allocStore c fl s p .file (some d)).1 .create (newObj fl s p .file (some d)).1 none,
            .info (infoOfObj c hcfg (newObj fl s p .file (some d)).1)) _
        obtain ⟨h1, h2⟩ := sim_alloc hc hi hr hp hfree .file (some d)
        refine ⟨h1.registerEvent _ _ _, tfold_eq c fl _ ▸ h2.registerEvent _ _ _, .info ?_⟩
        rw [← nodeOf_newObj hc s hp]
        exact infoRel_obj hc hcfg (ho.symm ▸ hp)

theorem sim_mkdir {c : Cfg} (hc : COk2 c) {fl : Flavour} (hfs : c.sep ∉ fl.forbidden) (hcfg : HashCfg C H)
    {s : St C} {t : Tree.T C} (hi : Inv c fl s) (hr : Rel c s t) {p : Str} (hp : Clean c fl p) :
    Sim c fl hcfg (mkdir c fl s p) (Tree.mkdir (tcfg c fl) t (Path.C c p)) := by
  unfold mkdir Tree.mkdir
  dsimp only
  rw [← parent_rel hc hr hp]
  cases hvp : verifyParent c s p with
  | some e => exact ⟨hi, hr, .err⟩
  | none =>
    simp only
    rw [leafBad_eq hc hfs hp]
    by_cases hb : Tree.leafBad (tcfg c fl) (Path.C c p) = true
    · simp only [hb, if_true]; exact ⟨hi, hr, .err⟩
    · simp only [hb, Bool.false_eq_true, if_false]
      rw [get_infoPath hc hr]
      cases hip : infoPath c s p with
      | some ho =>
        obtain ⟨h, o⟩ := ho
        simp only [Option.map_some, nodeOf]
        obtain ⟨h1, h2, h3⟩ := pv_some.1 (infoPath_eq c s p ▸ hip)
        cases hk : o.kind with
        | file => exact ⟨hi, hr, .err⟩
        | dir =>
          refine ⟨hi, hr, .oid ?_⟩
          intro ho
          rw [hi.pathOid ho h o h2]
          exact (clean_C hc (hi.clean h o h2)).2.1
      | none =>
        show Sim c fl hcfg
          (registerEvent (allocStore c fl s p .dir none).1 .create (newObj fl s p .dir none).1 none,
            .oid (newObj fl s p .dir none).1.oid) _
        obtain ⟨h1, h2⟩ := sim_alloc hc hi hr hp hip .dir none
        refine ⟨h1.registerEvent _ _ _, tfold_eq c fl _ ▸ h2.registerEvent _ _ _, .oid fun ho => ?_⟩
        show (if fl.oip then p else _) = _
        rw [if_pos ho]
        exact (clean_C hc hp).2.1

theorem sim_upload {c : Cfg} (hc : COk2 c) {fl : Flavour} (hcfg : HashCfg C H)
    {s : St C} {t : Tree.T C} (hi : Inv c fl s) (hr : Rel c s t) (oid : Str) (d : C) :
    Sim c fl hcfg (upload c hcfg s oid d) (Tree.upload (tcfg c fl) t (resolve c s oid) d) := by
  unfold upload Tree.upload
  rw [lookupT_resolve hc hi hr]
  rcases pv_cases s oid with ⟨hp, hg | ⟨h, o, hg, hl⟩⟩ | ⟨h, ⟨opath, ooid, olive, okind, ocont⟩, hp, hg, hho, hl⟩ <;>
    rw [hp, hg]
  · exact ⟨hi, hr, .err⟩
  · simp only [hl]; exact ⟨hi, hr, .err⟩
  · -- the fields one by one, so that both sides compute once `live` and `kind` are known
    obtain rfl : olive = true := hl
    cases okind with
    | dir => exact ⟨hi, hr, .err⟩
    | file =>
      obtain ⟨h1, h2, _⟩ := sim_set hc hi hr hho rfl (o' := ⟨opath, ooid, true, .file, some d⟩) rfl rfl
      exact ⟨h1.registerEvent _ _ _, (h2 rfl).registerEvent _ _ _,
        .info (infoRel_obj hc hcfg (o := ⟨opath, ooid, true, .file, some d⟩) (hi.clean h ⟨opath, ooid, true, .file, ocont⟩ hho))⟩

theorem sim_download {c : Cfg} (hc : COk2 c) {fl : Flavour} (hcfg : HashCfg C H)
    {s : St C} {t : Tree.T C} (hi : Inv c fl s) (hr : Rel c s t) (oid : Str) :
    Sim c fl hcfg (download s oid) (Tree.download (tcfg c fl) t (resolve c s oid)) := by
  unfold download Tree.download
  rw [lookupT_resolve hc hi hr]
  rcases pv_cases s oid with ⟨hp, hg | ⟨h, o, hg, hl⟩⟩ | ⟨h, o, hp, hg, hho, hl⟩ <;> rw [hp, hg]
  · exact ⟨hi, hr, .err⟩
  · simp only [hl]; exact ⟨hi, hr, .err⟩
  · simp only [hl, Option.map_some, nodeOf]
    cases hk : o.kind with
    | dir => exact ⟨hi, hr, .err⟩
    | file =>
      cases hcn : o.contents with
      | none => exact ⟨hi, hr, .err⟩
      | some x => exact ⟨hi, hr, .data⟩

theorem dirBlocked_rel {c : Cfg} (hc : COk2 c) {fl : Flavour} (hcfg : HashCfg C H)
    {s : St C} {t : Tree.T C} (hi : Inv c fl s) (hr : Rel c s t) {h : Nat} {o : Obj C}
    (hho : s.heap[h]? = some o) (hl : o.live = true) (hk : o.kind = .dir) :
    dirBlocked c hcfg s o.oid =
      if (Tree.children t (foldL c (Path.C c o.path))).isEmpty then none else some .exists := by
  have hgo : getObj s o.oid = some (h, o) := getObj_some.2 ⟨hi.oidFiled h o hho hl, hho⟩
  have hclo := clean_C hc (hi.clean h o hho)
  obtain ⟨hA, hB⟩ := listing_rel hc hcfg hi hr hclo.1
  rw [← hclo.2.1] at hA hB
  unfold dirBlocked listdir
  simp only [hgo, hl, hk, beq_self_eq_true, Bool.and_self, if_true]
  cases hlh : listHandles c s o.path with
  | nil =>
    cases hch : Tree.children t (foldL c (Path.C c o.path)) with
    | nil => rfl
    | cons e rest =>
      obtain ⟨x, hm, _⟩ := hB e (by rw [hch]; simp)
      rw [hlh] at hm; cases hm
  | cons x rest =>
    obtain ⟨e, he, _⟩ := hA x (by rw [hlh]; simp)
    cases hch : Tree.children t (foldL c (Path.C c o.path)) with
    | nil => rw [hch] at he; cases he
    | cons _ _ => rfl

theorem sim_delete {c : Cfg} (hc : COk2 c) {fl : Flavour} (hcfg : HashCfg C H)
    {s : St C} {t : Tree.T C} (hi : Inv c fl s) (hr : Rel c s t) (oid : Str) :
    Sim c fl hcfg (delete c hcfg s oid) (Tree.delete (tcfg c fl) t (resolve c s oid)) := by
  unfold Tree.delete
  rw [lookupT_resolve hc hi hr]
  rcases pv_cases s oid with ⟨hp, hg | ⟨h, o, hg, hl⟩⟩ | ⟨h, o, hp, hg, hho, hl⟩ <;> rw [hp]
  · simp only [delete, hg]; exact ⟨hi, hr, .unit⟩
  · simp only [delete, hg, hl]; exact ⟨hi, hr, .unit⟩
  · obtain ⟨h1, _, h3⟩ := sim_set hc hi hr hho hl (o' := { o with live := false }) rfl rfl
    have hok : Sim c fl hcfg
        (registerEvent { s with heap := s.heap.set h { o with live := false } } .delete { o with live := false } none, Res.unit)
        (Tree.erase t (foldL c (Path.C c o.path)), Tree.Res.unit) :=
      ⟨h1.registerEvent _ _ _, (h3 rfl).registerEvent _ _ _, .unit⟩
    simp only [Option.map_some, nodeOf]
    cases hk : o.kind with
    | file => rw [delete_live hg hl (fun e => by rw [hk] at e; cases e)]; exact hok
    | dir =>
      have hb := dirBlocked_rel hc hcfg hi hr hho hl hk
      cases hch : (Tree.children t (foldL c (Path.C c o.path))).isEmpty with
      | true =>
        rw [delete_live hg hl (fun _ => by rw [hb, hch]; rfl)]
        exact hok
      | false =>
        rw [hch] at hb
        simp only [delete, hg, hl, hk, hb, Bool.not_true, Bool.false_eq_true, if_false, beq_self_eq_true, if_true]
        exact ⟨hi, hr, .err⟩

theorem sim_infoPath {c : Cfg} (hc : COk2 c) {fl : Flavour} (hcfg : HashCfg C H)
    {s : St C} {t : Tree.T C} (hi : Inv c fl s) (hr : Rel c s t) (p : Str) :
    ResRel c fl hcfg (step c fl hcfg s (.infoPath p)).2 (Tree.step (tcfg c fl) t (.infoPath (Path.C c p))).2 ∧
    ResRel c fl hcfg (step c fl hcfg s (.existsPath p)).2 (Tree.step (tcfg c fl) t (.existsPath (Path.C c p))).2 := by
  simp only [step, Tree.step]
  rw [get_infoPath hc hr]
  cases hip : infoPath c s p with
  | none => exact ⟨.none, .bool⟩
  | some ho =>
    obtain ⟨h, o⟩ := ho
    obtain ⟨_, h2, _⟩ := pv_some.1 (infoPath_eq c s p ▸ hip)
    exact ⟨.info (infoRel_obj hc hcfg (hi.clean h o h2)), .bool⟩

theorem sim_infoOid {c : Cfg} (hc : COk2 c) {fl : Flavour} (hcfg : HashCfg C H)
    {s : St C} {t : Tree.T C} (hi : Inv c fl s) (hr : Rel c s t) (oid : Str) :
    ResRel c fl hcfg (step c fl hcfg s (.infoOid oid)).2 (Tree.step (tcfg c fl) t (.infoOid (resolve c s oid))).2 ∧
    ResRel c fl hcfg (step c fl hcfg s (.existsOid oid)).2 (Tree.step (tcfg c fl) t (.existsOid (resolve c s oid))).2 := by
  simp only [step, Tree.step]
  rw [lookupT_resolve hc hi hr, liveObj_eq]
  cases hp : pv s oid with
  | none => exact ⟨.none, .bool⟩
  | some ho =>
    obtain ⟨h, o⟩ := ho
    obtain ⟨_, h2, _⟩ := pv_some.1 hp
    exact ⟨.info (infoRel_obj hc hcfg (hi.clean h o h2)), .bool⟩

theorem sim_listdir {c : Cfg} (hc : COk2 c) {fl : Flavour} (hcfg : HashCfg C H)
    {s : St C} {t : Tree.T C} (hi : Inv c fl s) (hr : Rel c s t) (oid : Str) :
    Sim c fl hcfg (step c fl hcfg s (.listdir oid)) (Tree.listdir (tcfg c fl) t (resolve c s oid)) := by
  simp only [step, Tree.listdir, listdir]
  rw [lookupT_resolve hc hi hr]
  rcases pv_cases s oid with ⟨hp, hg | ⟨h, o, hg, hl⟩⟩ | ⟨h, o, hp, hg, hho, hl⟩ <;> rw [hp, hg]
  · exact ⟨hi, hr, .err⟩
  · simp only [hl]; exact ⟨hi, hr, .err⟩
  · simp only [hl, Bool.true_and, Option.map_some, nodeOf]
    cases hk : o.kind with
    | file => exact ⟨hi, hr, .err⟩
    | dir =>
      simp only [beq_self_eq_true, if_true]
      have hclo := clean_C hc (hi.clean h o hho)
      obtain ⟨hA, hB⟩ := listing_rel hc hcfg hi hr hclo.1
      rw [← hclo.2.1] at hA hB
      refine ⟨hi, hr, .list ?_ ?_⟩
      · intro i hi'
        obtain ⟨x, hm, rfl⟩ := List.mem_map.1 hi'
        obtain ⟨e, he, hrel⟩ := hA x hm
        exact ⟨_, List.mem_map.2 ⟨e, he, rfl⟩, hrel⟩
      · intro ti hti
        obtain ⟨e, he, rfl⟩ := List.mem_map.1 hti
        obtain ⟨x, hm, hrel⟩ := hB e he
        exact ⟨_, List.mem_map.2 ⟨x, hm, rfl⟩, hrel⟩

theorem listdir_some {c : Cfg} (hc : COk2 c) {fl : Flavour} (hcfg : HashCfg C H) {s : St C} (hi : Inv c fl s)
    {oid : Str} {l : List (Info H)} (h : listdir c hcfg s oid = some l) {e : Info H} (he : e ∈ l) :
    ∃ (h' : Nat) (o' : Obj C), s.heap[h']? = some o' ∧ o'.live = true ∧ e = infoOfObj c hcfg o' := by
  unfold listdir at h
  cases hg : getObj s oid with
  | none => rw [hg] at h; cases h
  | some hf =>
    obtain ⟨fh, f⟩ := hf
    rw [hg] at h
    simp only at h
    split at h
    · cases h
      obtain ⟨⟨h', o', nm⟩, hm, rfl⟩ := List.mem_map.1 he
      have hclf := clean_C hc (hi.clean fh f (getObj_some.1 hg).2)
      rw [hclf.2.1] at hm
      obtain ⟨hho', hl', _, _, hnm⟩ := (mem_listHandles_canon hc hi hclf.1).1 hm
      exact ⟨h', o', hho', hl', entry_eq_infoOfObj c hcfg o' h' hnm⟩
    · cases h

end CS.MockFS
