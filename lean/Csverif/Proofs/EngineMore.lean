import Csverif.Model.EngineMore
import Csverif.Model.EngineConflict
import Csverif.Proofs.Engine
import Std.Data.String.ToNat
import Mathlib.Tactic.SplitIfs
/-
Lemmas for the handler routines that read more than the entry being synced: `CS.Engine.More` for Model/EngineMore.lean,
`CS.Engine.Conflict` for Model/EngineConflict.lean.  The two namespaces share no lemma.
-/
namespace CS.Engine.More
open CS.Hints (Ex OT Ign)
open CS.Engine
open CS.Path (Str Cfg)

theorem numStr_ne_nil (i : Nat) : numStr i ≠ [] := by
  intro h
  exact Nat.repr_ne_empty (n := i) (String.toList_injective (by simpa [numStr] using h))

theorem numStr_inj {i j : Nat} (h : numStr i = numStr j) : i = j := by
  exact Nat.repr_injective (String.toList_injective h)

/-- attempts are counted from 1: attempt 0 would give the bare `.conflicted` name of attempt 1 -/
theorem conflictBase_inj (stem ext : Str) {i j : Nat} (hi : 1 ≤ i) (hj : 1 ≤ j)
    (h : conflictBase stem ext i = conflictBase stem ext j) : i = j := by
  unfold conflictBase at h
  simp only [List.append_assoc, List.append_cancel_left_eq] at h
  have h' := List.append_cancel_right h
  by_cases h1 : i ≤ 1 <;> by_cases h2 : j ≤ 1
  · omega
  · simp only [h1, h2, if_true, if_false] at h'
    exact absurd h'.symm (numStr_ne_nil j)
  · simp only [h1, h2, if_true, if_false] at h'
    exact absurd h' (numStr_ne_nil i)
  · simp only [h1, h2, if_false] at h'
    exact numStr_inj h'

def candidates (stem ext : Str) (n : Nat) : List Str := (List.range n).map (fun k => conflictBase stem ext (k + 1))

theorem candidates_nodup (stem ext : Str) (n : Nat) : (candidates stem ext n).Nodup := by
  unfold candidates
  have hr : List.Pairwise (fun a b : Nat => a ≠ b) (List.range n) := List.nodup_range
  refine List.Pairwise.map _ ?_ hr
  intro a b hab h
  have := conflictBase_inj stem ext (Nat.succ_le_succ (Nat.zero_le a)) (Nat.succ_le_succ (Nat.zero_le b)) h
  omega

/-- a punt adds 1.0 to the priority: `prio` is in tenths -/
theorem punt_prio (e : Entry) : e.punt.prio = e.prio + 10 := by simp [Entry.punt]

theorem mem_enum {α : Type} (l : List α) (i : Nat) (a : α) (h : (i, a) ∈ enum l) : l[i]? = some a := by
  unfold enum at h
  rw [List.mem_iff_getElem] at h
  obtain ⟨k, hk, hk'⟩ := h
  simp only [List.getElem_zip, List.getElem_range, Prod.mk.injEq] at hk'
  obtain ⟨rfl, rfl⟩ := hk'
  have hlt : k < l.length := by simp at hk; omega
  simp [hlt]

theorem mem_enum_filter {α : Type} (l : List α) (p : Nat × α → Bool) (i : Nat)
    (h : i ∈ ((enum l).filter p).map (·.1)) : ∃ a, l[i]? = some a ∧ p (i, a) = true := by
  obtain ⟨ia, hia, rfl⟩ := List.mem_map.1 h
  obtain ⟨h1, h2⟩ := List.mem_filter.1 hia
  exact ⟨ia.2, mem_enum l ia.1 ia.2 h1, h2⟩

theorem enum_mem {α : Type} (l : List α) (a : α) (h : a ∈ l) : ∃ i, (i, a) ∈ enum l := by
  obtain ⟨k, hk, hkp⟩ := List.mem_iff_getElem.mp h
  refine ⟨k, ?_⟩
  unfold enum
  rw [List.mem_iff_getElem]
  exact ⟨k, by simpa using hk, by simp [hkp]⟩

theorem djLoop_merge (live : List (Nat × Peer)) (found : Option (Option Nat)) (st : OT) (fx : List DjEff) (i : Nat)
    (h : DjEff.merge i ∈ (djLoop live found st fx).2.2) :
    DjEff.merge i ∈ fx ∨ ∃ p, (i, p) ∈ live ∧ p.oidMatch = true ∧ p.hashSynced = true ∧ p.changed = false := by
  fun_induction djLoop live found st fx
  case case1 => exact .inl h
  case case3 j p rest found st fx h1 h2 h3 ih =>
    -- the branch that merges peer `j`
    rcases ih h with hm | ⟨q, hq, hr⟩
    · rcases List.mem_append.1 hm with hm | hm
      · exact .inl hm
      · obtain rfl : i = j := by simpa using hm
        exact .inr ⟨p, List.mem_cons_self, h1, by simpa using h2, by simpa using h3⟩
    · exact .inr ⟨q, List.mem_cons_of_mem _ hq, hr⟩
  all_goals
    -- the other branches add no effect
    rename_i ih
    exact (ih h).imp_right fun ⟨q, hq, hr⟩ => ⟨q, List.mem_cons_of_mem _ hq, hr⟩

theorem untrashed_cases (cO : OT) (peers : List Peer) :
    ((untrashedPeers cO peers).1 = none ∧ (cO ≠ .file ∨ ∀ p ∈ peers, p.ex ≠ .present) ∧
      ∀ i, DjEff.merge i ∉ (untrashedPeers cO peers).2) ∨
    (∃ live, untrashedPeers cO peers = (some live, []) ∧ live ≠ [] ∧ ∀ ip ∈ live, ip ∈ enum peers ∧ ip.2.ex = .present) := by
  unfold untrashedPeers
  by_cases hc : cO = .file
  · subst hc
    simp only [bne_self_eq_false, Bool.false_eq_true, if_false]
    by_cases h1 : peers.isEmpty = true
    · left
      simp only [h1, if_true]
      exact ⟨trivial, Or.inr (by intro p hp; simp [List.isEmpty_iff.mp h1] at hp), by simp⟩
    · simp only [h1]
      by_cases h2 : (peers.all fun p => p.ex != Ex.present) = true
      · left
        simp only [h2, if_true]
        refine ⟨rfl, Or.inr ?_, by simp⟩
        intro p hp
        simpa using List.all_eq_true.mp h2 p hp
      · right
        simp only [h2]
        refine ⟨_, rfl, ?_, ?_⟩
        · intro hemp
          apply h2
          apply List.all_eq_true.mpr
          intro p hp
          simp only [bne_iff_ne, ne_eq]
          intro hpe
          obtain ⟨k, hk⟩ := enum_mem peers p hp
          have hmem : (k, p) ∈ (enum peers).filter (fun ip => ip.2.ex == Ex.present) :=
            List.mem_filter.mpr ⟨hk, by simp [hpe]⟩
          rw [hemp] at hmem
          simp at hmem
        · intro ip hip
          have := List.mem_filter.mp hip
          exact ⟨this.1, by simpa using this.2⟩
  · left
    have hc' : (cO != OT.file) = true := by simpa using hc
    simp only [hc', if_true]
    exact ⟨trivial, Or.inl hc, by simp⟩

theorem checkDisjoint_live (cO sO : OT) (peers : List Peer) (info : Bool) (live : List (Nat × Peer))
    (hu : untrashedPeers cO peers = (some live, [])) (hne : live ≠ []) :
    (info = false ∧ checkDisjoint cO sO peers info = (false, [.infoPath])) ∨
    (info = true ∧ (checkDisjoint cO sO peers info).1 = true ∧
      ∀ i, DjEff.merge i ∈ (checkDisjoint cO sO peers info).2 → DjEff.merge i ∈ (djLoop live none sO [.infoPath]).2.2) := by
  have hemp : live.isEmpty = false := by cases live <;> simp_all
  unfold checkDisjoint
  rw [hu]
  simp only [hemp, Bool.false_eq_true, if_false, List.nil_append]
  cases info
  · exact .inl ⟨rfl, rfl⟩
  · refine .inr ⟨rfl, ?_⟩
    simp only [Bool.not_true, Bool.false_eq_true, if_false]
    split <;> simp_all

end CS.Engine.More

namespace CS.Engine.Conflict
open CS.Hints (Ex OT Ign)
open CS.Engine

theorem restoreSide_fields (cur orig : Side) :
    (restoreSide cur orig).oid = orig.oid ∧ (restoreSide cur orig).p = orig.p ∧ (restoreSide cur orig).h = orig.h ∧
      (restoreSide cur orig).changed = cur.changed := by
  unfold restoreSide
  simp only [setEx_fields]
  split_ifs <;> exact ⟨rfl, rfl, rfl, rfl⟩

/-- `h`: on a side that is CORRUPT now and was not before only `_saved_exists` is assigned -/
theorem restoreSide_ex (cur orig : Side) (h : cur.isCorrupt = true → orig.isCorrupt = true) :
    (restoreSide cur orig).ex = orig.ex := by
  unfold restoreSide
  dsimp only
  rw [setEx_ex]
  cases hc : cur.isCorrupt
  · have hx : (cur.ex == Ex.corrupt) = false := hc
    simp [Side.isCorrupt, hx]
  · have ho := h hc
    simp only [Side.isCorrupt, beq_iff_eq] at ho
    rw [ho, ite_self]

theorem splitEntry_eq (e d : Entry) (h : splitEntry e = .ok d) :
    e.l.oid = true ∧ ∃ e2 : Entry,
      e2 = ({ e with l := { e.l with p := e.l.p.clearCur, oid := false } } : Entry).clearSide .loc ∧
      d = { e2.setChanged .rem .now with r := { (e2.setChanged .rem .now).r with p := (e2.setChanged .rem .now).r.p.clearSync } } := by
  unfold splitEntry at h
  split_ifs at h with ho
  exact ⟨by simpa using ho, _, rfl, (Except.ok.inj h).symm⟩

theorem splitEntry_ok (e d : Entry) (h : splitEntry e = .ok d) :
    e.l.oid = true ∧ d.r = { e.r with changed := true, p := e.r.p.clearSync } ∧ d.ign = e.ign := by
  obtain ⟨ho, e2, he2, rfl⟩ := splitEntry_eq e d h
  have h1 : (e2.setChanged .rem .now).r = { e2.r with changed := true } := setChanged_get_self e2 .rem .now
  have h2 : e2.r = { e.r with changed := e.r.changed && e.r.oid } := he2 ▸ clearSide_other _ .loc
  exact ⟨ho, by simp only [h1, h2], by simp [he2]⟩

/-- `split` clears LOCAL, and `clear()` assigns `hash = None` while a hash is present: that un-corrupts the side -/
theorem splitEntry_local_not_corrupt (e d : Entry) (h : splitEntry e = .ok d) (hh : e.l.h.cur = true) : d.l.isCorrupt = false := by
  obtain ⟨_, e2, he2, rfl⟩ := splitEntry_eq e d h
  have h1 := setChanged_get_other e2 .rem .now
  have hz : ∀ x : Entry, (x.setChanged .loc .zero).l = { x.l with changed := false } := fun x => setChanged_get_self x .loc .zero
  show (((e2.setChanged .rem .now).get Sd.rem.other).ex == .corrupt) = false
  rw [h1, he2]
  simp only [Entry.clearSide, Entry.get, Entry.set, Sd.other, hz]
  cases e.l.ex <;> simp [Side.setEx, Side.clearHash, Side.uncorrupt, Side.isCorrupt, hh]

theorem splitConflict_raised (o : COracle) (t : TwoEntries) (x : Exc) (h : (splitConflict o t).out = .raised x) :
    (splitConflict o t).ents = t := by
  revert h
  fun_cases splitConflict o t
  -- the two branches that change an entry return
  all_goals first
    | exact fun _ => rfl
    | exact nofun

/-- for the entries `split` produces, `hr` and `hrc` come from `splitEntry_ok` and `hl` from `splitEntry_local_not_corrupt` -/
theorem exceptBranch_restores (e : Entry) (t : TwoEntries) (x : Exc) (fx : List CEff) (hro : e.r.oid = true)
    (hl : t.defer.l.isCorrupt = false) (hr : t.defer.r.ex = e.r.ex) (hrc : t.defer.r.changed = true) :
    let r := exceptBranch e t x fx
    r.out = .raised x ∧
    r.ents.defer.l.oid = e.l.oid ∧ r.ents.defer.l.p = e.l.p ∧ r.ents.defer.l.h = e.l.h ∧ r.ents.defer.l.ex = e.l.ex ∧
    r.ents.defer.r.oid = e.r.oid ∧ r.ents.defer.r.p = e.r.p ∧ r.ents.defer.r.h = e.r.h ∧ r.ents.defer.r.ex = e.r.ex ∧
    r.ents.replace.ign = .discarded ∧ r.ents.replace.l.oid = false ∧ r.ents.defer.r.changed = true := by
  obtain ⟨hlo, hlp, hlh, _⟩ := restoreSide_fields t.defer.l e.l
  obtain ⟨hro', hrp, hrh, hch⟩ := restoreSide_fields t.defer.r e.r
  have hx1 := restoreSide_ex t.defer.l e.l (by intro hcor; rw [hl] at hcor; cases hcor)
  have hx2 := restoreSide_ex t.defer.r e.r (by simp only [Side.isCorrupt, hr]; exact id)
  have hrepl : ((({ t.replace with l := { t.replace.l with oid := false } } : Entry).setIgn .discarded)).l.oid = false := by
    unfold Entry.setIgn; split_ifs <;> simp
  have hp0 := setPrio_of_nonpos ({ t.defer with l := restoreSide t.defer.l e.l } : Entry) 0 (Int.le_refl 0)
  unfold exceptBranch
  simp only [hro, Bool.not_true, Bool.and_false, Bool.false_eq_true, if_false]
  -- the priority reset that comes with LOCAL's path touches neither side
  cases e.l.p.cur
  all_goals
    simp only [Bool.false_eq_true, if_true, if_false, hp0]
    exact ⟨trivial, hlo, hlp, hlh, hx1, hro'.trans hro, hrp, hrh, hx2, setIgn_ign _ _, hrepl, hch.trans hrc⟩

end CS.Engine.Conflict
