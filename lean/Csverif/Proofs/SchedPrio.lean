import Csverif.Proofs.SchedMoves
/-
Helper lemmas for C17: the priority an entry HAS is the application's `prioritize` of (one of) its current path(s).
`Tracks cls e`, its preservation by every entry-level write, and by every run of hooked writes (`Moves.pcx`), hence by `changePath`
(a folder move carries its descendants along, each re-prioritised from its new path) for every folder tree.
-/
namespace CS.Sched

/-- what the code does to a priority after it was assigned from class value `b`: `punt` adds 1 any number of times;
    `finished` of a related entry resets a positive value to 0 (and punts may follow) -/
def Reach (b q : Rat) : Prop := (∃ k : Nat, q = b + k) ∨ (∃ k : Nat, q = k)

/-- `q` is a legitimate priority for an entry with these paths -/
def TracksAt (cls : Cls) (e : Entry) (q : Rat) : Prop :=
  (∃ s p, (e.side s).path = some p ∧ p ≠ "" ∧ Reach (cls s p) q) ∨
  ((∀ s, truthyS (e.side s).path = false) ∧ ∃ k : Nat, q = k)

/-- **PriorityCurrent, one entry**: its priority is the application's class of one of its current paths plus the punts since
    (or a punt count, after a reset by `finished`); without any path it is a punt count -/
def Tracks (cls : Cls) (e : Entry) : Prop := TracksAt cls e e.priority

theorem tracksAt_congr {cls : Cls} {e e' : Entry} {q : Rat} (hp : ∀ s, (e'.side s).path = (e.side s).path)
    (h : TracksAt cls e q) : TracksAt cls e' q := by
  rcases h with ⟨s, p, h1, h2, h3⟩ | ⟨h1, h2⟩
  · exact Or.inl ⟨s, p, by rw [hp]; exact h1, h2, h3⟩
  · exact Or.inr ⟨fun s => by rw [hp]; exact h1 s, h2⟩

theorem tracks_congr {cls : Cls} {e e' : Entry} (hq : e'.priority = e.priority)
    (hp : ∀ s, (e'.side s).path = (e.side s).path) (h : Tracks cls e) : Tracks cls e' := by
  unfold Tracks; rw [hq]; exact tracksAt_congr hp h

theorem reach_succ {b q : Rat} (h : Reach b q) : Reach b (q + 1) := by
  rcases h with ⟨k, hk⟩ | ⟨k, hk⟩
  · exact Or.inl ⟨k + 1, by rw [hk]; push_cast; ring⟩
  · exact Or.inr ⟨k + 1, by rw [hk]; push_cast; ring⟩

theorem tracksAt_succ {cls : Cls} {e : Entry} {q : Rat} (h : TracksAt cls e q) : TracksAt cls e (q + 1) := by
  rcases h with ⟨s, p, h1, h2, h3⟩ | ⟨h1, k, hk⟩
  · exact Or.inl ⟨s, p, h1, h2, reach_succ h3⟩
  · exact Or.inr ⟨h1, k + 1, by rw [hk]; push_cast; ring⟩

theorem tracksAt_zero {cls : Cls} {e : Entry} {q : Rat} (h : TracksAt cls e q) : TracksAt cls e 0 := by
  rcases h with ⟨s, p, h1, h2, _⟩ | ⟨h1, _⟩
  · exact Or.inl ⟨s, p, h1, h2, Or.inr ⟨0, by simp⟩⟩
  · exact Or.inr ⟨h1, 0, by simp⟩

theorem tracksAt_cls {cls : Cls} {e : Entry} {s : Bool} {p : String} (h : (e.side s).path = some p) (hne : p ≠ "") :
    TracksAt cls e (cls s p) := Or.inl ⟨s, p, h, hne, Or.inl ⟨0, by simp⟩⟩

theorem stampsOnly_paths {e e' : Entry} (h : StampsOnly e e') (s : Bool) : (e'.side s).path = (e.side s).path :=
  (h.side s).path

theorem tracks_setPriorityA (cls : Cls) (p : Rat × Rat) (e : Entry) (v : Rat) (h : TracksAt cls e v) :
    Tracks cls (setPriorityA p e v).1 := by
  unfold Tracks
  rw [setPriorityA_priority]
  exact tracksAt_congr (fun s => stampsOnly_paths (setPriorityA_stampsOnly p e v) s) h

theorem tracks_setChangedA (cls : Cls) (e : Entry) (s : Bool) (v : Option Rat) (h : Tracks cls e) :
    Tracks cls (setChangedA e s v).1 :=
  tracks_congr (setChangedA_priority e s v) (fun t => stampsOnly_paths (setChangedA_stampsOnly e s v) t) h

theorem tracks_setSide (cls : Cls) (e : Entry) (s : Bool) (x : Side) (hx : x.path = (e.side s).path) (h : Tracks cls e) :
    Tracks cls (e.setSide s x) :=
  tracks_congr (setSide_priority e s x) (side_setSide_congr (·.path) e s x hx) h

theorem tracks_setOidA (cls : Cls) (e : Entry) (s : Bool) (oid : String) (h : Tracks cls e) :
    Tracks cls (setOidA e s oid).1 := tracks_setSide cls e s _ rfl h

/-- when the path changes the entry tracks afterwards whatever it did before; `h` is for the unchanged-path branch -/
theorem tracks_setPathA (cls : Cls) (p : Rat × Rat) (e : Entry) (s : Bool) (path : String) (prio : Rat)
    (hne : path ≠ "") (hprio : prio = cls s path) (h : Tracks cls e) : Tracks cls (setPathA p e s path prio).1 := by
  simp only [setPathA]
  split
  · exact h
  · have hne' : (path == "") = false := by simpa using hne
    simp only [hne', Bool.false_eq_true, if_false]
    apply tracks_setPriorityA
    exact hprio ▸ tracksAt_cls (by simp) hne

theorem tracks_seqA (cls : Cls) (x : Entry × Acts) (f : Entry → Entry × Acts)
    (hf : Tracks cls x.1 → Tracks cls (f x.1).1) (h : Tracks cls x.1) : Tracks cls (seqA x f).1 := hf h

theorem Wr.tracks {ok : String → Rat → Prop} {s : Bool} {x y : Entry × Acts} (h : Wr ok s x y) (cls : Cls)
    (hok : ∀ pth q, ok pth q → pth ≠ "" ∧ q = cls s pth) (hx : Tracks cls x.1) : Tracks cls y.1 := by
  induction h with
  | refl => exact hx
  | field sd hg _ ih => exact tracks_setSide cls _ s sd hg.path ih
  | changed v _ ih => exact tracks_setChangedA cls _ s v ih
  | path p pth q hq _ ih => exact tracks_setPathA cls p _ s pth q (hok pth q hq).1 (hok pth q hq).2 ih

theorem tracks_markA (cls : Cls) (last now : Rat) (e : Entry) (s : Bool) (h : Tracks cls e) :
    Tracks cls (markA last now e s).1 :=
  (markA_wr (ok := fun _ _ => False) last now e s).tracks cls (fun _ _ => False.elim) h

theorem tracks_updateA (cls : Cls) (p : Rat × Rat) (last now : Rat) (e : Entry) (s : Bool) (oid : String)
    (path : Option String) (prio : Rat) (hok : ∀ pth, path = some pth → pth ≠ "" ∧ prio = cls s pth) (h : Tracks cls e) :
    Tracks cls (updateA p last now e s oid path prio).1 :=
  (updateA_wr p last now e s oid path prio).tracks cls (fun pth _ hq => hq.2 ▸ hok pth hq.1) (tracks_setOidA cls e s oid h)

theorem tracks_fillEntryA (cls : Cls) (p : Rat × Rat) (now : Rat) (aL aR : Option (String × Rat)) (e : Entry)
    (hL : ∀ pth q, aL = some (pth, q) → pth ≠ "" ∧ q = cls false pth)
    (hR : ∀ pth q, aR = some (pth, q) → pth ≠ "" ∧ q = cls true pth) (h : Tracks cls e) :
    Tracks cls (fillEntryA p now aL aR e).1 :=
  (fillSideA_wr p now aR _ true).tracks cls hR ((fillSideA_wr p now aL e false).tracks cls hL h)

/-- PriorityCurrent with exemptions (`pcx` in lemma names): for the entries of `skip` a path has been written, the priority
    not yet -/
def PCx (cls : Cls) (skip : List Nat) (st : St) : Prop := ∀ e ∈ st.ents, e.id ∈ skip ∨ Tracks cls e

def PriorityCurrent (cls : Cls) (st : St) : Prop := ∀ e ∈ st.ents, Tracks cls e

theorem pcx_nil (cls : Cls) (st : St) : PCx cls [] st ↔ PriorityCurrent cls st := by
  simp [PCx, PriorityCurrent]

theorem mem_withE_ents (st : St) (id : Nat) (f : Entry → Entry × Acts) (hid : ∀ e, (f e).1.id = e.id)
    (x : Entry) (hx : x ∈ (st.withE id f).ents) :
    (x ∈ st.ents ∧ ((st.get? id).isSome = true → x.id ≠ id)) ∨ ∃ e, st.get? id = some e ∧ x = (f e).1 := by
  simp only [St.withE] at hx
  cases hg : st.get? id with
  | none => rw [hg] at hx; exact Or.inl ⟨hx, fun h => absurd h (by simp)⟩
  | some e =>
    rw [hg] at hx
    simp only [St.act, St.put, List.mem_map] at hx
    obtain ⟨y, hy, rfl⟩ := hx
    split
    · exact Or.inr ⟨e, rfl, rfl⟩
    · rename_i hne
      refine Or.inl ⟨hy, fun _ => ?_⟩
      rw [hid, get?_id hg] at hne
      simpa using hne

theorem withE_pcx (cls : Cls) (skip : List Nat) (st : St) (id : Nat) (f : Entry → Entry × Acts)
    (hid : ∀ e, (f e).1.id = e.id)
    (hf : ∀ e, st.get? id = some e → (e.id ∈ skip ∨ Tracks cls e) → (e.id ∈ skip ∨ Tracks cls (f e).1))
    (h : PCx cls skip st) : PCx cls skip (st.withE id f) := by
  intro x hx
  rcases mem_withE_ents st id f hid x hx with ⟨hx, _⟩ | ⟨e, he, rfl⟩
  · exact h x hx
  · rw [hid]
    exact hf e he (h e (get?_mem he))

theorem pcx_mono (cls : Cls) (skip skip' : List Nat) (st : St) (hs : ∀ j ∈ skip, j ∈ skip') (h : PCx cls skip st) :
    PCx cls skip' st := fun e he => (h e he).imp (hs _) id

/-- an entry-level write that keeps the id and keeps tracking: what `Moves.pcx` asks of the single writes of a run -/
structure TrP (cls : Cls) (f : Entry → Entry × Acts) : Prop where
  id : ∀ e, (f e).1.id = e.id
  tracks : ∀ e, Tracks cls e → Tracks cls (f e).1

theorem folderWrites_trp (cls : Cls) : FolderWrites (TrP cls) where
  oid := fun s o => ⟨fun e => setOidA_id e s o, fun e => tracks_setOidA cls e s o⟩
  syncPath := fun s _ => ⟨fun e => setSide_id e s _, fun e => tracks_setSide cls e s _ rfl⟩
  mkDir := fun s o => ⟨fun e => (setOidA_id _ s o).trans (setSide_id e s _),
    fun e he => tracks_setOidA cls _ s o (tracks_setSide cls e s _ rfl he)⟩
  tail := fun _ _ hf => ⟨fun e => (hf e).sideWrite.id, fun e => (hf e).tracks cls (fun _ _ => False.elim)⟩

/-- between the two writes of a re-pathing the entry is exempt; it is left alone meanwhile (`Moves.frame`), so the priority
    written at the end is the class of the path it has -/
theorem Moves.pcx {W : (Entry → Entry × Acts) → Prop} {cls : Cls} {skip : List Nat} {st st' : St}
    (hW : ∀ f, W f → TrP cls f)
    (h : Moves W cls skip st st') (hp : PCx cls skip st) : PCx cls skip st' := by
  induction h with
  | refl => exact hp
  | write id _ hf _ ih => exact withE_pcx cls _ _ id _ (hW _ hf).id (fun e _ he => he.imp_right ((hW _ hf).tracks e)) (ih hp)
  | same _ he _ ih => exact fun x hx => ih hp x (he ▸ hx)
  | @repath skip _ st1 st2 id s path e _ hne he _ m2 ih1 ih2 =>
    have h2 : PCx cls (id :: skip) st2 := ih2 (withE_pcx cls (id :: skip) st1 id _ (fun e => setSide_id e s _)
      (fun e' he' _ => Or.inl (get?_id he' ▸ List.mem_cons_self))
      (pcx_mono cls skip (id :: skip) st1 (fun j hj => List.mem_cons_of_mem _ hj) (ih1 hp)))
    have hget : st2.get? id = some (e.setSide s { e.side s with path := some path }) :=
      (m2.frame (fun f hf => (hW f hf).id) List.mem_cons_self).trans
        (withE_get?_same st1 id _ e he (fun e => setSide_id e s _))
    intro x hx
    rcases mem_withE_ents st2 id _ (fun e => setPriorityA_id _ e _) x hx with ⟨hx, hxid⟩ | ⟨e2, he2, rfl⟩
    · exact (h2 x hx).imp_left fun hm => (List.mem_cons.1 hm).resolve_left (hxid (by rw [hget]; rfl))
    · rw [hget] at he2
      cases he2
      exact Or.inr (tracks_setPriorityA cls _ _ _ (tracksAt_cls (by simp) hne))

/-- `changePath` never touches an entry whose own move is in progress -/
theorem changePath_frame (cls : Cls) (oip : Bool × Bool) (fuel : Nat) :
    ∀ (moving : List Nat) (st : St) (id : Nat) (s : Bool) (path : String) (j : Nat), j ∈ moving → id ∉ moving →
      (changePath cls oip fuel moving st id s path).get? j = st.get? j :=
  fun moving st id s path _ hj hid =>
    (changePath_moves folderWrites_id oip fuel moving moving st id s path (fun _ h => h) hid
      (fun _ e => setSide_id e s _)).frame (fun _ h => h) hj

/-- **a path change keeps PriorityCurrent, for every folder tree**: entries whose own move is in progress (`moving`) are exempt
    on the way in and on the way out; the entry whose path is written tracks again when the function returns, and so does every
    descendant carried along, at any depth -/
theorem changePath_pcx (cls : Cls) (oip : Bool × Bool) (fuel : Nat) :
    ∀ (moving : List Nat) (st : St) (id : Nat) (s : Bool) (path : String), id ∉ moving → path ≠ "" →
      PCx cls moving st → PCx cls moving (changePath cls oip fuel moving st id s path) :=
  fun moving st id s path hid hne =>
    (changePath_moves (folderWrites_trp cls) oip fuel moving moving st id s path (fun _ h => h) hid
      (fun h => absurd h hne)).pcx (fun _ h => h)

end CS.Sched
