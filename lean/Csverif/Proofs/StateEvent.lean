import Csverif.Proofs.StateItem
/-
C11: raw events, `update` (state.py:1142-1195), including the merge-copy branch `ent[1-side] = _copy`.
-/
namespace CS.State

theorem frame_ignoredState (st : St) (e : Nat) (v : Ign) : Frame none st (ignoredState st e v) := by
  have hent : ∀ (st1 : St), Frame none st1 ((st1.dirtyAdd e).modEnt e (fun x => { x with ignored := v })) := by
    intro st1
    refine Frame.of_sides (by simp) (fun i s => ?_)
    have : ((st1.dirtyAdd e).modEnt e (fun x => { x with ignored := v })).side i s = st1.side i s :=
      side_modEnt (st1.dirtyAdd e) e i _ (fun _ s => by cases s <;> rfl) s
    rw [this]; exact ⟨rfl, rfl⟩
  unfold ignoredState
  split
  · exact Frame.refl _ _
  · simp only
    split
    · refine Frame.trans ?_ (hent _)
      exact ((chgRel_setChanged e .L .fls st).trans (chgRel_setChanged e .R .fls _)).trans (chgRel_csDiscard e _) |>.frame
    · exact hent _

/-- ("choose, guarded") what `update` carries while it chooses the entry: the invariant, and the guard of the merge-copy branch, which
    replaces the prior entry's other side -/
def CG (cfg : Cfg) (s : Sd) (L : Nat) (pe? : Option Nat) (st : St) : Prop := InvL L st ∧ ∀ pe, pe? = some pe → SetOk cfg st pe s.other

theorem CG.ignored {cfg s L pe? st} (h : CG cfg s L pe? st) (e : Nat) (v : Ign) : CG cfg s L pe? (ignoredState st e v) :=
  ⟨ignoredState_inv st e v L h.1, fun pe hp => (h.2 pe hp).frame (frame_ignoredState st e v)⟩

theorem unignoreAll_tr (cfg : Cfg) (s : Sd) (L : Nat) (pe? : Option Nat) : ∀ (l : List Nat) (acc : Option Nat),
    (∀ i ∈ l, i < L) → (∀ i, acc = some i → i < L) →
    Tr (CG cfg s L pe?) (unignoreAll l acc) (fun r st' => CG cfg s L pe? st' ∧ ∀ i, r = some i → i < L) Inv
  | [], acc, _, hacc => Tr.pure (fun _ h => ⟨h, hacc⟩)
  | i :: t, acc, hl, _ => by
    unfold unignoreAll
    refine Tr.getSt_bind' fun _ => Tr.seq (Tr.assert (fun st h _ => h.1.1) (fun st h _ => h)) <|
      Tr.seq (J := CG cfg s L pe?) (Tr.modify (fun st h => h.ignored i .none)) ?_
    exact unignoreAll_tr cfg s L pe? t (some i) (fun j hj => hl j (List.mem_cons_of_mem _ hj))
      (fun j hj => by cases hj; exact hl i (List.mem_cons_self ..))

theorem lookupPath_lt {st : St} (hi : Inv st) (s : Sd) (p : Option Path.Str) (stale : Bool) :
    ∀ i ∈ st.lookupPath s p stale, i < st.ents.length := by
  intro i hm
  unfold St.lookupPath at hm
  cases hb : AL.get (st.paths s) p with
  | none => rw [hb] at hm; cases hm
  | some b =>
    rw [hb] at hm
    have hm' := (List.mem_filter.1 hm).1
    obtain ⟨x, hx, rfl⟩ := List.mem_map.1 hm'
    exact (hi.1.pathKey s p b hb).2.2 x hx

-- the case tree follows the model's `if`s; every leaf but one returns an entry that exists already, the one that writes is the merge copy
-- (`setItem_trG`, under the guard that `CG` carries)
theorem mergePrior_tr (cfg : Cfg) (fuel : Nat) (s : Sd) (a : UArgs) (ent priorEnt : Option Nat) (L : Nat)
    (hent : ∀ i, ent = some i → i < L) (hpe : ∀ i, priorEnt = some i → i < L) :
    Tr (CG cfg s L priorEnt) (mergePrior cfg fuel s a ent priorEnt)
      (fun r st' => InvL L st' ∧ ∀ i, r = some i → i < L) Inv := by
  unfold mergePrior
  apply Tr.getSt_fix
  intro st1 hcg
  have hkeep : ∀ r : Option Nat, (∀ i, r = some i → i < L) →
      Tr (fun st => st = st1) (Pure.pure r : M (Option Nat)) (fun r st' => InvL L st' ∧ ∀ i, r = some i → i < L) Inv :=
    fun r hr => Tr.pure (fun st h => ⟨h ▸ hcg.1, hr⟩)
  have hun : Tr (fun st => st = st1) (unignoreAll (st1.lookupPath s a.path true) none)
      (fun r st' => InvL L st' ∧ ∀ i, r = some i → i < L) Inv :=
    (unignoreAll_tr cfg s L priorEnt _ none (fun i hi => hcg.1.2.1 ▸ lookupPath_lt hcg.1.1 s a.path true i hi) nofun).conseq
      (fun _ h => h ▸ hcg) (fun _ _ h => ⟨h.1.1, h.2⟩) (fun _ h => h)
  cases priorEnt with
  | none =>
    cases ent with
    | none => exact hun
    | some en => exact hkeep _ hent
  | some pe =>
    have hpel : pe < L := hpe pe rfl
    have hsome : ∀ i, some pe = some i → i < L := fun i hi => by cases hi; exact hpel
    by_cases hd : (st1.ent pe).isDiscarded = true
    · simp only [hd, Bool.not_true, Bool.false_eq_true, if_false]
      cases ent with
      | none => exact hun
      | some en => exact hkeep _ hent
    · simp only [hd, Bool.not_false, if_true]
      cases ent with
      | none =>
        simp only [if_true]
        exact Tr.seq (Tr.pure (fun st h => h)) (hkeep _ hsome)
      | some en =>
        simp only
        split
        · refine Tr.seq (J := InvL L) ?_ (Tr.pure (fun st h => ⟨h, hsome⟩))
          have hpre : ∀ st, st = st1 → InvL L st ∧ SetOk cfg st pe s.other := fun _ h => h ▸ ⟨hcg.1, hcg.2 pe rfl⟩
          by_cases ht : truthyS (st1.side en s.other).oid = true
          · simp only [ht, if_true]
            -- `ent[1-side] = _copy`: the other side of the found entry replaces the (id-less) other side of the prior entry
            exact Tr.when (fun _ => (setItem_trG cfg fuel pe s.other en s.other L hpel (hent en rfl)).pre hpre) (fun _ _ h => (hpre _ h).1)
          · simp only [ht, Bool.false_eq_true, if_false]
            exact Tr.pure (fun _ h => (hpre _ h).1)
        · exact hkeep _ hent

theorem reusePrior_tr (cfg : Cfg) (s : Sd) (ent : Option Nat) (pe : Nat) (L : Nat) (pe? : Option Nat) (hent : ∀ i, ent = some i → i < L) (hpe : pe < L) :
    Tr (CG cfg s L pe?) (reusePrior s ent pe) (fun r st' => CG cfg s L pe? st' ∧ (∀ i, r = some i → i < L)) Inv := by
  unfold reusePrior
  refine Tr.getSt_bind' fun _ => ?_
  split
  · exact Tr.seq (Tr.modify (fun st h => h.ignored pe .none)) (Tr.pure (fun st h => ⟨h, fun i hi => by cases hi; exact hpe⟩))
  · exact Tr.pure (fun st h => ⟨h, hent⟩)

/-- the guard of `update`: if the event names a prior id whose entry exists, the other side of that entry may be replaced by the
    merge-copy branch.  It is stated on the state in which `update` starts; `CG` carries it through `ignoredState` (the reuse and
    un-ignore steps before the replacement), which keeps the fields `SetOk` reads (`frame_ignoredState`). -/
def UpdGuard (cfg : Cfg) (st : St) (s : Sd) (prior : Oid) : Prop := ∀ pe, st.lookupOid s prior = some pe → SetOk cfg st pe s.other

/-- state.py:1146-1192 -/
theorem chooseEntry_tr (cfg : Cfg) (fuel : Nat) (s : Sd) (ot : OType) (a : UArgs) (prior : Oid) (L : Nat) :
    Tr (fun st => InvL L st ∧ UpdGuard cfg st s prior) (chooseEntry cfg fuel s ot a prior)
      (fun e st' => ∃ L', InvL L' st' ∧ e < L') Inv := by
  unfold chooseEntry
  apply Tr.getSt_fix
  rintro st0 ⟨hil0, hug⟩
  have hlk : ∀ k i, st0.lookupOid s k = some i → i < L := fun k i h => hil0.2.1 ▸ hil0.1.1.bnd s k i h
  have hcg0 : ∀ st, st = st0 → CG cfg s L (st0.lookupOid s prior) st := fun st h => by subst h; exact ⟨hil0, hug⟩
  simp only
  refine Tr.bind (R := fun r st' => InvL L st' ∧ ∀ i, r = some i → i < L) ?_ (fun ent => ?_)
  · split
    · cases hp : st0.lookupOid s prior with
      | none =>
        simp only
        refine Tr.bind (R := fun r st' => CG cfg s L none st' ∧ r = st0.lookupOid s a.oid) (Tr.pure (fun st h => ⟨hp ▸ hcg0 st h, rfl⟩))
          (fun ent1 => ?_)
        apply Tr.with_pre (φ := ent1 = st0.lookupOid s a.oid) (fun st h => h.2)
        rintro rfl
        exact (mergePrior_tr cfg fuel s a _ none L (hlk _) nofun).pre (fun st h => h.1)
      | some pe =>
        simp only
        have hpel : pe < L := hlk _ pe hp
        refine Tr.bind ((reusePrior_tr cfg s (st0.lookupOid s a.oid) pe L (some pe) (hlk _) hpel).pre (fun st h => hp ▸ hcg0 st h))
          (fun ent1 => ?_)
        apply Tr.with_pre (φ := ∀ i, ent1 = some i → i < L) (fun st h => h.2)
        intro hb1
        exact (mergePrior_tr cfg fuel s a ent1 (some pe) L hb1 (fun i hi => by cases hi; exact hpel)).pre (fun st h => h.1)
    · exact Tr.pure (fun st h => ⟨h ▸ hil0, hlk _⟩)
  · cases ent with
    | some e => exact Tr.pure (fun st h => ⟨L, h.1, h.2 e rfl⟩)
    | none => exact (newEntry_tr ot L Inv).conseq (fun _ h => h.1) (fun _ _ h => ⟨L + 1, h.2.1, h.1 ▸ Nat.lt_succ_self L⟩) (fun _ h => h)

/-- state.py:1142-1195 `update` -/
theorem update_tr (cfg : Cfg) (fuel : Nat) (s : Sd) (ot : OType) (a : UArgs) (prior : Oid) (L : Nat) :
    Tr (fun st => InvL L st ∧ UpdGuard cfg st s prior) (update cfg fuel s ot a prior) (fun _ st' => Inv st') Inv := by
  unfold update
  refine Tr.bind (chooseEntry_tr cfg fuel s ot a prior L) (fun e => ?_)
  apply Tr.exists_pre; intro L'
  apply Tr.with_pre (φ := e < L') (fun st h => h.2)
  intro hlt
  exact Tr.getSt_bind' fun _ => (updateEntry_tr cfg fuel e s _ L' hlt).pre (fun st h => h.1)

end CS.State
