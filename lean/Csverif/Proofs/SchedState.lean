import Csverif.Proofs.Sched
/-
Helper lemmas for C17, state level (Model/Sched.lean).  The entry-level functions of the model are sequences of hooked
writes to one side (`Wr`); what such a sequence leaves alone (`SideWrite`) and that it keeps the changeset-membership
invariant of its entry (`EInv`) are proved once, by induction over the sequence.
-/
namespace CS.Sched

/-- the fields are those the fill-in loop and the priority hooks look at, except the change stamp -/
def SameBut (a b : Side) : Prop :=
  b.oid = a.oid ∧ b.path = a.path ∧ b.syncPath = a.syncPath ∧ b.ex = a.ex ∧ b.lastGotten = a.lastGotten

theorem SameBut.refl (a : Side) : SameBut a a := ⟨rfl, rfl, rfl, rfl, rfl⟩

section
variable {a b : Side} (h : SameBut a b)
include h
theorem SameBut.oid : b.oid = a.oid := h.1
theorem SameBut.path : b.path = a.path := h.2.1
theorem SameBut.syncPath : b.syncPath = a.syncPath := h.2.2.1
theorem SameBut.ex : b.ex = a.ex := h.2.2.2.1
theorem SameBut.lastGotten : b.lastGotten = a.lastGotten := h.2.2.2.2
end

theorem SameBut.trans {a b c : Side} (h1 : SameBut a b) (h2 : SameBut b c) : SameBut a c :=
  ⟨h2.oid.trans h1.oid, h2.path.trans h1.path, h2.syncPath.trans h1.syncPath, h2.ex.trans h1.ex,
   h2.lastGotten.trans h1.lastGotten⟩

theorem sameBut_changed (a : Side) (v : Option Rat) : SameBut a { a with changed := v } := ⟨rfl, rfl, rfl, rfl, rfl⟩

structure StampsOnly (e e' : Entry) : Prop where
  id : e'.id = e.id
  side : ∀ t, SameBut (e.side t) (e'.side t)

theorem StampsOnly.refl (e : Entry) : StampsOnly e e := ⟨rfl, fun _ => SameBut.refl _⟩

theorem StampsOnly.trans {a b c : Entry} (h1 : StampsOnly a b) (h2 : StampsOnly b c) : StampsOnly a c :=
  ⟨h2.id.trans h1.id, fun t => (h1.side t).trans (h2.side t)⟩

theorem setChangedA_stampsOnly (e : Entry) (s : Bool) (v : Option Rat) : StampsOnly e (setChangedA e s v).1 := by
  refine ⟨setChangedA_id e s v, fun t => ?_⟩
  rcases Bool.eq_or_eq_not t s with rfl | rfl
  · rw [setChangedA_self]; exact sameBut_changed _ _
  · rcases setChangedA_other e s v with h | ⟨_, _, _, h⟩ <;> rw [h]
    · exact SameBut.refl _
    · exact sameBut_changed _ _

theorem bumpA_stampsOnly (p : Rat × Rat) (x : Entry × Acts) (s : Bool) : StampsOnly x.1 (bumpA p x s).1 := by
  simp only [bumpA]
  split
  · exact setChangedA_stampsOnly _ _ _
  · exact StampsOnly.refl _

theorem priority_stampsOnly (e : Entry) (v : Rat) : StampsOnly e { e with priority := v } :=
  ⟨rfl, fun t => by cases t <;> exact SameBut.refl _⟩

theorem setPriorityA_stampsOnly (p : Rat × Rat) (e : Entry) (v : Rat) : StampsOnly e (setPriorityA p e v).1 := by
  rw [setPriorityA_eq]
  refine StampsOnly.trans ?_ (priority_stampsOnly _ _)
  split
  · exact (bumpA_stampsOnly p (e, []) false).trans (bumpA_stampsOnly p _ true)
  · exact StampsOnly.refl _

structure SideWrite (s : Bool) (e e' : Entry) : Prop where
  id : e'.id = e.id
  other : SameBut (e.side (!s)) (e'.side (!s))
  oid : (e'.side s).oid = (e.side s).oid
  syncPath : (e'.side s).syncPath = (e.side s).syncPath

theorem SideWrite.refl (s : Bool) (e : Entry) : SideWrite s e e := ⟨rfl, SameBut.refl _, rfl, rfl⟩

theorem SideWrite.trans {s : Bool} {a b c : Entry} (h1 : SideWrite s a b) (h2 : SideWrite s b c) : SideWrite s a c :=
  ⟨h2.id.trans h1.id, h1.other.trans h2.other, h2.oid.trans h1.oid, h2.syncPath.trans h1.syncPath⟩

theorem StampsOnly.sideWrite {e e' : Entry} (h : StampsOnly e e') (s : Bool) : SideWrite s e e' :=
  ⟨h.id, h.side _, (h.side s).oid, (h.side s).syncPath⟩

theorem sideWrite_setSide (e : Entry) (s : Bool) (x : Side) (ho : x.oid = (e.side s).oid)
    (hs : x.syncPath = (e.side s).syncPath) : SideWrite s e (e.setSide s x) := by
  refine ⟨setSide_id e s x, ?_, ?_, ?_⟩
  · rw [side_setSide_not]; exact SameBut.refl _
  · rw [side_setSide_same]; exact ho
  · rw [side_setSide_same]; exact hs

theorem setPathA_sideWrite (p : Rat × Rat) (e : Entry) (s : Bool) (path : String) (prio : Rat) :
    SideWrite s e (setPathA p e s path prio).1 := by
  have h1 : SideWrite s e (e.setSide s { e.side s with path := some path }) := sideWrite_setSide e s _ rfl rfl
  simp only [setPathA]
  split
  · exact SideWrite.refl _ _
  · split
    · exact h1
    · exact h1.trans ((setPriorityA_stampsOnly p _ prio).sideWrite s)

@[simp] theorem seqA_fst (x : Entry × Acts) (f : Entry → Entry × Acts) : (seqA x f).1 = (f x.1).1 := rfl
@[simp] theorem seqA_snd (x : Entry × Acts) (f : Entry → Entry × Acts) : (seqA x f).2 = x.2 ++ (f x.1).2 := rfl

def hasIdChange (e : Entry) : Bool :=
  (truthy e.l.changed && truthyS e.l.oid) || (truthy e.r.changed && truthyS e.r.oid)

def anyChange (e : Entry) : Bool := truthy e.l.changed || truthy e.r.changed

/-- `m`: the entry is in the changeset.  An entry whose only change sits on an id-less side may be in or out. -/
def EInv (e : Entry) (m : Bool) : Prop := (hasIdChange e = true → m = true) ∧ (m = true → anyChange e = true)

theorem hasIdChange_sides (e : Entry) :
    hasIdChange e = true ↔ ∃ t, truthy (e.side t).changed = true ∧ truthyS (e.side t).oid = true := by
  simp [hasIdChange, Entry.side]

theorem anyChange_sides (e : Entry) : anyChange e = true ↔ ∃ t, truthy (e.side t).changed = true := by
  simp [anyChange, Entry.side]

theorem anyChange_of_hasIdChange {e : Entry} (h : hasIdChange e = true) : anyChange e = true :=
  (anyChange_sides e).2 (((hasIdChange_sides e).1 h).imp fun _ => And.left)

theorem EInv_congr {e e' : Entry} {m : Bool}
    (h : ∀ t, (e'.side t).changed = (e.side t).changed ∧ (e'.side t).oid = (e.side t).oid) (hi : EInv e m) :
    EInv e' m := by
  have h1 : hasIdChange e' = true ↔ hasIdChange e = true := by
    simp only [hasIdChange_sides, h]
  have h2 : anyChange e' = true ↔ anyChange e = true := by
    simp only [anyChange_sides, h]
  exact ⟨fun h' => hi.1 (h1.1 h'), fun h' => h2.2 (hi.2 h')⟩

theorem setSide_keep (e : Entry) (s : Bool) (x : Side) (hc : x.changed = (e.side s).changed)
    (ho : x.oid = (e.side s).oid) (t : Bool) :
    ((e.setSide s x).side t).changed = (e.side t).changed ∧ ((e.setSide s x).side t).oid = (e.side t).oid :=
  ⟨side_setSide_congr (·.changed) e s x hc t, side_setSide_congr (·.oid) e s x ho t⟩

/-- whatever the membership `m` was, the membership the hooks leave behind (`lastAct .. m`) is consistent with the written entry -/
def Pres (f : Entry → Entry × Acts) : Prop :=
  ∀ e, (f e).1.id = e.id ∧ ∀ m, EInv e m → EInv (f e).1 (lastAct (f e).2 m)

theorem Pres.id {f : Entry → Entry × Acts} (h : Pres f) (e : Entry) : (f e).1.id = e.id := (h e).1

theorem Pres.einv {f : Entry → Entry × Acts} (h : Pres f) {e : Entry} {m : Bool} (he : EInv e m) :
    EInv (f e).1 (lastAct (f e).2 m) := (h e).2 m he

theorem setChangedA_einv (e : Entry) (s : Bool) (v : Option Rat) : EInv (setChangedA e s v).1 (hookKeep e s v) := by
  have hself := setChangedA_self e s v
  have hoth := setChangedA_other e s v
  simp only [EInv, hasIdChange_sides, anyChange_sides, hookKeep, Bool.or_eq_true, Bool.and_eq_true]
  constructor
  · rintro ⟨t, ht⟩
    rcases Bool.eq_or_eq_not t s with rfl | rfl
    · rw [hself] at ht; exact Or.inl ht
    · rcases hoth with h | ⟨_, _, _, h⟩ <;> rw [h] at ht
      · exact Or.inr ht
      · exact absurd ht.1 (by simp [truthy])
  · rintro (h | h)
    · exact ⟨s, by rw [hself]; exact h.1⟩
    · rcases hoth with h' | ⟨_, _, hn, _⟩
      · exact ⟨!s, by rw [h']; exact h.1⟩
      · rw [h.2] at hn; exact absurd hn (by simp)

theorem einv_seq (x : Entry × Acts) (g : Entry → Entry × Acts) (hg : Pres g) (m : Bool)
    (h : EInv x.1 (lastAct x.2 m)) : EInv (seqA x g).1 (lastAct (seqA x g).2 m) := by
  simp only [seqA_fst, seqA_snd, lastAct_append]
  exact hg.einv h

theorem pres_setChangedA (s : Bool) (v : Option Rat) : Pres (fun e => setChangedA e s v) :=
  fun e => ⟨setChangedA_id e s v, fun _ _ => setChangedA_einv e s v⟩

theorem pres_seq {f g : Entry → Entry × Acts} (hf : Pres f) (hg : Pres g) : Pres (fun e => seqA (f e) g) :=
  fun e => ⟨(hg.id _).trans (hf.id e), fun m hm => einv_seq _ g hg m (hf.einv hm)⟩

theorem pres_sideField (s : Bool) (g : Side → Side) (hc : ∀ x, (g x).changed = x.changed) (ho : ∀ x, (g x).oid = x.oid) :
    Pres (fun e : Entry => (e.setSide s (g (e.side s)), ([] : Acts))) :=
  fun e => ⟨setSide_id e s _, fun _ hm => EInv_congr (setSide_keep e s _ (hc _) (ho _)) hm⟩

theorem bumpA_einv (p : Rat × Rat) (x : Entry × Acts) (s : Bool) (m : Bool) (h : EInv x.1 (lastAct x.2 m)) :
    EInv (bumpA p x s).1 (lastAct (bumpA p x s).2 m) := by
  simp only [bumpA]
  split
  · exact einv_seq x _ (pres_setChangedA s _) m h
  · exact h

theorem pres_setPriorityA (p : Rat × Rat) (v : Rat) : Pres (fun e => setPriorityA p e v) := by
  refine fun e => ⟨setPriorityA_id p e v, fun m hm => ?_⟩
  show EInv (setPriorityA p e v).1 (lastAct (setPriorityA p e v).2 m)
  have hp : ∀ x : Entry × Acts, EInv x.1 (lastAct x.2 m) → EInv { x.1 with priority := v } (lastAct x.2 m) :=
    fun x => EInv_congr (fun t => by cases t <;> exact ⟨rfl, rfl⟩)
  rw [setPriorityA_eq]
  apply hp
  split
  · exact bumpA_einv p _ true m (bumpA_einv p (e, []) false m hm)
  · exact hm

@[simp] theorem setOidA_id (e : Entry) (s : Bool) (oid : String) : (setOidA e s oid).1.id = e.id :=
  setSide_id e s _

theorem pres_setOidA (s : Bool) (oid : String) : Pres (fun e => setOidA e s oid) := by
  refine fun e => ⟨setOidA_id e s oid, fun m hm => ?_⟩
  have hany : anyChange (setOidA e s oid).1 = anyChange e := by cases s <;> rfl
  have hc : (truthy (e.side s).changed || truthy (e.side (!s)).changed) = anyChange e := by
    cases s <;> simp [anyChange, Entry.side, Bool.or_comm]
  simp only [setOidA, hc] at hany ⊢
  cases h : anyChange e
  · exact ⟨fun h' => absurd (hany ▸ anyChange_of_hasIdChange h') (by simp [h]), fun hm' => absurd (hm.2 hm') (by simp [h])⟩
  · exact ⟨fun _ => rfl, fun _ => hany.trans h⟩

theorem pres_setPathA (p : Rat × Rat) (s : Bool) (path : String) (prio : Rat) :
    Pres (fun e => setPathA p e s path prio) := by
  have hg := pres_sideField s (fun x => { x with path := some path }) (fun _ => rfl) (fun _ => rfl)
  intro e
  simp only [setPathA]
  split
  · exact ⟨rfl, fun _ h => h⟩
  · split
    · exact hg e
    · exact pres_seq hg (pres_setPriorityA p prio) e

@[simp] theorem setPathA_id (p : Rat × Rat) (e : Entry) (s : Bool) (path : String) (prio : Rat) :
    (setPathA p e s path prio).1.id = e.id := (setPathA_sideWrite p e s path prio).id

/-- `b` differs from `a` at most in `exists`, `_last_gotten`, `otype` -/
structure Inert (a b : Side) : Prop where
  changed : b.changed = a.changed
  oid : b.oid = a.oid
  path : b.path = a.path
  syncPath : b.syncPath = a.syncPath

/-- `x`, `y`: an entry and the changeset actions issued so far.  Only a path write can break the tie between priority and
    path, so only it carries a condition `ok`: `Wr.tracks` asks `ok pth q → pth ≠ "" ∧ q = cls s pth`, `Wr.einv` asks nothing. -/
inductive Wr (ok : String → Rat → Prop) (s : Bool) (x : Entry × Acts) : Entry × Acts → Prop
  | refl : Wr ok s x x
  | field {y} (sd : Side) (h : Inert (y.1.side s) sd) : Wr ok s x y → Wr ok s x (y.1.setSide s sd, y.2)
  | changed {y} (v : Option Rat) : Wr ok s x y → Wr ok s x (seqA y (fun e => setChangedA e s v))
  | path {y} (p : Rat × Rat) (pth : String) (q : Rat) (h : ok pth q) :
      Wr ok s x y → Wr ok s x (seqA y (fun e => setPathA p e s pth q))

section
variable {ok : String → Rat → Prop} {s : Bool} {x y : Entry × Acts}

theorem Wr.ex (c : Ex) (h : Wr ok s x y) : Wr ok s x (y.1.setSide s { y.1.side s with ex := c }, y.2) :=
  h.field _ ⟨rfl, rfl, rfl, rfl⟩

theorem Wr.lastGotten (c : Rat) (h : Wr ok s x y) :
    Wr ok s x (y.1.setSide s { y.1.side s with lastGotten := c }, y.2) :=
  h.field _ ⟨rfl, rfl, rfl, rfl⟩

theorem Wr.seq {f : Entry → Entry × Acts} (h : Wr ok s x y) (hf : Wr ok s (y.1, []) (f y.1)) :
    Wr ok s x (seqA y f) := by
  show Wr ok s x ((f y.1).1, y.2 ++ (f y.1).2)
  generalize f y.1 = z at hf ⊢
  induction hf with
  | refl => rw [List.append_nil]; exact h
  | @field z sd hg _ ih => exact Wr.field (y := (z.1, y.2 ++ z.2)) sd hg ih
  | changed v _ ih => rw [seqA_snd, ← List.append_assoc]; exact ih.changed v
  | path p pth q hq _ ih => rw [seqA_snd, ← List.append_assoc]; exact ih.path p pth q hq

theorem Wr.sideWrite (h : Wr ok s x y) : SideWrite s x.1 y.1 := by
  induction h with
  | refl => exact SideWrite.refl _ _
  | field sd hg _ ih => exact ih.trans (sideWrite_setSide _ s _ hg.oid hg.syncPath)
  | changed v _ ih => exact ih.trans ((setChangedA_stampsOnly _ s v).sideWrite s)
  | path p pth q _ _ ih => exact ih.trans (setPathA_sideWrite p _ s pth q)

theorem Wr.einv (h : Wr ok s x y) (m : Bool) (hx : EInv x.1 (lastAct x.2 m)) : EInv y.1 (lastAct y.2 m) := by
  induction h with
  | refl => exact hx
  | field sd hg _ ih => exact EInv_congr (setSide_keep _ s _ hg.changed hg.oid) ih
  | changed v _ ih => exact einv_seq _ _ (pres_setChangedA s v) m ih
  | path p pth q _ _ ih => exact einv_seq _ _ (pres_setPathA p s pth q) m ih

theorem pres_of_wr {f : Entry → Entry × Acts} (h : ∀ e, Wr ok s (e, []) (f e)) : Pres f :=
  fun e => ⟨(h e).sideWrite.id, (h e).einv⟩

theorem markA_wr (last now : Rat) (e : Entry) (s : Bool) : Wr ok s (e, []) (markA last now e s) := by
  have h : Wr ok s (e, []) (setChangedA e s (some now)) := Wr.refl.changed _
  simp only [markA]
  split
  · exact h.changed _
  · exact h

end

theorem getLatestA_wr (p : Rat × Rat) (now : Rat) (ans : Option (String × Rat)) (e : Entry) (s : Bool) :
    Wr (fun pth q => ans = some (pth, q)) s (e, []) (getLatestA p now ans e s) := by
  unfold getLatestA
  dsimp only
  by_cases hc : orZero (e.side s).changed > (e.side s).lastGotten
  · rw [if_pos hc]
    refine Wr.lastGotten _ ?_
    by_cases ho : ((e.side s).oid == none) = true
    · rw [if_pos ho]; exact Wr.refl.ex _
    · rw [if_neg ho]
      cases ans with
      | none => exact Wr.refl.ex _
      | some a =>
        have h1 : Wr (fun pth q => some a = some (pth, q)) s (e, []) _ := Wr.refl.ex .exists
        dsimp only
        split
        · exact h1
        · have h2 := h1.path p _ _ rfl
          split
          · exact h2
          · exact h2.changed _
  · rw [if_neg hc]; exact Wr.refl

theorem fillSideA_wr (p : Rat × Rat) (now : Rat) (ans : Option (String × Rat)) (e : Entry) (s : Bool) :
    Wr (fun pth q => ans = some (pth, q)) s (e, []) (fillSideA p now ans e s) := by
  simp only [fillSideA]
  split
  · exact getLatestA_wr p now ans e s
  · exact Wr.refl

/-- `update_entry` writes the id, then the path, `exists` and the change stamp, in that order -/
theorem updateA_wr (p : Rat × Rat) (last now : Rat) (e : Entry) (s : Bool) (oid : String) (path : Option String)
    (prio : Rat) :
    Wr (fun pth q => path = some pth ∧ q = prio) s (setOidA e s oid) (updateA p last now e s oid path prio) := by
  have h2 : Wr (fun pth q => path = some pth ∧ q = prio) s (setOidA e s oid) (match path with
      | some pth => seqA (setOidA e s oid) (fun e => setPathA p e s pth prio)
      | none => setOidA e s oid) := by
    cases path with
    | none => exact Wr.refl
    | some pth => exact Wr.refl.path p pth prio ⟨rfl, rfl⟩
  simp only [updateA]
  split
  · exact (h2.ex _).seq (f := fun e => markA last now e s) (markA_wr _ _ _ _)
  · exact h2.ex _

theorem pres_markA (last now : Rat) (s : Bool) : Pres (fun e => markA last now e s) :=
  pres_of_wr (ok := fun _ _ => True) (markA_wr last now · s)

theorem pres_updateA (p : Rat × Rat) (last now : Rat) (s : Bool) (oid : String) (path : Option String) (prio : Rat) :
    Pres (fun e => updateA p last now e s oid path prio) := fun e =>
  have h := updateA_wr p last now e s oid path prio
  ⟨h.sideWrite.id.trans (setOidA_id e s oid), fun m hm => h.einv m ((pres_setOidA s oid).einv hm)⟩

theorem pres_fillEntryA (p : Rat × Rat) (now : Rat) (aL aR : Option (String × Rat)) :
    Pres (fun e => fillEntryA p now aL aR e) :=
  pres_seq (pres_of_wr (fillSideA_wr p now aL · false)) (pres_of_wr (fillSideA_wr p now aR · true))

@[simp] theorem updateA_id (p : Rat × Rat) (last now : Rat) (e : Entry) (s : Bool) (oid : String)
    (path : Option String) (prio : Rat) : (updateA p last now e s oid path prio).1.id = e.id :=
  (pres_updateA p last now s oid path prio).id e

@[simp] theorem fillEntryA_id (p : Rat × Rat) (now : Rat) (aL aR : Option (String × Rat)) (e : Entry) :
    (fillEntryA p now aL aR e).1.id = e.id := (pres_fillEntryA p now aL aR).id e

/-- the guard of the fill-in loop at the head of `SyncState.change` is false for this side: it has a path, or `exists` is neither EXISTS nor UNKNOWN -/
def Side.settled (sd : Side) : Bool := truthyS sd.path || !sd.ex.fillable

theorem settled_sameBut {a b : Side} (h : SameBut a b) : b.settled = a.settled := by
  simp only [Side.settled, h.path, h.ex]

theorem fillSideA_settled (p : Rat × Rat) (now : Rat) (ans : Option (String × Rat)) (e : Entry) (s : Bool)
    (h : (e.side s).settled = true) : fillSideA p now ans e s = (e, []) := by
  have hc : (!truthyS (e.side s).path && (e.side s).ex.fillable) = false := by
    cases hp : truthyS (e.side s).path <;> cases hf : (e.side s).ex.fillable <;> simp [Side.settled, hp, hf] at h ⊢
  simp only [fillSideA, hc, Bool.false_eq_true, if_false]

/-- what the fill-in may do to an entry: ids and synced paths stay; a side for which the guard is
    false keeps everything but (possibly) its stamp; an entry with two such sides is untouched -/
structure FillRel (e e' : Entry) : Prop where
  id : e'.id = e.id
  oid : ∀ t, (e'.side t).oid = (e.side t).oid ∧ (e'.side t).syncPath = (e.side t).syncPath
  kept : ∀ t, (e.side t).settled = true → SameBut (e.side t) (e'.side t)
  same : e.l.settled = true → e.r.settled = true → e' = e

theorem FillRel.refl (e : Entry) : FillRel e e :=
  ⟨rfl, fun _ => ⟨rfl, rfl⟩, fun _ _ => SameBut.refl _, fun _ _ => rfl⟩

theorem FillRel.trans {a b c : Entry} (h1 : FillRel a b) (h2 : FillRel b c) : FillRel a c where
  id := h2.id.trans h1.id
  oid := fun t => ⟨(h2.oid t).1.trans (h1.oid t).1, (h2.oid t).2.trans (h1.oid t).2⟩
  kept := fun t ht => (h1.kept t ht).trans (h2.kept t (by rw [settled_sameBut (h1.kept t ht)]; exact ht))
  same := fun hl hr => by
    have hb := h1.same hl hr
    subst hb
    exact h2.same hl hr

theorem fillEntryA_fillRel (p : Rat × Rat) (now : Rat) (aL aR : Option (String × Rat)) (e : Entry) :
    FillRel e (fillEntryA p now aL aR e).1 := by
  have w1 : SideWrite false e _ := (fillSideA_wr p now aL e false).sideWrite
  have w2 : SideWrite true _ (fillEntryA p now aL aR e).1 :=
    (fillSideA_wr p now aR (fillSideA p now aL e false).1 true).sideWrite
  -- a settled remote side is still settled after the local fill
  have hr : (e.side true).settled = true → (fillEntryA p now aL aR e).1 = (fillSideA p now aL e false).1 := fun ht => by
    simp only [fillEntryA, seqA_fst]
    rw [fillSideA_settled p now aR _ true ((settled_sameBut w1.other).trans ht)]
  refine ⟨w2.id.trans w1.id, fun t => ?_, fun t ht => ?_, fun hl hr' => ?_⟩
  · cases t
    · exact ⟨w2.other.oid.trans w1.oid, w2.other.syncPath.trans w1.syncPath⟩
    · exact ⟨w2.oid.trans w1.other.oid, w2.syncPath.trans w1.other.syncPath⟩
  · cases t
    · rw [fillSideA_settled p now aL e false ht] at w2
      exact w2.other
    · rw [hr ht]; exact w1.other
  · rw [hr hr', fillSideA_settled p now aL e false hl]

structure Inv (st : St) : Prop where
  /-- new entries get the number of entries as their id -/
  ids : ∀ e ∈ st.ents, e.id < st.ents.length
  pend : ∀ j ∈ st.pending, (st.get? j).isSome = true
  mem : ∀ j e, st.get? j = some e → EInv e (decide (j ∈ st.pending))

theorem decide_mem_act (st : St) (id j : Nat) (a : Acts) :
    decide (j ∈ (st.act id a).pending) =
      if j = id then lastAct a (decide (id ∈ st.pending)) else decide (j ∈ st.pending) := by
  rw [Bool.eq_iff_iff, decide_eq_true_eq, mem_act]
  split <;> simp

theorem inv_map {st st' : St} (g : Entry → Entry) (hg : ∀ e, (g e).id = e.id) (hents : st'.ents = st.ents.map g)
    (hpend : ∀ j ∈ st'.pending, (st.get? j).isSome = true)
    (hmem : ∀ j e, st.get? j = some e → EInv (g e) (decide (j ∈ st'.pending))) (h : Inv st) : Inv st' := by
  have hget : ∀ j, st'.get? j = (st.get? j).map g := fun j => by
    simp only [St.get?, hents]; exact find?_map_id st.ents g hg j
  refine ⟨fun x hx => ?_, fun j hj => ?_, fun j e' he' => ?_⟩
  · rw [hents] at hx ⊢
    obtain ⟨y, hy, rfl⟩ := List.mem_map.1 hx
    rw [hg, List.length_map]; exact h.ids y hy
  · rw [hget, Option.isSome_map]; exact hpend j hj
  · rw [hget] at he'
    obtain ⟨e, he, rfl⟩ := Option.map_eq_some_iff.1 he'
    exact hmem j e he

theorem withE_inv (st : St) (id : Nat) (f : Entry → Entry × Acts) (hf : Pres f) (h : Inv st) :
    Inv (st.withE id f) := by
  cases hg : st.get? id with
  | none => rw [withE_none _ _ _ hg]; exact h
  | some e =>
    have hid : (f e).1.id = id := (hf.id e).trans (get?_id hg)
    -- `put` rewrites the table by an id-preserving function (`inv_map`); membership after the replay is `decide_mem_act`;
    -- the written entry is consistent by `Pres`, the others as before
    refine inv_map (fun x => if x.id == (f e).1.id then (f e).1 else x) (fun x => by split <;> simp_all) ?_ ?_ ?_ h
    · simp only [St.withE, hg, St.act, St.put]
    · intro j hj
      have hj' : j ∈ (st.act id (f e).2).pending := by simp only [St.withE, hg] at hj; exact hj
      rw [mem_act] at hj'
      split at hj'
      · rename_i hji; rw [hji, hg]; rfl
      · exact h.pend j hj'
    · intro j x hx
      have hd : decide (j ∈ (st.withE id f).pending) = decide (j ∈ (st.act id (f e).2).pending) := by
        simp only [St.withE, hg]; rfl
      rw [hd, decide_mem_act, hid, get?_id hx]
      by_cases hji : j = id
      · subst hji
        rw [hg] at hx; cases hx
        simpa using hf.einv (h.mem j e hg)
      · simpa [hji] using h.mem j x hx

theorem inv_same {st st' : St} (he : st'.ents = st.ents) (hp : st'.pending = st.pending) (h : Inv st) : Inv st' := by
  obtain ⟨ents, pending, _, _, _⟩ := st
  obtain ⟨ents', pending', _, _, _⟩ := st'
  cases he; cases hp
  exact ⟨h.ids, h.pend, h.mem⟩

theorem einv_fresh (id : Nat) (d : Bool) : EInv ({ id := id, l := { dir := d }, r := { dir := d } } : Entry) false :=
  ⟨fun h => by simp [hasIdChange, truthy] at h, fun h => absurd h (by simp)⟩

theorem get?_append (st : St) (n : Entry) (j : Nat) :
    ({ st with ents := st.ents ++ [n] } : St).get? j = (st.get? j).or (if n.id == j then some n else none) := by
  simp only [St.get?, List.find?_append, List.find?_cons, List.find?_nil]
  cases (n.id == j) <;> rfl

theorem inv_append (st : St) (n : Entry) (hn : n.id = st.ents.length) (hfresh : EInv n false) (h : Inv st) :
    Inv { st with ents := st.ents ++ [n] } := by
  refine ⟨fun e he => ?_, fun j hj => ?_, fun j e he => ?_⟩
  · simp only [List.length_append, List.length_singleton]
    rcases List.mem_append.1 he with he | he
    · exact Nat.lt_succ_of_lt (h.ids e he)
    · rw [List.mem_singleton.1 he, hn]; exact Nat.lt_succ_self _
  · obtain ⟨e, he⟩ := Option.isSome_iff_exists.1 (h.pend j hj)
    rw [get?_append, he]; rfl
  · rw [get?_append] at he
    cases hj : st.get? j with
    | some e0 =>
      rw [hj] at he
      cases he
      exact h.mem j e hj
    | none =>
      have hnp : j ∉ st.pending := fun hp => by simpa [hj] using h.pend j hp
      rw [hj, Option.none_or] at he
      split at he <;> cases he
      rw [decide_eq_false hnp]
      exact hfresh

end CS.Sched
