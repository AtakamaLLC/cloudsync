import Csverif.Model.Engine
import Mathlib.Tactic.SplitIfs
/-
ENG — lemmas about the engine decision tables (Model/Engine.lean).  Each state hook is a record update: one lemma per hook (`*_eq`)
says which fields it writes, and the projections of the entry afterwards are read off it.  Then which leaf calls each handler can
make (`*_effs`), which codes it can return (`*_code`), and the head of `embrace_change` in one lemma (`embrace_cases`): what is
proved of `embrace` is proved of `embraceMain`.  manager.py line numbers are those of the line tags of Model/Engine.lean.
-/
namespace CS.Engine
open CS.Hints (Ex OT Ign)

@[simp] theorem Sd.other_other (s : Sd) : s.other.other = s := by cases s <;> rfl
@[simp] theorem Sd.other_ne (s : Sd) : s.other ≠ s := by cases s <;> decide
@[simp] theorem Sd.ne_other (s : Sd) : s ≠ s.other := by cases s <;> decide
theorem Sd.eq_or_other (s x : Sd) : x = s ∨ x = s.other := by cases s <;> cases x <;> simp [Sd.other]

@[simp] theorem Rel.clearSync_sync (r : Rel) : r.clearSync.sync = false := by cases r <;> rfl
@[simp] theorem Rel.clearSync_cur (r : Rel) : r.clearSync.cur = r.cur := by cases r <;> rfl
@[simp] theorem Rel.clearCur_cur (r : Rel) : r.clearCur.cur = false := by cases r <;> rfl
@[simp] theorem Rel.clearCur_sync (r : Rel) : r.clearCur.sync = r.sync := by cases r <;> rfl
@[simp] theorem Rel.setSync_same (r : Rel) : r.setSync.same = true := by cases r <;> rfl
@[simp] theorem Rel.setSync_cur (r : Rel) : r.setSync.cur = r.cur := by cases r <;> rfl
@[simp] theorem Rel.setSync_sync (r : Rel) : r.setSync.sync = r.cur := by cases r <;> rfl
@[simp] theorem Rel.clearSync_clearCur (r : Rel) : r.clearCur.clearSync = .nn := by cases r <;> rfl
theorem Rel.same_of_not_cur_sync (r : Rel) (h1 : r.cur = false) (h2 : r.sync = false) : r = .nn := by cases r <;> simp_all [Rel.cur, Rel.sync]
theorem Rel.not_same_of_cur_not_sync (r : Rel) (h1 : r.cur = true) (h2 : r.sync = false) : r.same = false := by
  cases r <;> simp_all [Rel.cur, Rel.sync, Rel.same]

@[simp] theorem get_set_same (e : Entry) (s : Sd) (v : Side) : (e.set s v).get s = v := by cases s <;> rfl
@[simp] theorem get_set_other (e : Entry) (s : Sd) (v : Side) : (e.set s v).get s.other = e.get s.other := by cases s <;> rfl
@[simp] theorem get_of_set_other (e : Entry) (s : Sd) (v : Side) : (e.set s.other v).get s = e.get s := by cases s <;> rfl
@[simp] theorem set_ign (e : Entry) (s : Sd) (v : Side) : (e.set s v).ign = e.ign := by cases s <;> rfl
@[simp] theorem set_prio (e : Entry) (s : Sd) (v : Side) : (e.set s v).prio = e.prio := by cases s <;> rfl

@[simp] theorem get_with_prio (e : Entry) (v : Int) (x : Sd) : ({ e with prio := v } : Entry).get x = e.get x := by cases x <;> rfl
@[simp] theorem get_with_ign (e : Entry) (v : Ign) (x : Sd) : ({ e with ign := v } : Entry).get x = e.get x := by cases x <;> rfl
@[simp] theorem get_with_ord (e : Entry) (v : Bool) (x : Sd) : ({ e with lLeR := v } : Entry).get x = e.get x := by cases x <;> rfl
theorem set_get (e : Entry) (s : Sd) : e.set s (e.get s) = e := by cases s <;> rfl

/-- the order bit after `sync[s].changed = w` -/
def When.ord (w : When) (s : Sd) (b : Bool) : Bool :=
  match w, s with
  | .zero, _ => b
  | .oldest, .loc => true
  | .oldest, .rem => false
  | _, .loc => false
  | _, .rem => true

/-- the OTHER side keeps its flag iff the assignment brings the entry into the change set or the other side has an id -/
theorem setChanged_eq (e : Entry) (s : Sd) (w : When) :
    e.setChanged s w =
      { (e.set s.other { e.get s.other with
            changed := (e.get s.other).changed && ((w.flag && (e.get s).oid) || (e.get s.other).oid) }).set s
          { e.get s with changed := w.flag } with lLeR := w.ord s e.lLeR } := by
  -- the three-way test of the hook writes one value into the other side's flag (writing back what is there changes nothing)
  have h1 : ∀ (a : Bool) (ot : Side), e.set s.other ot = e →
      (if (a || (ot.changed && ot.oid)) = true then e
        else if (ot.changed && !ot.oid) = true then e.set s.other { ot with changed := false } else e) =
      e.set s.other { ot with changed := ot.changed && (a || ot.oid) } := by
    intro a ⟨oo, p, h, x, sv, t, oc, f⟩ hs
    cases a <;> cases oc <;> cases oo <;> first | exact hs.symm | rfl
  unfold Entry.setChanged
  dsimp only
  rw [h1 _ _ (set_get e s.other)]
  cases w <;> cases s <;> rfl

theorem setChanged_get_self (e : Entry) (s : Sd) (w : When) :
    (e.setChanged s w).get s = { e.get s with changed := w.flag } := by
  rw [setChanged_eq, get_with_ord, get_set_same]

theorem setChanged_get_other (e : Entry) (s : Sd) (w : When) :
    (e.setChanged s w).get s.other =
      { e.get s.other with changed := (e.get s.other).changed && ((w.flag && (e.get s).oid) || (e.get s.other).oid) } := by
  rw [setChanged_eq, get_with_ord, get_set_other, get_set_same]

theorem setChanged_get_of_other (e : Entry) (s : Sd) (w : When) :
    (e.setChanged s.other w).get s =
      { e.get s with changed := (e.get s).changed && ((w.flag && (e.get s.other).oid) || (e.get s).oid) } := by
  have h := setChanged_get_other e s.other w
  rwa [Sd.other_other] at h

@[simp] theorem setChanged_ign (e : Entry) (s : Sd) (w : When) : (e.setChanged s w).ign = e.ign := by
  rw [setChanged_eq]; exact (set_ign ..).trans (set_ign ..)

@[simp] theorem setChanged_prio (e : Entry) (s : Sd) (w : When) : (e.setChanged s w).prio = e.prio := by
  rw [setChanged_eq]; exact (set_prio ..).trans (set_prio ..)

theorem setIgn_eq (e : Entry) (g : Ign) :
    e.setIgn g = { e with ign := g, l := { e.l with changed := (e.setIgn g).l.changed },
                          r := { e.r with changed := (e.setIgn g).r.changed } } := by
  by_cases h1 : e.ign = g
  · simp only [Entry.setIgn, if_pos h1]; rw [← h1]   -- the value does not change: the hook does not run
  · by_cases h2 : g = .discarded
    · simp only [Entry.setIgn, if_neg h1, if_pos h2]
    · simp only [Entry.setIgn, if_neg h1, if_neg h2]

theorem setIgn_get (e : Entry) (g : Ign) (c : Sd) (hg : g ≠ .discarded) : (e.setIgn g).get c = e.get c := by
  unfold Entry.setIgn
  split_ifs <;> cases c <;> rfl

@[simp] theorem setIgn_get_ex (e : Entry) (g : Ign) (c : Sd) : ((e.setIgn g).get c).ex = (e.get c).ex := by
  rw [setIgn_eq]; cases c <;> rfl

@[simp] theorem setIgn_get_p (e : Entry) (g : Ign) (c : Sd) : ((e.setIgn g).get c).p = (e.get c).p := by
  rw [setIgn_eq]; cases c <;> rfl

@[simp] theorem setIgn_ign (e : Entry) (g : Ign) : (e.setIgn g).ign = g := by rw [setIgn_eq]

@[simp] theorem setIgn_prio (e : Entry) (g : Ign) : (e.setIgn g).prio = e.prio := by rw [setIgn_eq]

/-- `h`: the hook only runs when the value changes -/
theorem setIgn_discarded_flags (e : Entry) (c : Sd) (h : e.ign ≠ .discarded) : ((e.setIgn .discarded).get c).changed = false := by
  unfold Entry.setIgn
  cases c <;> simp [h, Entry.get]

@[simp] theorem bump_ign (e : Entry) (s : Sd) : (e.bump s).ign = e.ign := by
  fun_cases Entry.bump e s <;> first | rfl | exact set_ign ..

@[simp] theorem bump_prio (e : Entry) (s : Sd) : (e.bump s).prio = e.prio := by
  fun_cases Entry.bump e s <;> first | rfl | exact set_prio ..

theorem bump_get (e : Entry) (s x : Sd) :
    (e.bump s).get x = { e.get x with changed := ((e.bump s).get x).changed } ∧
    (((e.bump s).get x).changed = true → (e.get x).changed = true) := by
  fun_cases Entry.bump e s
  case case2 =>   -- the other side is flagged but id-less: its flag goes down, side `s` is untouched
    cases s <;> cases x
    · exact ⟨rfl, id⟩
    · exact ⟨rfl, fun h => by cases h⟩
    · exact ⟨rfl, fun h => by cases h⟩
    · exact ⟨rfl, id⟩
  all_goals exact ⟨rfl, id⟩

theorem setPrio_eq (e : Entry) (v : Int) :
    ∃ e', (e' = e ∨ e' = e.bump .loc ∨ e' = e.bump .rem ∨ e' = (e.bump .loc).bump .rem) ∧
      e.setPrio v = { e' with prio := v } := by
  fun_cases Entry.setPrio e v
  · exact ⟨e, .inl rfl, by rename_i h; rw [← h]⟩   -- the value does not change: the hook does not run
  · rename_i h e1
    refine ⟨e1, ?_, rfl⟩
    unfold e1
    dsimp only
    split_ifs
    · exact .inr (.inr (.inr rfl))                   -- a raise above zero, both sides flagged
    · exact .inr (.inl rfl)                          -- … LOCAL only
    · exact .inr (.inr (.inl rfl))                   -- … REMOTE only
    · exact .inl rfl                                 -- … no side flagged
    · exact .inl rfl                                 -- not a raise above zero

@[simp] theorem setPrio_ign (e : Entry) (v : Int) : (e.setPrio v).ign = e.ign := by
  obtain ⟨e', h, h'⟩ := setPrio_eq e v
  rw [h']
  rcases h with rfl | rfl | rfl | rfl <;> simp only [bump_ign]

@[simp] theorem setPrio_prio (e : Entry) (v : Int) : (e.setPrio v).prio = v := by
  obtain ⟨e', -, h'⟩ := setPrio_eq e v
  rw [h']

theorem setPrio_get (e : Entry) (v : Int) (x : Sd) :
    (e.setPrio v).get x = { e.get x with changed := ((e.setPrio v).get x).changed } ∧
    (((e.setPrio v).get x).changed = true → (e.get x).changed = true) := by
  obtain ⟨e', h, h'⟩ := setPrio_eq e v
  rw [h', get_with_prio]
  rcases h with rfl | rfl | rfl | rfl
  · exact ⟨rfl, id⟩
  · exact bump_get e .loc x
  · exact bump_get e .rem x
  · have b1 := bump_get e .loc x
    have b3 := bump_get (e.bump .loc) .rem x
    exact ⟨by rw [b3.1, b1.1], fun h => b1.2 (b3.2 h)⟩

theorem setPrio_of_nonpos (e : Entry) (v : Int) (h : v ≤ 0) : e.setPrio v = { e with prio := v } := by
  by_cases h1 : e.prio = v
  · simp only [Entry.setPrio, if_pos h1]; rw [← h1]
  · have h2 : (decide (v > e.prio) && decide (v > 0)) = false := by
      rw [Bool.and_eq_false_iff]; right; simpa using h
    simp only [Entry.setPrio, if_neg h1, h2, Bool.false_eq_true, if_false]

theorem pathMoved_eq (e : Entry) (moved : Bool) : e.pathMoved moved = { e with prio := if moved then 0 else e.prio } := by
  cases moved
  · rfl
  · exact setPrio_of_nonpos e 0 (Int.le_refl 0)

@[simp] theorem pathMoved_get (e : Entry) (moved : Bool) (x : Sd) : (e.pathMoved moved).get x = e.get x := by
  rw [pathMoved_eq, get_with_prio]

@[simp] theorem pathMoved_ign (e : Entry) (moved : Bool) : (e.pathMoved moved).ign = e.ign := by rw [pathMoved_eq]

section fields
variable (s : Side) (v : Ex)

theorem setEx_eq : s.setEx v = { s with ex := (s.setEx v).ex, saved := (s.setEx v).saved } := by
  unfold Side.setEx; split_ifs <;> rfl

theorem uncorrupt_eq : s.uncorrupt = { s with ex := s.uncorrupt.ex, saved := s.uncorrupt.saved } := by
  unfold Side.uncorrupt; split_ifs <;> rfl

theorem clearHash_eq : s.clearHash = { s with h := s.h.clearCur, ex := s.clearHash.ex, saved := s.clearHash.saved } := by
  unfold Side.clearHash; dsimp only; split_ifs
  · rw [uncorrupt_eq]
  · rfl

@[simp] theorem setEx_fields :
    (s.setEx v).oid = s.oid ∧ (s.setEx v).p = s.p ∧ (s.setEx v).h = s.h ∧ (s.setEx v).otype = s.otype ∧
    (s.setEx v).changed = s.changed ∧ (s.setEx v).force = s.force := by
  rw [setEx_eq]; exact ⟨rfl, rfl, rfl, rfl, rfl, rfl⟩

@[simp] theorem uncorrupt_fields :
    s.uncorrupt.oid = s.oid ∧ s.uncorrupt.p = s.p ∧ s.uncorrupt.h = s.h ∧ s.uncorrupt.otype = s.otype ∧
    s.uncorrupt.changed = s.changed ∧ s.uncorrupt.force = s.force := by
  rw [uncorrupt_eq]; exact ⟨rfl, rfl, rfl, rfl, rfl, rfl⟩

@[simp] theorem clearHash_fields :
    s.clearHash.oid = s.oid ∧ s.clearHash.p = s.p ∧ s.clearHash.h = s.h.clearCur ∧ s.clearHash.otype = s.otype ∧
    s.clearHash.changed = s.changed ∧ s.clearHash.force = s.force := by
  rw [clearHash_eq]; exact ⟨rfl, rfl, rfl, rfl, rfl, rfl⟩
end fields

/-- the corrupt state shadows every assignment to `exists`: only a hash change un-corrupts the side (state.py 114-133) -/
theorem setEx_ex (s : Side) (v : Ex) : (s.setEx v).ex = if s.isCorrupt then .corrupt else v := by
  rcases s with ⟨o, p, h, x, sv, ot, ch, f⟩
  cases x <;> cases v <;> rfl

theorem setEx_corrupt_stays (s : Side) (v : Ex) (h : s.isCorrupt = true) : (s.setEx v).isCorrupt = true := by
  rw [Side.isCorrupt, setEx_ex, h]; rfl

theorem setEx_of_not_corrupt (s : Side) (v : Ex) (h : s.isCorrupt = false) (hv : v ≠ .corrupt) : (s.setEx v).ex = v := by
  rw [setEx_ex, h]; rfl

theorem clearSide_self (e : Entry) (s : Sd) :
    ((e.clearSide s).get s).oid = false ∧ ((e.clearSide s).get s).p = .nn ∧ ((e.clearSide s).get s).h = .nn ∧
    ((e.clearSide s).get s).changed = false ∧ ((e.clearSide s).get s).otype = (e.get s).otype ∧
    ((e.clearSide s).get s).force = (e.get s).force := by
  simp [Entry.clearSide, setChanged_get_self, When.flag]

theorem clearSide_other (e : Entry) (s : Sd) :
    (e.clearSide s).get s.other =
      { e.get s.other with changed := (e.get s.other).changed && (e.get s.other).oid } := by
  simp [Entry.clearSide, setChanged_get_other, When.flag]

@[simp] theorem clearSide_ign (e : Entry) (s : Sd) : (e.clearSide s).ign = e.ign := by simp [Entry.clearSide]
@[simp] theorem clearSide_prio (e : Entry) (s : Sd) : (e.clearSide s).prio = e.prio := by simp [Entry.clearSide]

/-- A relation between SIDES: the entry-level fields `ign`, `prio`, `lLeR` are not in it — the `changed` hook rewrites `lLeR`, and
    the laws that use the relation read the two sides only. -/
structure Side.below (s1 s : Side) : Prop where
  oid : s1.oid = s.oid
  p : s1.p = s.p
  h : s1.h = s.h
  ex : s1.ex = s.ex
  saved : s1.saved = s.saved
  otype : s1.otype = s.otype
  changed : s1.changed = true → s.changed = true
  force : s1.force = true → s.force = true

/-- the relation a `continue` of the loop of `sync` produces between the entry it hands on and the entry it found -/
def Entry.below (e1 e : Entry) : Prop := ∀ x, (e1.get x).below (e.get x)

theorem below_refl (e : Entry) : e.below e := fun _ => ⟨rfl, rfl, rfl, rfl, rfl, rfl, id, id⟩

theorem below_setChanged_zero (e : Entry) (s : Sd) : (e.setChanged s .zero).below e := by
  intro x
  rcases Sd.eq_or_other s x with rfl | rfl
  · rw [setChanged_get_self]
    exact ⟨rfl, rfl, rfl, rfl, rfl, rfl, fun h => (by cases h), id⟩
  · rw [setChanged_get_other]
    exact ⟨rfl, rfl, rfl, rfl, rfl, rfl, fun h => (Bool.and_eq_true_iff.1 h).1, id⟩

theorem Side.below.needsSync {s1 s : Side} (hx : s1.below s) (hn : s1.needsSync = true) : s.needsSync = true := by
  simp only [Side.needsSync, hx.oid, hx.p, hx.h, hx.ex] at hn ⊢
  simp only [Bool.or_eq_true, Bool.and_eq_true] at hn ⊢
  rcases hn with hn | ⟨⟨hc, ho⟩, hr⟩
  · left; exact hx.force hn
  · right; exact ⟨⟨hx.changed hc, ho⟩, hr⟩

theorem below_lower (s : Side) (b : Bool) : ({ s with changed := s.changed && b } : Side).below s :=
  ⟨rfl, rfl, rfl, rfl, rfl, rfl, fun h => (Bool.and_eq_true_iff.1 h).1, id⟩

/-- this side's half of `is_creation` -/
def Side.pending (s : Side) : Bool := s.p.cur && s.ex == .present && s.needsSync

/-- the peer's half of `is_creation` -/
def Side.absent (s : Side) : Bool := !s.oid || s.ex == .trashed || s.ex == .missing || s.corruptGone

theorem isCreation_eq (e : Entry) (s : Sd) : isCreation e s = ((e.get s).pending && (e.get s.other).absent) := by
  unfold isCreation Side.pending Side.absent
  dsimp only
  cases (e.get s).p.cur && (e.get s).ex == .present <;> cases (e.get s).needsSync <;> rfl

theorem Side.below.pending {s1 s : Side} (h : s1.below s) (hp : s1.pending = true) : s.pending = true := by
  simp only [Side.pending, h.p, h.ex, Bool.and_eq_true] at hp ⊢
  exact ⟨hp.1, h.needsSync hp.2⟩

theorem Side.below.absent {s1 s : Side} (h : s1.below s) : s1.absent = s.absent := by
  simp only [Side.absent, Side.corruptGone, Side.isCorrupt, h.oid, h.ex, h.saved]

theorem finished_eq (e : Entry) (s : Sd) :
    finished e s =
      { e.setChanged s .zero with
        l := { (e.setChanged s .zero).l with force := (e.setChanged s .zero).l.force && (e.setChanged s .zero).l.changed }
        r := { (e.setChanged s .zero).r with force := (e.setChanged s .zero).r.force && (e.setChanged s .zero).r.changed } } := by
  unfold finished
  dsimp only
  generalize e.setChanged s .zero = e1
  rcases e1 with ⟨⟨lo, lp, lh, lx, lsv, lt, lc, lf⟩, ⟨ro, rp, rh, rx, rsv, rt, rc, rf⟩, ord, ign, prio⟩
  cases lc <;> cases rc <;> simp

theorem finished_get (e : Entry) (s x : Sd) :
    (finished e s).get x =
      { (e.setChanged s .zero).get x with
        force := ((e.setChanged s .zero).get x).force && ((e.setChanged s .zero).get x).changed } := by
  rw [finished_eq]; cases x <;> rfl

theorem below_finished (e : Entry) (s : Sd) : (finished e s).below e := by
  intro x
  have h := below_setChanged_zero e s x
  rw [finished_get]
  exact ⟨h.oid, h.p, h.h, h.ex, h.saved, h.otype, h.changed, fun hf => h.force (Bool.and_eq_true_iff.1 hf).1⟩

theorem finished_self (e : Entry) (s : Sd) : ((finished e s).get s).changed = false := by
  rw [finished_get, setChanged_get_self]; rfl

theorem finished_flags (e : Entry) (s x : Sd) (h : ((finished e s).get x).changed = true) : (e.get x).changed = true :=
  (below_finished e s x).changed h

@[simp] theorem finished_ign (e : Entry) (s : Sd) : (finished e s).ign = e.ign := by
  rw [finished_eq]; exact setChanged_ign e s .zero

theorem finished_both (e : Entry) (x : Sd) :
    ((finished (finished e .loc) .rem).get x).changed = false ∧ ((finished (finished e .loc) .rem).get x).force = false := by
  have h := finished_get (finished e .loc) .rem
  cases x
  · -- LOCAL: its flag went down in the first call and the second one cannot raise it
    have h1 := setChanged_get_other (finished e .loc) .rem .zero
    simp only [Sd.other] at h1
    rw [h .loc, h1, finished_self e .loc]
    exact ⟨rfl, Bool.and_false _⟩
  · rw [h .rem, setChanged_get_self]
    exact ⟨rfl, Bool.and_false _⟩

def Eff.isTransfer : Eff → Bool
  | .create _ | .upload _ | .mkdir _ => true
  | _ => false

def noTransfer (f : Eff) : Bool := !f.isTransfer

def Eff.towards (x : Sd) (f : Eff) : Bool :=
  match f.target with
  | some t => t == x
  | none => true

def Eff.quietTo (x : Sd) (f : Eff) : Bool := !f.isTransfer && f.towards x

theorem all_pre (p : Eff → Bool) (fx : List Eff) (r : Res) :
    (r.pre fx).effs.all p = (fx.all p && r.effs.all p) := by
  simp [Res.pre, List.all_append]

theorem all_mono {p q : Eff → Bool} (h : ∀ f, p f = true → q f = true) (l : List Eff) (hl : l.all p = true) :
    l.all q = true := by
  simp only [List.all_eq_true] at *
  exact fun f hf => h f (hl f hf)

theorem all_sub {p : Eff → Bool} {l l' : List Eff} (h : l ⊆ l') (hl : l'.all p = true) : l.all p = true :=
  List.all_eq_true.2 fun f hf => List.all_eq_true.1 hl f (h hf)

theorem quietTo_towards (x : Sd) (l : List Eff) (h : l.all (Eff.quietTo x) = true) : l.all (Eff.towards x) = true :=
  all_mono (by intro f hf; simp [Eff.quietTo] at hf; exact hf.2) l h

theorem quietTo_noTransfer (x : Sd) (l : List Eff) (h : l.all (Eff.quietTo x) = true) : l.all noTransfer = true :=
  all_mono (by intro f hf; simp [Eff.quietTo] at hf; simp [noTransfer, hf.1]) l h

/- Which leaf calls a handler can make, here and below: the proof goes through the handler's branches (`fun_cases`); in a branch the
   calls are an explicit list, and `cases c <;> rfl` checks the predicate on it by evaluation for either side. -/
theorem dirNotEmpty_effs (o : Oracle) (e : Entry) (c : Sd) :
    (dirNotEmpty o e c).effs.all (Eff.quietTo c.other) = true := by
  fun_cases dirNotEmpty o e c <;> cases c <;> rfl

theorem deleteSynced_effs (o : Oracle) (e : Entry) (c : Sd) (g : Ign) :
    (deleteSynced o e c g).effs.all (Eff.quietTo c.other) = true := by
  fun_cases deleteSynced o e c g
  all_goals try rw [all_pre, dirNotEmpty_effs]
  all_goals cases c <;> rfl

theorem handleCorrupt_effs (e : Entry) (c : Sd) : (handleCorrupt e c).effs = [.notifyCorrupt c] := rfl

theorem handleMissing_effs (e : Entry) (c : Sd) : (handleMissing e c).effs = [] := by
  fun_cases handleMissing e c <;> rfl

theorem hashDiff_effs (o : Oracle) (e : Entry) (c : Sd) :
    (hashDiff o e c).effs.all (fun f => f == .download c || f == .upload c.other || f == .notifyCorrupt c) = true := by
  fun_cases hashDiff o e c <;> cases c <;> rfl

theorem hashDiff_towards (o : Oracle) (e : Entry) (c : Sd) : (hashDiff o e c).effs.all (Eff.towards c.other) = true :=
  all_mono (by
    intro f hf
    simp only [Bool.or_eq_true, beq_iff_eq] at hf
    rcases hf with (rfl | rfl) | rfl <;> cases c <;> rfl) _ (hashDiff_effs o e c)

theorem handleRename_effs (o : Oracle) (e : Entry) (c : Sd) :
    (handleRename o e c).effs.all (Eff.quietTo c.other) = true := by
  fun_cases handleRename o e c
  all_goals try (unfold renameFix; split)
  all_goals cases c <;> rfl

theorem hpccRest_effs (o : Oracle) (e : Entry) (c : Sd) :
    (hpccRest o e c).effs.all (Eff.towards c.other) = true := by
  fun_cases hpccRest o e c
  case case17 => exact quietTo_towards _ _ (handleRename_effs o e c)   -- not a creation: `handle_rename`
  all_goals cases c <;> rfl

theorem hpcc_effs (o : Oracle) (e : Entry) (c : Sd) :
    (hpcc o e c).effs.all (Eff.towards c.other) = true := by
  fun_cases hpcc o e c
  case case4 | case5 => exact hpccRest_effs o _ c   -- the rest, on the entry or on the entry with the trashed peer cleared
  all_goals rfl                                     -- the early returns make no call

theorem embraceHash_effs (o : Oracle) (e : Entry) (c : Sd) (fx : List Eff) :
    (embraceHash o e c fx).effs = fx ∨ (embraceHash o e c fx).effs = fx ++ (hashDiff o e c).effs := by
  fun_cases embraceHash o e c fx
  · exact Or.inr rfl
  · exact Or.inl rfl

theorem embraceHash_towards (o : Oracle) (e : Entry) (c : Sd) (fx : List Eff) (hfx : fx.all (Eff.towards c.other) = true) :
    (embraceHash o e c fx).effs.all (Eff.towards c.other) = true := by
  rcases embraceHash_effs o e c fx with h | h <;> rw [h]
  · exact hfx
  · rw [List.all_append, hfx, hashDiff_towards]; rfl

theorem embraceTail_effs (o : Oracle) (e : Entry) (c : Sd) :
    (embraceTail o e c).effs.all (Eff.towards c.other) = true := by
  fun_cases embraceTail o e c
  case case4 => exact embraceHash_towards o _ c _ (hpcc_effs o e c)   -- `hpcc` returned, the entry is not discarded: on to the hash part
  case case5 => exact embraceHash_towards o _ c _ rfl                 -- no path change, no creation: the hash part alone
  all_goals exact hpcc_effs o e c                                     -- `hpcc` raised, punted or discarded the entry: its calls, nothing more

/-- every exit of the main part of `embrace_change` but the path/hash tail makes `quietTo` calls only, and the tail is reached only
    when the side is not TRASHED: hence the two hypotheses -/
theorem embraceMain_all {p : Eff → Bool} (o : Oracle) (e : Entry) (c : Sd)
    (hq : ∀ l : List Eff, l.all (Eff.quietTo c.other) = true → l.all p = true)
    (ht : (e.get c).ex ≠ .trashed → (embraceTail o e c).effs.all p = true) :
    (embraceMain o e c []).effs.all p = true := by
  fun_cases embraceMain o e c []
  case case1 => exact hq [.reprioritise] rfl                          -- REQUEUE with `reprioritise`
  case case4 => exact hq _ (deleteSynced_effs o e c .discarded)       -- the side is TRASHED: `delete_synced`
  case case5 => exact (handleMissing_effs e c).symm ▸ rfl             -- the side is MISSING: `handle_changed_is_missing`
  case case6 h _ => exact ht (by simpa using h)                       -- the path part and the hash part
  all_goals rfl   -- FINISHED without a call (rename-is-delete-create, pending create of the peer)

theorem embraceMovedOut_effs (o : Oracle) (e : Entry) (c : Sd) :
    (embraceMovedOut o e c).effs.all (Eff.quietTo c.other) = true := by
  have hd := deleteSynced_effs o e c .irrelevant
  fun_cases embraceMovedOut o e c
  all_goals simp +zetaDelta only [Res.pre, List.all_cons, List.all_append, hd]
  all_goals cases c <;> rfl

/-- FINISHED, PUNT, or an escaping exception (not REQUEUE, not Python `None`) -/
def Out.fp : Out → Bool
  | .ret .finished | .ret .punt | .raised _ => true
  | _ => false

theorem dirNotEmpty_code (o : Oracle) (e : Entry) (c : Sd) : (dirNotEmpty o e c).out.fp = true := by
  fun_cases dirNotEmpty o e c <;> rfl

theorem deleteSynced_code (o : Oracle) (e : Entry) (c : Sd) (g : Ign) : (deleteSynced o e c g).out.fp = true := by
  fun_cases deleteSynced o e c g
  case case5 => exact dirNotEmpty_code o e c   -- CloudFileExistsError: the folder is not empty
  all_goals rfl

theorem handleMissing_code (e : Entry) (c : Sd) : (handleMissing e c).out.fp = true := by
  fun_cases handleMissing e c <;> rfl

theorem hashDiff_code (o : Oracle) (e : Entry) (c : Sd) : (hashDiff o e c).out.fp = true := by
  fun_cases hashDiff o e c <;> rfl

theorem handleRename_code (o : Oracle) (e : Entry) (c : Sd) : (handleRename o e c).out.fp = true := by
  fun_cases handleRename o e c
  case case4 => unfold fnfOut; split <;> rfl   -- CloudFileNotFoundError: the handler punts or gives up
  all_goals rfl

/-- Python `None` comes out of `handle_path_change_or_creation` only when `mkdir_synced` returned `None` (manager.py 632-633:
    CloudFileExistsError) -/
theorem hpccRest_code (o : Oracle) (e : Entry) (c : Sd) :
    (hpccRest o e c).out.fp = true ∨ ((hpccRest o e c).out = .ret .none_ ∧ o.mkd = .none_) := by
  fun_cases hpccRest o e c
  case case5 => exact .inr ⟨rfl, ‹_›⟩                       -- `mkdir_synced` returned `None`
  case case17 => exact .inl (handleRename_code o e c)      -- not a creation: `handle_rename`
  all_goals exact .inl rfl

theorem hpcc_code (o : Oracle) (e : Entry) (c : Sd) :
    (hpcc o e c).out.fp = true ∨ ((hpcc o e c).out = .ret .none_ ∧ o.mkd = .none_) := by
  fun_cases hpcc o e c
  case case4 | case5 => exact hpccRest_code o _ c
  all_goals exact .inl rfl

theorem embraceHash_code (o : Oracle) (e : Entry) (c : Sd) (fx : List Eff) : (embraceHash o e c fx).out.fp = true := by
  fun_cases embraceHash o e c fx
  · exact hashDiff_code o e c
  · rfl

theorem embraceTail_code (o : Oracle) (e : Entry) (c : Sd) : (embraceTail o e c).out.fp = true := by
  fun_cases embraceTail o e c
  case case1 h | case2 h => rw [h]; rfl                       -- `hpcc` raised or punted: passed on
  case case3 => rfl                                           -- the entry was discarded on the way: FINISHED
  case case4 | case5 => exact embraceHash_code o _ c _

theorem embraceMovedOut_code (o : Oracle) (e : Entry) (c : Sd) : (embraceMovedOut o e c).out.fp = true := by
  fun_cases embraceMovedOut o e c
  case case3 => exact deleteSynced_code o e c .irrelevant   -- `delete_synced` did not finish: its code is passed on
  all_goals rfl

/-- REQUEUE is returned by the parent-conflict branch only (manager.py 1453-1484) -/
theorem embraceMain_code (o : Oracle) (e : Entry) (c : Sd) :
    (embraceMain o e c []).out.fp = true ∨
    ((embraceMain o e c []).out = .ret .requeue ∧ (embraceMain o e c []).effs = [.reprioritise] ∧
      o.parentConfl = true ∧ (e.get c).ex = .present ∧ (e.get c).p.cur = true) := by
  fun_cases embraceMain o e c []
  case case1 h => exact .inr ⟨rfl, rfl, by simp_all⟩           -- the parent conflict
  case case4 => exact .inl (deleteSynced_code o e c .discarded)
  case case5 => exact .inl (handleMissing_code e c)
  case case6 => exact .inl (embraceTail_code o e c)
  all_goals exact .inl rfl

/-- the head of `embrace_change` takes the "moved out of the root" exit (manager.py 1429-1435) -/
def movedOut (o : Oracle) (e : Entry) (c : Sd) : Bool :=
  ((e.get c).p.cur || (e.get c).ex == .present) && !(translate o e c.other).some && (e.get c).p.sync && !o.inRoot

/-- manager.py 1442-1451 -/
theorem embraceBody_cases (o : Oracle) (e : Entry) (c : Sd) (fx : List Eff) :
    (((embraceBody o e c fx).out = .ret .finished ∨ (embraceBody o e c fx).out = .raised .typeError) ∧
      (embraceBody o e c fx).effs = fx) ∨
    ∃ e', (∀ s, e'.get s = e.get s) ∧ embraceBody o e c fx = embraceMain o e' c fx := by
  fun_cases embraceBody o e c fx
  · exact Or.inl ⟨Or.inl rfl, rfl⟩
  · exact Or.inl ⟨Or.inr rfl, rfl⟩
  · exact Or.inl ⟨Or.inl rfl, rfl⟩
  · exact Or.inr ⟨_, fun s => setIgn_get e .no s (by decide), rfl⟩
  · exact Or.inr ⟨e, fun _ => rfl, rfl⟩

theorem embrace_cases (o : Oracle) (e : Entry) (c : Sd) :
    (movedOut o e c = true ∧ embrace o e c = embraceMovedOut o e c) ∨
    (((embrace o e c).out = .ret .finished ∨ (embrace o e c).out = .raised .typeError) ∧
      (embrace o e c).effs ⊆ [.notifyDiscarded c]) ∨
    ∃ e', (∀ s, e'.get s = e.get s) ∧ embrace o e c = embraceMain o e' c [] := by
  fun_cases embrace o e c
  · exact Or.inl ⟨by simp_all +zetaDelta [movedOut], rfl⟩
  · have h : embraceBody o (e.setIgn .irrelevant) c [.notifyDiscarded c] =
        ⟨.ret .finished, [.notifyDiscarded c], e.setIgn .irrelevant⟩ := by simp [embraceBody, Ign.isDiscarded]
    rw [h]
    exact Or.inr (Or.inl ⟨Or.inl rfl, List.Subset.refl _⟩)
  · rcases embraceBody_cases o e c [] with ⟨h1, h2⟩ | h
    · exact Or.inr (Or.inl ⟨h1, by simp [h2]⟩)
    · exact Or.inr (Or.inr h)

theorem embrace_all {p : Eff → Bool} (o : Oracle) (e : Entry) (c : Sd)
    (hq : ∀ l : List Eff, l.all (Eff.quietTo c.other) = true → l.all p = true)
    (ht : ∀ e', (∀ s, e'.get s = e.get s) → (e'.get c).ex ≠ .trashed → (embraceTail o e' c).effs.all p = true) :
    (embrace o e c).effs.all p = true := by
  rcases embrace_cases o e c with ⟨-, h⟩ | ⟨-, h⟩ | ⟨e', he, h⟩
  · rw [h]; exact hq _ (embraceMovedOut_effs o e c)
  · exact all_sub h (hq _ rfl)
  · rw [h]; exact embraceMain_all o e' c hq (ht e' he)

end CS.Engine
