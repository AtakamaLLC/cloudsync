import Csverif.Model.State
import Csverif.Proofs.Assoc
/-
Helper lemmas for C11 (sync-state index integrity): the algebra of the association-list dictionaries and what each state
modifier does to each projection of the state.
-/
namespace CS.State

namespace AL
variable {κ β : Type} [DecidableEq κ]

@[simp] theorem get_nil (k : κ) : get ([] : List (κ × β)) k = none := rfl

theorem get_eq [BEq κ] [LawfulBEq κ] (l : List (κ × β)) (k : κ) : get l k = Assoc.get l k := by
  induction l with
  | nil => rfl
  | cons a t ih => rw [Assoc.get_cons, ← ih]; rfl

theorem erase_eq (l : List (κ × β)) (k : κ) : erase l k = Assoc.del l k := by
  induction l with
  | nil => rfl
  | cons a t ih =>
    rw [Assoc.del, List.filter_cons, ← Assoc.del, ← ih]
    by_cases h : a.1 = k <;> simp [erase, h]

theorem set_eq (l : List (κ × β)) (k : κ) (v : β) : set l k v = Assoc.set l k v := by
  induction l with
  | nil => rfl
  | cons a t ih => rw [Assoc.set, ← ih]; rfl

theorem get_erase (l : List (κ × β)) (k k' : κ) : get (erase l k) k' = if k' = k then none else get l k' := by
  rw [erase_eq, get_eq, get_eq, Assoc.get_del]

theorem get_set (l : List (κ × β)) (k k' : κ) (v : β) : get (set l k v) k' = if k' = k then some v else get l k' := by
  rw [set_eq, get_eq, get_eq, Assoc.get_set]

theorem get_eq_none_of_erase_eq_nil (l : List (κ × β)) (k : κ) (h : erase l k = []) (k' : κ) (hk : k' ≠ k) : get l k' = none := by
  have := get_erase l k k'
  rw [h] at this
  simpa [hk] using this.symm

theorem mem_of_get {l : List (κ × β)} {k : κ} {v : β} (h : get l k = some v) : (k, v) ∈ l :=
  Assoc.mem_of_get (get_eq l k ▸ h)

theorem get_ne_none_of_ne_nil_erase (l : List (κ × β)) (k : κ) (h : erase l k ≠ []) : ∃ k' v, k' ≠ k ∧ get l k' = some v := by
  obtain ⟨e, he⟩ := List.exists_mem_of_ne_nil _ h
  obtain ⟨hm, hk⟩ := Assoc.mem_del.1 (erase_eq l k ▸ he)
  cases hg : get l e.1 with
  | some v => exact ⟨e.1, v, hk, hg⟩
  | none => exact absurd (List.mem_map_of_mem hm) (Assoc.get_eq_none_iff.1 (get_eq l e.1 ▸ hg))

theorem ne_nil_of_get {l : List (κ × β)} {k : κ} {v : β} (h : get l k = some v) : l ≠ [] := by
  intro hl; subst hl; simp at h

theorem set_ne_nil (l : List (κ × β)) (k : κ) (v : β) : set l k v ≠ [] := by
  cases l with
  | nil => simp [set]
  | cons a t =>
    obtain ⟨ka, va⟩ := a
    simp only [set]; split <;> simp

theorem mem_of_mem_set {l : List (κ × β)} {k : κ} {v : β} {x : κ × β} (h : x ∈ set l k v) : x = (k, v) ∨ x ∈ l :=
  Assoc.mem_of_mem_set (set_eq l k v ▸ h)

theorem mem_of_mem_erase {l : List (κ × β)} {k : κ} {x : κ × β} (h : x ∈ erase l k) : x ∈ l :=
  (Assoc.mem_del.1 (erase_eq l k ▸ h)).1

end AL

section proj
variable (st : St)

@[simp] theorem oids_setOids (s s' : Sd) (o) : (st.setOids s o).oids s' = if s' = s then o else st.oids s' := by
  cases s <;> cases s' <;> simp [St.setOids, St.oids, St.setIx, St.ix]
@[simp] theorem paths_setOids (s s' : Sd) (o) : (st.setOids s o).paths s' = st.paths s' := by
  cases s <;> cases s' <;> simp [St.setOids, St.paths, St.setIx, St.ix]
@[simp] theorem ents_setOids (s : Sd) (o) : (st.setOids s o).ents = st.ents := by
  cases s <;> simp [St.setOids, St.setIx]
@[simp] theorem cs_setOids (s : Sd) (o) : (st.setOids s o).cs = st.cs := by
  cases s <;> simp [St.setOids, St.setIx]
@[simp] theorem oids_setPaths (s s' : Sd) (o) : (st.setPaths s o).oids s' = st.oids s' := by
  cases s <;> cases s' <;> simp [St.setPaths, St.oids, St.setIx, St.ix]
@[simp] theorem paths_setPaths (s s' : Sd) (o) : (st.setPaths s o).paths s' = if s' = s then o else st.paths s' := by
  cases s <;> cases s' <;> simp [St.setPaths, St.paths, St.setIx, St.ix]
@[simp] theorem ents_setPaths (s : Sd) (o) : (st.setPaths s o).ents = st.ents := by
  cases s <;> simp [St.setPaths, St.setIx]
@[simp] theorem cs_setPaths (s : Sd) (o) : (st.setPaths s o).cs = st.cs := by
  cases s <;> simp [St.setPaths, St.setIx]

@[simp] theorem ent_setOids (s : Sd) (o) (i : Nat) : (st.setOids s o).ent i = st.ent i := by simp [St.ent]
@[simp] theorem ent_setPaths (s : Sd) (o) (i : Nat) : (st.setPaths s o).ent i = st.ent i := by simp [St.ent]
@[simp] theorem side_setOids (s : Sd) (o) (i : Nat) (s' : Sd) : (st.setOids s o).side i s' = st.side i s' := by simp [St.side]
@[simp] theorem side_setPaths (s : Sd) (o) (i : Nat) (s' : Sd) : (st.setPaths s o).side i s' = st.side i s' := by simp [St.side]

@[simp] theorem oids_modEnt (i : Nat) (f) (s : Sd) : (st.modEnt i f).oids s = st.oids s := by
  cases s <;> simp [St.modEnt, St.oids, St.ix]
@[simp] theorem paths_modEnt (i : Nat) (f) (s : Sd) : (st.modEnt i f).paths s = st.paths s := by
  cases s <;> simp [St.modEnt, St.paths, St.ix]
@[simp] theorem cs_modEnt (i : Nat) (f) : (st.modEnt i f).cs = st.cs := rfl
@[simp] theorem len_modEnt (i : Nat) (f) : (st.modEnt i f).ents.length = st.ents.length := by simp [St.modEnt]
theorem ent_modEnt (i j : Nat) (f) : (st.modEnt i f).ent j = if j = i ∧ i < st.ents.length then f (st.ent i) else st.ent j := by
  unfold St.modEnt St.ent
  by_cases h : j = i
  · subst h
    by_cases h2 : j < st.ents.length
    · simp [h2]
    · simp [h2]
  · have : ¬ i = j := fun h' => h h'.symm
    simp [h, this]

theorem side_modEnt (i j : Nat) (f : Entry → Entry) (hf : ∀ x s, (f x).side s = x.side s) (s : Sd) :
    (st.modEnt i f).side j s = st.side j s := by
  unfold St.side; rw [ent_modEnt]; split
  · next h => rw [h.1]; exact hf _ s
  · rfl

@[simp] theorem oids_modSide (i : Nat) (s' : Sd) (f) (s : Sd) : (st.modSide i s' f).oids s = st.oids s := by simp [St.modSide]
@[simp] theorem paths_modSide (i : Nat) (s' : Sd) (f) (s : Sd) : (st.modSide i s' f).paths s = st.paths s := by simp [St.modSide]
@[simp] theorem cs_modSide (i : Nat) (s' : Sd) (f) : (st.modSide i s' f).cs = st.cs := rfl
@[simp] theorem len_modSide (i : Nat) (s' : Sd) (f) : (st.modSide i s' f).ents.length = st.ents.length := by simp [St.modSide]

@[simp] theorem side_setSide (e : Entry) (s s' : Sd) (x : Side) : (e.setSide s x).side s' = if s' = s then x else e.side s' := by
  cases s <;> cases s' <;> simp [Entry.setSide, Entry.side]

theorem side_modSide (i j : Nat) (s s' : Sd) (f) :
    (st.modSide i s f).side j s' = if j = i ∧ s' = s ∧ i < st.ents.length then f (st.side i s) else st.side j s' := by
  unfold St.modSide St.side
  rw [ent_modEnt]
  by_cases h : j = i ∧ i < st.ents.length
  · obtain ⟨h1, h2⟩ := h
    subst h1
    by_cases h3 : s' = s
    · simp [h2, h3]
    · simp [h2, h3]
  · have : ¬ (j = i ∧ s' = s ∧ i < st.ents.length) := fun ⟨a, _, c⟩ => h ⟨a, c⟩
    simp [h, this]

theorem proj_modSide {β} (i j : Nat) (s s' : Sd) (f : Side → Side) (g : Side → β) (hg : ∀ x, g (f x) = g x) :
    g ((st.modSide i s f).side j s') = g (st.side j s') := by
  rw [side_modSide]; split
  · next h => obtain ⟨rfl, rfl, _⟩ := h; exact hg _
  · rfl

@[simp] theorem oids_csAdd (i : Nat) (s : Sd) : (st.csAdd i).oids s = st.oids s := by cases s <;> rfl
@[simp] theorem paths_csAdd (i : Nat) (s : Sd) : (st.csAdd i).paths s = st.paths s := by cases s <;> rfl
@[simp] theorem ents_csAdd (i : Nat) : (st.csAdd i).ents = st.ents := rfl
@[simp] theorem side_csAdd (i j : Nat) (s : Sd) : (st.csAdd i).side j s = st.side j s := rfl
@[simp] theorem oids_csDiscard (i : Nat) (s : Sd) : (st.csDiscard i).oids s = st.oids s := by cases s <;> rfl
@[simp] theorem paths_csDiscard (i : Nat) (s : Sd) : (st.csDiscard i).paths s = st.paths s := by cases s <;> rfl
@[simp] theorem ents_csDiscard (i : Nat) : (st.csDiscard i).ents = st.ents := rfl
@[simp] theorem side_csDiscard (i j : Nat) (s : Sd) : (st.csDiscard i).side j s = st.side j s := rfl
@[simp] theorem oids_dirtyAdd (i : Nat) (s : Sd) : (st.dirtyAdd i).oids s = st.oids s := by cases s <;> rfl
@[simp] theorem paths_dirtyAdd (i : Nat) (s : Sd) : (st.dirtyAdd i).paths s = st.paths s := by cases s <;> rfl
@[simp] theorem ents_dirtyAdd (i : Nat) : (st.dirtyAdd i).ents = st.ents := rfl
@[simp] theorem cs_dirtyAdd (i : Nat) : (st.dirtyAdd i).cs = st.cs := rfl
@[simp] theorem side_dirtyAdd (i j : Nat) (s : Sd) : (st.dirtyAdd i).side j s = st.side j s := rfl

theorem mem_setAdd (l : List Nat) (i j : Nat) : j ∈ setAdd l i ↔ j = i ∨ j ∈ l :=
  (mem_ite_snoc id).trans or_comm
theorem mem_setDiscard (l : List Nat) (i j : Nat) : j ∈ setDiscard l i ↔ j ≠ i ∧ j ∈ l := by
  simp [setDiscard, and_comm]
@[simp] theorem mem_csAdd (i j : Nat) : j ∈ (st.csAdd i).cs ↔ j = i ∨ j ∈ st.cs := mem_setAdd ..
@[simp] theorem mem_csDiscard (i j : Nat) : j ∈ (st.csDiscard i).cs ↔ j ≠ i ∧ j ∈ st.cs := mem_setDiscard ..

end proj

end CS.State
