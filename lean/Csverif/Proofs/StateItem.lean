import Csverif.Proofs.StateOps
/-
C11: `SyncEntry.__setitem__` (state.py:409-437) and `split` (1336-1376).
`__setitem__` calls the hooks (`self.updated(side, …)`) on the side state that is still installed in the receiving entry
and only then replaces it, so the hook-level (not attribute-level) specifications are needed (`changePath_ho`, `changeOid_ho`).

When the receiving side is a folder that has a path, the path hook moves its kids.  On a side whose ids are not paths
(`oid_is_path = False`) that assigns no id, so the id that is about to be installed stays free; on a path-id side the statement
is false (`cex_setitem_folder_kid_takes_id`).  Hence the guard `SetOk`.
-/
namespace CS.State

theorem changePath_leaf_ready (cfg : Cfg) (n : Nat) (e : Nat) (s : Sd) (v : Option Path.Str) (st : St) (hi : Inv st)
    (hlt : e < st.ents.length) (hleaf : (st.side e s).otype ≠ .dir ∨ (st.side e s).path = none) :
    (changePath (sideSet cfg n) cfg s e v st).1 = .error .recursion ∨
    ((changePath (sideSet cfg n) cfg s e v st).1 = .error .assert ∧ (changePath (sideSet cfg n) cfg s e v st).2 = st) ∨
    ((changePath (sideSet cfg n) cfg s e v st).1 = .ok () ∧
      Ready (changePath (sideSet cfg n) cfg s e v st).2 e s (st.side e s).oid v ∧ Pend (changePath (sideSet cfg n) cfg s e v st).2 ∧
      (∀ i s', ((changePath (sideSet cfg n) cfg s e v st).2.side i s').oid = (st.side i s').oid) ∧
      (∀ s', ((changePath (sideSet cfg n) cfg s e v st).2.side e s').otype = (st.side e s').otype) ∧
      (changePath (sideSet cfg n) cfg s e v st).2.ents.length = st.ents.length) := by
  have h := changePath_ho cfg n e s v st (E := fun x st' => x = .recursion ∨ (x = .assert ∧ st' = st)) (Q := fun st' =>
    OidF st st' ∧ (∀ s', (st'.side e s').otype = (st.side e s').otype) ∧ st'.ents.length = st.ents.length) hi hlt
    { start := ⟨OidF.refl _, fun _ => rfl, rfl⟩, assertFails := fun _ => Or.inr ⟨rfl, rfl⟩,
      popped := fun _ => ⟨oidF_popPrior st s e, fun s' => by rw [side_popPrior], len_popPrior ..⟩,
      chg := fun st5 st6 h hrel => ⟨h.1.trans (fun i s' => (hrel.field i s').1),
        fun s' => (hrel.field e s').2.2.1.trans (h.2.1 s'), hrel.len.trans h.2.2⟩,
      noFuel := fun _ _ => Or.inl rfl, kids := ?_ }
  · cases hr : (changePath (sideSet cfg n) cfg s e v st).1 with
    | ok a =>
      obtain ⟨h1, h2, h3, h4, h5⟩ := h.1 a hr
      exact Or.inr (Or.inr ⟨rfl, h3 e s ▸ h1, h2, h3, h4, h5⟩)
    | error x =>
      rcases h.2 x hr with rfl | ⟨rfl, heq⟩
      · exact Or.inl rfl
      · exact Or.inr (Or.inl ⟨rfl, heq⟩)
  · -- no kids are moved
    intro c p _ ho hp
    obtain ⟨hinv4, hfr4, hp4⟩ := inv_putPath hi.1 hi.2 s e (c :: p) rfl ho hp hlt
    exact Ho.of_eq (updateKids_skip_eq _ _ _ _ _ _ _ (show _ ∨ _ by rw [(hfr4.2 e s).1]; exact hleaf))
      (fun _ _ => ⟨hinv4, hfr4.1 ▸ hlt, hp4, (oidF_popPrior st s e).trans (oidF_putPath _ s e _), fun s' => (hfr4.2 e s').1, hfr4.1⟩) nofun

def GoodO (cfg : Cfg) (n : Nat) : Prop :=
  ∀ e s fv st, Inv st → e < st.ents.length → e ∉ st.moving → cfg.oip s = false → (∀ v, fv ≠ .oid v) →
    Tr (fun st' => st' = st) (sideSet cfg n e s fv) (fun _ st' => OidF st st') (OidF st)

theorem goodO_all (cfg : Cfg) : ∀ n, GoodO cfg n := fun n e s fv st hi hlt hm hoip hfv =>
  ((hook_all cfg n e s fv st hi hlt hm).conseq (fun _ _ h => h.2 hoip hfv) (fun _ _ h hx => (h.other hx).2 hoip hfv)).tr

/-- a leaf: `_update_kids` does nothing for it -/
def LeafAt (st : St) (e : Nat) (s : Sd) : Prop := (st.side e s).otype ≠ .dir ∨ (st.side e s).path = none

theorem LeafAt.frame {st st' : St} {e s} (h : LeafAt st e s) (hf : Frame none st st') : LeafAt st' e s := by
  unfold LeafAt; rw [(hf.2 e s).1, (hf.2 e s).2 (by simp)]; exact h

def SetOk (cfg : Cfg) (st : St) (e : Nat) (s : Sd) : Prop := LeafAt st e s ∨ cfg.oip s = false

theorem SetOk.frame {cfg : Cfg} {st st' : St} {e s} (h : SetOk cfg st e s) (hf : Frame none st st') : SetOk cfg st' e s :=
  h.elim (fun h => Or.inl (h.frame hf)) Or.inr

theorem changePath_setOk (cfg : Cfg) (n : Nat) (e : Nat) (s : Sd) (v : Option Path.Str) (st : St) (hi : Inv st)
    (hlt : e < st.ents.length) (hg : SetOk cfg st e s) :
    Ho st (changePath (sideSet cfg n) cfg s e v)
      (fun _ st' => Ready st' e s (st.side e s).oid v ∧ Pend st' ∧ OidF st st' ∧ st'.ents.length = st.ents.length)
      (fun x st' => x = .recursion ∨ (Inv st' ∧ st'.ents.length = st.ents.length)) := by
  refine (changePath_ho cfg n e s v st (Q := fun st' => OidF st st' ∧ st'.ents.length = st.ents.length) hi hlt
    { start := ⟨OidF.refl _, rfl⟩, assertFails := fun _ => Or.inr ⟨hi, rfl⟩, popped := fun _ => ⟨oidF_popPrior st s e, len_popPrior ..⟩,
      chg := fun st5 st6 h hrel => ⟨h.1.trans (fun i s' => (hrel.field i s').1), hrel.len.trans h.2⟩,
      noFuel := fun _ _ => Or.inl rfl, kids := ?_ }).conseq
    (fun _ st' h => ⟨h.2.2.1 e s ▸ h.1, h.2.1, h.2.2.1, h.2.2.2⟩) (fun _ _ h => h)
  intro c p _ ho hp
  obtain ⟨hinv4, hfr4, hp4⟩ := inv_putPath hi.1 hi.2 s e (c :: p) rfl ho hp hlt
  have ho4 : OidF st (putPath (popPrior st s e) s e (c :: p)) := (oidF_popPrior st s e).trans (oidF_putPath _ s e _)
  rcases hg with hleaf | hoip
  · -- no kids are moved
    exact Ho.of_eq (updateKids_skip_eq _ _ _ _ _ _ _ (show _ ∨ _ by rw [(hfr4.2 e s).1]; exact hleaf))
      (fun _ _ => ⟨hinv4, hfr4.1 ▸ hlt, hp4, ho4, hfr4.1⟩) nofun
  · refine (hook_updateKids cfg n (hook_all cfg n) s e _ (c :: p) _ hinv4).conseq ?_ ?_
    · rintro _ st5 ⟨h1, h2⟩
      exact ⟨h1, by rw [h2.len, hfr4.1]; exact hlt, by rw [h2.paths e (List.mem_cons_self ..) s]; exact hp4, ho4.trans (h2.oids hoip),
        h2.len.trans hfr4.1⟩
    · rintro x st5 ⟨_, hg⟩
      by_cases hx : x = .recursion
      · exact Or.inl hx
      · exact Or.inr ⟨(hg hx).1, (hg hx).2.len.trans hfr4.1⟩

theorem changePath_ready (cfg : Cfg) (n : Nat) (e : Nat) (s : Sd) (v : Option Path.Str) (st : St) (hi : Inv st)
    (hlt : e < st.ents.length) (hoip : cfg.oip s = false) :
    (changePath (sideSet cfg n) cfg s e v st).1 = .error .recursion ∨
    (∃ x, (changePath (sideSet cfg n) cfg s e v st).1 = .error x ∧ Inv (changePath (sideSet cfg n) cfg s e v st).2 ∧
      (changePath (sideSet cfg n) cfg s e v st).2.ents.length = st.ents.length) ∨
    ((changePath (sideSet cfg n) cfg s e v st).1 = .ok () ∧
      Ready (changePath (sideSet cfg n) cfg s e v st).2 e s (st.side e s).oid v ∧ Pend (changePath (sideSet cfg n) cfg s e v st).2 ∧
      (∀ i s', ((changePath (sideSet cfg n) cfg s e v st).2.side i s').oid = (st.side i s').oid) ∧
      (changePath (sideSet cfg n) cfg s e v st).2.ents.length = st.ents.length) :=
  (changePath_setOk cfg n e s v st hi hlt (Or.inr hoip)).outcome3

theorem updatedSide_changed_eq (setF : SetF) (cfg : Cfg) (e : Nat) (s : Sd) (v : Chg) (st : St) :
    updatedSide setF cfg e s (.changed v) st = (.ok (), (chgHook st e s v).dirtyAdd e) := by
  simp only [updatedSide, M.bind_apply, changedRule_eq, modifySt_apply]

theorem pendE_install (h2 : St) (e : Nat) (s : Sd) (v' : Side) (hlt : e < h2.ents.length)
    (hoid : v'.oid = (h2.side e s).oid ∨ v'.oid = none) :
    PendE e (((chgHook h2 e s v'.changed).dirtyAdd e).modSide e s (fun _ => v')) := by
  have hrel : ChgRel e h2 ((chgHook h2 e s v'.changed).dirtyAdd e) := (chgRel_chgHook h2 e s v'.changed).trans (chgRel_dirtyAdd e e _)
  have hl3 : e < ((chgHook h2 e s v'.changed).dirtyAdd e).ents.length := hrel.len ▸ hlt
  -- the flagged side is flagged, with the same id, in the state `pendE_chg` speaks of
  rintro ⟨s', h1, h2p⟩
  refine pendE_chg h2 e s v'.changed hlt ⟨s', ?_, ?_⟩ <;> rw [side_modSide] at h1 h2p ⊢
  all_goals rcases Sd.eq_or_other s s' with rfl | rfl
  · rw [if_pos ⟨rfl, rfl, hl3⟩] at h1 ⊢; exact h1
  · rw [if_neg (fun h => by cases s <;> cases h.2.1)] at h1 ⊢; exact h1
  · rw [if_pos ⟨rfl, rfl, hl3⟩] at h2p ⊢
    rw [(hrel.field e s').1, ← hoid.resolve_right (fun h => by rw [h] at h2p; cases h2p)]; exact h2p
  · rw [if_neg (fun h => by cases s <;> cases h.2.1)] at h2p ⊢; exact h2p

theorem install_inv (h2 : St) (e : Nat) (s : Sd) (v' : Side) (hr : Ready h2 e s v'.oid v'.path) (hp : PendBut e h2)
    (hoid : v'.oid = (h2.side e s).oid ∨ v'.oid = none) :
    Inv (((chgHook h2 e s v'.changed).dirtyAdd e).modSide e s (fun _ => v')) ∧
    (((chgHook h2 e s v'.changed).dirtyAdd e).modSide e s (fun _ => v')).ents.length = h2.ents.length := by
  have hrel : ChgRel e h2 ((chgHook h2 e s v'.changed).dirtyAdd e) := (chgRel_chgHook h2 e s v'.changed).trans (chgRel_dirtyAdd e e _)
  have hr3 : Ready ((chgHook h2 e s v'.changed).dirtyAdd e) e s v'.oid v'.path :=
    hr.congr hrel.len hrel.oids hrel.paths (fun i s' => ⟨(hrel.field i s').1, (hrel.field i s').2.1⟩)
  have hp3 : PendBut e ((chgHook h2 e s v'.changed).dirtyAdd e) := hp.chgRel hrel
  refine ⟨⟨hr3.install, ?_⟩, by simp only [len_modSide]; exact hrel.len⟩
  intro i hi
  by_cases hie : i = e
  · subst hie; exact pendE_install h2 i s v' hr.lt hoid hi
  · obtain ⟨s', h1, h2'⟩ := hi
    have hs : ((((chgHook h2 e s v'.changed).dirtyAdd e).modSide e s (fun _ => v')).side i s') =
        ((chgHook h2 e s v'.changed).dirtyAdd e).side i s' := by
      rw [side_modSide]; rw [if_neg (fun hh => hie hh.1)]
    rw [hs] at h1 h2'
    simpa using hp3 i hie ⟨s', h1, h2'⟩

theorem setItemHooks_ho (cfg : Cfg) (fuel : Nat) (dst : Nat) (side : Sd) (v' : Side) (st : St) (hi : Inv st)
    (hlt : dst < st.ents.length) (hg : SetOk cfg st dst side) :
    Ho st (setItemHooks cfg fuel dst side v')
      (fun _ st3 => Inv (st3.modSide dst side (fun _ => v')) ∧ (st3.modSide dst side (fun _ => v')).ents.length = st.ents.length)
      (fun x st3 => x = .recursion ∨ (Inv st3 ∧ st3.ents.length = st.ents.length)) := by
  have hfd : ∀ {a b : St}, Frame none a b → Frame none a (b.dirtyAdd dst) := fun h => h.trans (Frame.of_sides rfl fun _ _ => ⟨rfl, rfl⟩)
  have hpd : ∀ {a : St}, Pend a → Pend (a.dirtyAdd dst) := fun h => h.congr (fun i hi' => by simpa using hi') (fun _ _ => ⟨rfl, rfl⟩)
  have hpath : ∀ st1, Frame none st st1 → Inv st1 →
      Ho st1 (updatedSide (sideSet cfg fuel) cfg dst side (.path v'.path))
        (fun _ st2 => ∃ h, st2 = h.dirtyAdd dst ∧ Ready h dst side (st1.side dst side).oid v'.path ∧ Pend h ∧ OidF st1 h ∧
          h.ents.length = st.ents.length)
        (fun x st2 => x = .recursion ∨ (Inv st2 ∧ st2.ents.length = st.ents.length)) := by
    intro st1 hf hi1
    unfold updatedSide
    exact Ho.bind ((changePath_setOk cfg fuel dst side v'.path st1 hi1 (hf.1 ▸ hlt) (hg.frame hf)).conseq
      (fun _ _ h => ⟨h.1, h.2.1, h.2.2.1, h.2.2.2.trans hf.1⟩) (fun _ _ h => h.imp_right fun h => ⟨h.1, h.2.trans hf.1⟩))
      fun _ h hh => Ho.modify ⟨h, rfl, hh⟩
  unfold setItemHooks
  dsimp only
  -- after the first two hooks the entry side is ready; the `changed` hook and the side replacement are `install_inv`
  refine Ho.bind (R := fun _ h2 => Ready h2 dst side v'.oid v'.path ∧ PendBut dst h2 ∧
    (v'.oid = (h2.side dst side).oid ∨ v'.oid = none) ∧ h2.ents.length = st.ents.length) ?_ (fun _ h2 ⟨hr, hp, ho, hl⟩ =>
      Ho.of_eq (updatedSide_changed_eq ..) (fun _ _ => ⟨(install_inv h2 dst side v' hr hp ho).1, (install_inv h2 dst side v' hr hp ho).2.trans hl⟩) nofun)
  split
  · next hvo =>
    -- the path first, then the id slot is given up: the entry side is left without slots
    rw [hvo]
    refine Ho.bind (hpath st (Frame.refl _ _) hi) ?_
    rintro _ _ ⟨h1, rfl, hready, hP1, _, hlen1⟩
    refine (updatedSide_oid_ho (oustOk_fuel cfg fuel) cfg (ready_dirtyAdd hready dst).idx (hpd hP1) dst side none
      (by simpa [hlen1] using hlt)).conseq ?_ (fun _ _ h => Or.inl h.2)
    rintro _ _ ⟨_, rfl, st1, rfl, hI2, hC2, hP2, hf2⟩
    have hlen2 : st1.ents.length = st.ents.length := hf2.1.trans hlen1
    refine ⟨?_, ?_, Or.inr rfl, by simpa using hlen2⟩
    · refine ⟨?_, by simpa [hlen2] using hlt, ?_, ?_, fun h => absurd rfl h, fun h => absurd rfl h⟩
      · exact (hI2.mono (fun i s' hx => hx.elim id Or.inr)).congr (by simp) (by simp) (by simp) (by simp)
      · intro k hk; simp only [oids_dirtyAdd, oids_oidCsRule] at hk; exact absurd hk (hC2.1 k)
      · intro p k hk; simp only [slot_dirtyAdd, slot_oidCsRule] at hk; exact absurd hk (hC2.2 p k)
    · intro i hie ⟨s', h1', h2'⟩
      simp only [side_dirtyAdd, side_oidCsRule] at h1' h2'
      have := hP2 i ⟨s', h1', h2'⟩
      simp only [cs_dirtyAdd, oidCsRule]
      split <;> simp [this, hie]
  · next k hvo =>
    -- the id is indexed first, then the path
    rw [hvo]
    refine Ho.bind ((updatedSide_oid_ho (oustOk_fuel cfg fuel) cfg hi.1 hi.2 dst side (some k) hlt).conseq
      (fun _ _ h => h) (fun _ _ h => Or.inl h.2)) ?_
    rintro _ _ ⟨h, rfl, hI1, hP1, ho1, hf1⟩
    refine (hpath _ (hfd hf1) ⟨hI1.congr rfl (by simp) (by simp) (by simp), hpd hP1⟩).conseq ?_ (fun _ _ h => h)
    rintro _ _ ⟨h2, rfl, hready, hP2, hoid2, hlen2⟩
    rw [side_dirtyAdd, ho1] at hready
    exact ⟨ready_dirtyAdd hready dst, (hpd hP2).but dst, Or.inl (by rw [side_dirtyAdd, hoid2, side_dirtyAdd, ho1]), hlen2⟩

theorem setItemHooks_install (cfg : Cfg) (fuel : Nat) (dst : Nat) (side : Sd) (v' : Side) (st : St) (hi : Inv st)
    (hlt : dst < st.ents.length) (hleaf : (st.side dst side).otype ≠ .dir ∨ (st.side dst side).path = none) :
    (setItemHooks cfg fuel dst side v' st).1 = .error .recursion ∨
    (∃ x, (setItemHooks cfg fuel dst side v' st).1 = .error x ∧ Inv (setItemHooks cfg fuel dst side v' st).2 ∧
      (setItemHooks cfg fuel dst side v' st).2.ents.length = st.ents.length) ∨
    ((setItemHooks cfg fuel dst side v' st).1 = .ok () ∧
      Inv ((setItemHooks cfg fuel dst side v' st).2.modSide dst side (fun _ => v')) ∧
      ((setItemHooks cfg fuel dst side v' st).2.modSide dst side (fun _ => v')).ents.length = st.ents.length) :=
  (setItemHooks_ho cfg fuel dst side v' st hi hlt (Or.inl hleaf)).outcome3

/-- the stack is added afterwards, see `setItem_trG` -/
def InvLen (L : Nat) (st : St) : Prop := Inv st ∧ st.ents.length = L

/-- `val.path = None` on the giving side -/
theorem clearPath_tr (cfg : Cfg) (fuel : Nat) (src : Nat) (srcSide : Sd) (dst : Nat) (side : Sd) (L : Nat) (hs : src < L) :
    Tr (fun st => InvLen L st ∧ SetOk cfg st dst side) (sideSet cfg fuel src srcSide (.path none))
      (fun _ st' => InvLen L st' ∧ SetOk cfg st' dst side) (fun _ => False) := by
  cases fuel with
  | zero => exact sideSet_zero_tr _ _ _ _
  | succ n =>
    refine ho_tr.1 fun st ⟨⟨hi, hl⟩, hg⟩ => (sideSet_path_ho cfg n src srcSide none st
      (Q := fun st' => st'.ents.length = L ∧ SetOk cfg st' dst side) hi (hl ▸ hs)
      { start := ⟨hl, hg⟩, assertFails := nofun, popped := fun _ => ⟨(len_popPrior ..).trans hl, hg.frame (frame_popPrior ..)⟩,
        chg := fun st5 st6 h hrel => ⟨hrel.len.trans h.1, h.2.frame hrel.frame⟩, noFuel := fun _ _ h => absurd rfl h,
        kids := fun c p h => nomatch h } (fun st6 h => ⟨by simpa [pathFin] using h.1, ?_⟩)).conseq
      (fun _ _ h => ⟨⟨h.1, h.2.1⟩, h.2.2⟩) (fun _ _ h => h)
    -- the side that lost its path is a leaf now; every other side is as it was
    refine h.2.imp_left fun hleaf => ?_
    unfold LeafAt
    rw [side_pathFin]
    split
    · exact Or.inr rfl
    · exact hleaf

/-- state.py:409-437 `SyncEntry.__setitem__` -/
theorem setItem_trG (cfg : Cfg) (fuel : Nat) (dst : Nat) (side : Sd) (src : Nat) (srcSide : Sd) (L : Nat) (hd : dst < L) (hs : src < L) :
    Tr (fun st => InvL L st ∧ SetOk cfg st dst side) (setItem cfg fuel dst side src srcSide) (fun _ st' => InvL L st') Inv := by
  have h0 : Tr (fun st => InvLen L st ∧ SetOk cfg st dst side) (setItem cfg fuel dst side src srcSide) (fun _ st' => InvLen L st') Inv := by
    unfold setItem
    apply Tr.getSt_bind; intro st0
    refine Tr.bind (R := fun _ st' => InvLen L st' ∧ SetOk cfg st' dst side) ((clearPath_tr cfg fuel src srcSide dst side L hs).conseq
      (fun st h => h.2) (fun _ _ h => h) (fun _ h => h.elim)) (fun _ => ?_)
    refine Tr.bind (R := fun _ st' => InvLen L st' ∧ SetOk cfg st' dst side) (Tr.fix fun st2 ⟨⟨hi2, hl2⟩, hg2⟩ => ?_) (fun _ => ?_)
    · exact (sideSet_oid_tr cfg fuel noX src srcSide none st2).conseq (fun st h => ⟨h, h ▸ hi2.1, h ▸ hi2.2, h ▸ hl2 ▸ hs⟩)
        (fun _ st' h => ⟨⟨⟨h.1, h.2.1⟩, h.2.2.1.trans hl2⟩, hg2.frame h.2.2⟩) (fun _ h => h.elim)
    apply Tr.getSt_bind; intro st3
    simp only
    refine Tr.bind (R := fun _ st' => st' = st3 ∧ InvLen L st' ∧ SetOk cfg st' dst side) (Tr.assert (fun st h _ => h.2.1.1) (fun st h _ => h))
      (fun _ => ?_)
    refine ho_tr.1 fun st ⟨h3, ⟨hi3, hl3⟩, hg3⟩ => Ho.bind ((setItemHooks_ho cfg fuel dst side _ st hi3 (hl3 ▸ hd) hg3).conseq
      (fun _ _ h => h) (fun _ _ h hx => (h.resolve_left hx).1)) fun _ _ h => Ho.modify ⟨h.1, h.2.trans hl3⟩
  exact (h0.with_mov (keeps_setItem movWalk cfg fuel dst side src srcSide) []).conseq
    (fun st h => ⟨⟨⟨h.1.1, h.1.2.1⟩, h.2⟩, h.1.2.2⟩) (fun _ st' h => ⟨h.1.1, h.1.2, h.2⟩) (fun st' h => h.1)

theorem setItem_tr (cfg : Cfg) (fuel : Nat) (dst : Nat) (side : Sd) (src : Nat) (srcSide : Sd) (L : Nat) (hd : dst < L) (hs : src < L) :
    Tr (fun st => InvL L st ∧ LeafAt st dst side) (setItem cfg fuel dst side src srcSide) (fun _ st' => InvL L st') Inv :=
  (setItem_trG cfg fuel dst side src srcSide L hd hs).pre (fun _ h => ⟨h.1, Or.inl h.2⟩)

theorem setItem_trO (cfg : Cfg) (fuel : Nat) (dst : Nat) (side : Sd) (src : Nat) (srcSide : Sd) (L : Nat) (hd : dst < L) (hs : src < L)
    (hoip : cfg.oip side = false) :
    Tr (InvL L) (setItem cfg fuel dst side src srcSide) (fun _ st' => InvL L st') Inv :=
  (setItem_trG cfg fuel dst side src srcSide L hd hs).pre (fun _ h => ⟨h, Or.inr hoip⟩)

/-- state.py:1336-1376 `split` -/
theorem split_tr (cfg : Cfg) (fuel : Nat) (e : Nat) (L : Nat) (he : e < L) :
    Tr (InvL L) (split cfg fuel e) (fun _ st' => InvL (L + 1) st') Inv := by
  have he1 : e < L + 1 := Nat.lt_succ_of_lt he
  have hr1 : L < L + 1 := Nat.lt_succ_self L
  have ha : ∀ (b : St → Bool) {β} {m : M β} {Q : β → St → Prop}, Tr (InvL (L + 1)) m Q Inv →
      Tr (InvL (L + 1)) (getSt >>= fun st => assertM (b st) >>= fun _ => m) Q Inv :=
    fun b _ _ _ h => Tr.getSt_bind' fun _ => Tr.seq (Tr.assert (fun st h _ => h.1) (fun st h _ => h)) h
  unfold split
  refine Tr.getSt_bind' fun _ => Tr.bind (R := fun rep st' => rep = L ∧ InvL (L + 1) st' ∧ LeafAt st' L .L) ?_ (fun rep => ?_)
  · exact (newEntry_tr _ L Inv).conseq (fun _ h => h) (fun _ _ h => ⟨h.1, h.2.1, Or.inr (h.2.2 .L)⟩) (fun _ h => h)
  apply Tr.with_pre (φ := rep = L) (fun st h => h.1)
  rintro rfl
  refine Tr.getSt_bind' fun _ => Tr.seq (J := fun st' => InvL (rep + 1) st' ∧ LeafAt st' rep .L)
    (Tr.assert (fun st h _ => h.2.1.1) (fun st h _ => h.2)) ?_
  refine Tr.seq (setItem_tr cfg fuel rep .L e .L (rep + 1) hr1 he1) <| ha _ <| Tr.getSt_bind' fun _ =>
    Tr.seq (Tr.assert (fun st h _ => h.1) (fun st h _ => h)) <| Tr.seq (Tr.assert (fun st h _ => h.1) (fun st h _ => h)) <|
    Tr.seq (clearSide_tr cfg fuel e .L (rep + 1) he1) <| ha _ <| ha _ <| Tr.seq (markChanged_tr cfg fuel .L rep (rep + 1) hr1) <|
    Tr.seq (markChanged_tr cfg fuel .R e (rep + 1) he1) <| ha _ <| Tr.seq (sideSet_keeps cfg fuel rep .L _ (rep + 1) hr1) <|
    Tr.seq (sideSet_keeps cfg fuel e .R _ (rep + 1) he1) <| ha _ <| Tr.pure (fun _ h => h)

end CS.State
