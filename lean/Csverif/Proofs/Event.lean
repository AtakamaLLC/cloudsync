import Csverif.Model.Event
/-
Invariants of the EventManager model (Model/Event.lean), preserved by every action.  Each action lemma takes the
object apart into its fields, so that every projection and pc class computes, and builds the new `UpInv` from the
old one as `{ u with … }`: a clause that mentions no changed field carries over by unfolding, and what is listed
is what the action touches (`nofun`: the clause speaks of another pc).
-/
namespace CS.Event

/-- pcs of the part of `_do_unsafe` that follows `_do_first_init` -/
def PC.late : PC → Bool
  | .walkItem _ | .queueLoop _ | .events | .fetched _ | .save => true
  | _ => false

/-- pcs at which `_first_do` is still set although do() is past the entry of `_do_first_init` -/
def PC.err : PC → Bool
  | .errReset | .errForget | .errSave | .seedSave => true
  | _ => false

/-- pcs from which the walk is still ahead (or which never get to the event loop) -/
def PC.preWalk : PC → Bool
  | .idle | .firstInit | .seedSave | .walkItem _ | .errReset | .errForget | .errSave => true
  | _ => false

/-- pcs of the event loop that follows the walk: fetching, a fetched event in hand, saving the cursor -/
def PC.evLoop : PC → Bool
  | .events | .fetched _ | .save => true
  | _ => false

/- What each clause is there for (the field names are cited by number here and in Props/C06.lean).  `seed`: the position the stored
   cursor was last taken from the provider at (at or below it a walk answers); `base`: the position `_do_first_init` put the provider
   on (from there on the running engine answers for every event).
     u1 u3b   nothing has run on an object whose root is not validated
     u2       the cursor `_save_current_cursor` compares with never runs ahead of the provider
     u3a u3c  which pcs go with `_first_do` off / still on
     u4       no event handed out since `base` is dropped in memory (C06 `no_event_skipped_in_memory`); u5 u6 carry it through the queue
     u7 u8    what may be concluded from the stored cursor while a do() runs: absent (then below `seed`) or the one in memory
     u9       no event is processed before a needed walk (C06 `walk_precedes_events`); u10 u15: a root without cursor needs one
     u11      the roots are as configured; u12 u14: what seedSave and errSave may rely on
     u13      a needed walk shows in storage, so it survives a stop anywhere (C06 `walk_survives_restart`, with u7)
     g1       C06 `cursor_never_ahead`; g2 delivered means committed; g3 the provider accepts its own newest position -/
structure UpInv (s : St) (m : Mem) : Prop where
  u1 : m.validated = false → m.pc = .idle ∧ m.firstDo = true ∧ m.cursor = none
  u2 : m.firstDo = false → ∃ c, m.cursor = some (.int c) ∧ s.ghost.base ≤ c ∧ c ≤ s.prov.cur
  u3a : m.pc.late = true → m.firstDo = false
  u3b : m.pc ≠ .idle → m.validated = true
  u3c : m.pc.err = true → m.firstDo = true
  u4 : m.firstDo = false → (m.stopping = true ∧ m.pc = .idle) ∨
        ∀ i, s.ghost.base < i → i ≤ s.prov.cur → (Tr.ev i ∈ s.ghost.fresh ∨ i ∈ m.queue ∨ m.pc = .fetched i)
  u5 : ∀ rest, m.pc = .queueLoop rest → ∀ i ∈ m.queue, i ∈ rest ∨ Tr.ev i ∈ s.ghost.fresh
  u6 : m.pc.evLoop = true → m.queue = []
  u7 : m.validated = true → s.store.cursor = none ∨ s.store.cursor = m.cursor
  u8 : s.store.cursor = none → ∀ c, m.cursor = some (.int c) → c ≤ s.ghost.seed
  u9 : m.rootOid = true → m.needWalk = true → m.stopping = false → m.pc.preWalk = true
  u10 : m.validated = true → m.rootOid = true → m.cursor = none → m.needWalk = true
  u11 : s.cfg ≠ .noRoot → m.rootPath = true ∧ (m.validated = true → m.rootOid = true)
  u12 : m.pc = .seedSave → m.cursor = some (.int s.prov.cur)
  u13 : m.validated = true → m.rootOid = true → m.needWalk = true → s.store.walked = false ∨ m.cursor = none
  u14 : m.pc = .errSave → m.rootOid = true → s.store.walked = false
  u15 : m.pc = .seedSave → m.rootOid = true → m.needWalk = true

structure Inv (s : St) : Prop where
  g1 : ∀ c i, s.store.cursor = some (.int c) → s.ghost.seed < i → i ≤ c → i ∈ s.store.log
  g2 : ∀ i, Tr.ev i ∈ s.ghost.fresh → i ∈ s.store.log
  g3 : s.prov.minValid ≤ s.prov.latest
  up : ∀ m, s.mem = some m → UpInv s m

/-- the body of `u4`: every event the provider has handed out since `base` is delivered, waits in the queue `q`, or is the one a
    do() at `pc` has just fetched -/
def Accounted (s : St) (q : List Int) (pc : PC) : Prop :=
  ∀ i, s.ghost.base < i → i ≤ s.prov.cur → Tr.ev i ∈ s.ghost.fresh ∨ i ∈ q ∨ pc = .fetched i

theorem UpInv.accounted {s : St} {m : Mem} (u : UpInv s m) (hfd : m.firstDo = false) (hpc : m.pc ≠ .idle) :
    Accounted s m.queue m.pc :=
  (u.u4 hfd).resolve_left fun h => hpc h.2

theorem Accounted.move {s : St} {q : List Int} {pc : PC} (h : Accounted s q pc) (hpc : ∀ i, pc ≠ .fetched i) (pc' : PC) :
    Accounted s q pc' :=
  fun i a b => (h i a b).imp_right (Or.imp_right fun e => absurd e (hpc i))

theorem inv_init (cfg : RootCfg) (n : Nat) (p : Int) (objs : Nat) (r : Bool) : Inv (init cfg n p objs r) := by
  refine ⟨?_, ?_, ?_, ?_⟩ <;> simp [init] <;> omega

/-- the object as the constructor leaves it (event.py:62-95), before `_validate_root` -/
theorem upInv_newMem (s : St) : UpInv s (newMem s.cfg) := by
  constructor <;> simp [newMem, PC.late, PC.err, PC.preWalk, PC.evLoop]

theorem validateRoot_validated (p : Prov) (st : Store) (m : Mem) (hv : m.validated = true) : validateRoot p st m = m := by
  simp [validateRoot, hv]

/-- `_validate_root` (event.py:97-121) on an object not validated before: with both roots known, or none, it validates, takes the
    cursor from storage and (with a root) decides `need_walk`; otherwise it only records what it knows -/
theorem validateRoot_eq (p : Prov) (st : Store) (m : Mem) (hv : m.validated = false) :
    validateRoot p st m =
      if (p.rootSet || m.rootPath) = (p.rootSet || m.rootOid) then
        { m with rootPath := p.rootSet || m.rootPath, rootOid := p.rootSet || m.rootPath, cursor := st.cursor,
                 needWalk := if p.rootSet || m.rootPath then st.cursor.isNone || !st.walked else m.needWalk,
                 validated := true }
      else { m with rootPath := p.rootSet || m.rootPath, rootOid := p.rootSet || m.rootOid } := by
  simp only [validateRoot, hv]
  cases p.rootSet <;> cases m.rootPath <;> cases m.rootOid <;> simp

theorem validateRoot_pc (p : Prov) (st : Store) (m : Mem) :
    (validateRoot p st m).pc = m.pc ∧ (validateRoot p st m).stopping = m.stopping := by
  simp only [validateRoot]
  repeat' split
  all_goals exact ⟨rfl, rfl⟩

theorem UpInv.validateRoot {s : St} {m : Mem} (u : UpInv s m) : UpInv s (validateRoot s.prov s.store m) := by
  cases hv : m.validated with
  | true => rwa [validateRoot_validated _ _ m hv]
  | false =>
    obtain ⟨hpc, hfd, hc⟩ := u.u1 hv
    obtain ⟨validated, rootPath, rootOid, cursor, needWalk, firstDo, queue, stopping, pc⟩ := m
    cases hv; cases hpc; cases hfd; cases hc
    have hr : s.cfg ≠ .noRoot → (s.prov.rootSet || rootPath) = true := fun h => by
      simp [show rootPath = true from (u.u11 h).1]
    rw [validateRoot_eq _ _ _ rfl]
    split
    · exact { u with
        u1 := nofun
        u2 := nofun
        u3b := fun _ => rfl
        u7 := fun _ => Or.inr rfl
        u8 := fun h c hc => nomatch h.symm.trans hc
        u9 := fun _ _ _ => rfl
        u10 := fun _ (a : (s.prov.rootSet || rootPath) = true) (b : s.store.cursor = none) => by simp [a, b]
        u11 := fun h => ⟨hr h, fun _ => hr h⟩
        u12 := nofun
        u13 := fun _ (a : (s.prov.rootSet || rootPath) = true) b => by
          cases hw : s.store.walked
          · exact Or.inl rfl
          · exact Or.inr (by simpa [a, hw] using b)
        u14 := nofun
        u15 := nofun }
    · exact { u with
        u9 := fun _ _ _ => rfl
        u10 := nofun
        u11 := fun h => ⟨hr h, nofun⟩
        u13 := nofun
        u14 := nofun
        u15 := nofun }

theorem inv_start (s : St) (h : Inv s) : Inv (apply s .start) := by
  simp only [apply]
  split
  · exact h
  · exact ⟨h.g1, nofun, h.g3,
      fun | _, rfl => { (upInv_newMem { s with ghost := { s.ghost with fresh := [] } }).validateRoot with }⟩

/-- `do()` is entered (event.py:171-175): on to `_do_first_init` -/
theorem UpInv.callDo {s : St} {m : Mem} (u : UpInv s m) (hv : m.validated = true) (hpc : m.pc = .idle)
    (hst : m.stopping = false) : UpInv s { m with pc := .firstInit } := by
  obtain ⟨validated, rootPath, rootOid, cursor, needWalk, firstDo, queue, stopping, pc⟩ := m
  cases hv; cases hpc; cases hst
  exact { u with
    u1 := nofun
    u3a := nofun
    u3b := fun _ => rfl
    u3c := nofun
    u4 := fun hf => Or.inr (Accounted.move (pc := .idle) ((u.u4 hf).resolve_left fun h => nomatch h.1) nofun _)
    u5 := nofun
    u6 := nofun
    u9 := fun _ _ _ => rfl
    u12 := nofun
    u14 := nofun
    u15 := nofun }

theorem inv_callDo (s : St) (h : Inv s) : Inv (apply s .callDo) := by
  simp only [apply]
  split
  · exact h
  · rename_i m hm
    split
    · rename_i hidle
      have u := (h.up m hm).validateRoot
      obtain ⟨hpc, hst⟩ := validateRoot_pc s.prov s.store m
      split
      · rename_i hv
        exact ⟨h.g1, h.g2, h.g3, fun | _, rfl => { u.callDo hv (hpc.trans hidle.1) (hst.trans hidle.2) with }⟩
      · exact ⟨h.g1, h.g2, h.g3, fun | _, rfl => { u with }⟩
    · exact h

theorem inv_shutdown (s : St) (h : Inv s) : Inv (apply s .shutdown) := by
  simp only [apply]
  split
  · exact h
  · rename_i m hm
    have u := h.up m hm
    exact ⟨h.g1, h.g2, h.g3, fun | _, rfl => { u with
      u4 := fun hf => (u.u4 hf).imp_left fun h => ⟨rfl, h.2⟩
      u9 := fun _ _ => nofun }⟩

/-- `EventManager.busy`: one event fetched into the queue -/
theorem inv_busy (s : St) (h : Inv s) : Inv (apply s .busy) := by
  simp only [apply]
  split
  · exact h
  · rename_i m hm
    have u := h.up m hm
    obtain ⟨validated, rootPath, rootOid, cursor, needWalk, firstDo, queue, stopping, pc⟩ := m
    repeat' split
    any_goals exact h
    rename_i hpc _ _
    cases (hpc : pc = .idle)
    exact ⟨h.g1, h.g2, h.g3, fun | _, rfl => { u with
      u2 := fun hf => let ⟨c, hc, hb, hcur⟩ := u.u2 hf; ⟨c, hc, hb, Int.le_add_one hcur⟩
      u4 := fun hf => (u.u4 hf).imp_right fun h i a (b : i ≤ s.prov.cur + 1) =>
        if e : i = s.prov.cur + 1 then Or.inr (Or.inl (List.mem_append_right _ (e ▸ List.mem_singleton_self _)))
        else (h i a (by omega)).imp_right (Or.imp (List.mem_append_left _) nofun)
      u5 := nofun
      u6 := nofun
      u12 := nofun }⟩

/-- `CloudSync.forget`: cursor row, walk marker and entries dropped, `need_walk` and `_first_do` set; the cursor in memory stays -/
theorem inv_forget (s : St) (h : Inv s) : Inv (apply s .forget) := by
  simp only [apply]
  split
  · exact h
  · rename_i m hm
    have u := h.up m hm
    obtain ⟨validated, rootPath, rootOid, cursor, needWalk, firstDo, queue, stopping, pc⟩ := m
    split
    · rename_i hpc
      cases (hpc : pc = .idle)
      exact ⟨nofun, nofun, h.g3, fun | _, rfl => { u with
        u1 := fun hv => ⟨rfl, rfl, (u.u1 hv).2.2⟩
        u2 := nofun
        u3a := nofun
        u3c := nofun
        u4 := nofun
        u5 := nofun
        u7 := fun _ => Or.inl rfl
        u8 := fun _ c (hc : cursor = some (.int c)) => by cases hc; exact Int.le_max_right _ _
        u9 := fun _ _ _ => rfl
        u10 := fun _ _ _ => rfl
        u13 := fun _ _ _ => Or.inl rfl
        u14 := nofun
        u15 := nofun }⟩
    · exact h

theorem accept_some {p : Prov} {v : CVal} {c : Int} (h : p.accept? v = some c) : v = .int c ∧ p.minValid ≤ c := by
  cases v with
  | bad => cases h
  | int d =>
    simp only [Prov.accept?] at h
    split at h <;> cases h
    exact ⟨rfl, ‹_›⟩

/-- `_do_first_init` is over: on to the walk if one is needed, else to the queue (`afterInit`) -/
theorem UpInv.enter {s : St} {v rp ro c nw q st} (u : UpInv s ⟨v, rp, ro, c, nw, false, q, st, .firstInit⟩) :
    UpInv s ⟨v, rp, ro, c, nw, false, q, st, afterInit ⟨v, rp, ro, c, nw, false, q, st, .firstInit⟩ s.prov⟩ := by
  have h4 := u.accounted rfl nofun
  cases hnw : nw && ro <;> simp only [afterInit, hnw]
  · exact { u with
      u1 := fun h => nomatch (u.u3b nofun).symm.trans h
      u3a := fun _ => rfl
      u3b := fun _ => u.u3b nofun
      u3c := nofun
      u4 := fun _ => Or.inr (h4.move nofun _)
      u5 := fun _ h i hi => by cases h; exact Or.inl hi
      u6 := nofun
      u9 := fun (a : ro = true) (b : nw = true) _ => by simp [a, b] at hnw
      u12 := nofun
      u14 := nofun
      u15 := nofun }
  · exact { u with
      u1 := fun h => nomatch (u.u3b nofun).symm.trans h
      u3a := fun _ => rfl
      u3b := fun _ => u.u3b nofun
      u3c := nofun
      u4 := fun _ => Or.inr (h4.move nofun _)
      u5 := nofun
      u6 := nofun
      u9 := fun _ _ _ => rfl
      u12 := nofun
      u14 := nofun
      u15 := nofun }

/-- `_process_event` (state.update + storage_commit) keeps what is said of storage alone -/
theorem inv_deliver {s : St} (h : Inv s) (i : Int) {m : Mem} (u : UpInv (deliver s i) m) :
    Inv { deliver s i with mem := some m } :=
  ⟨fun c j hc hs hj => List.mem_cons_of_mem i (h.g1 c j hc hs hj),
   fun j hj => by
     rcases List.mem_cons.1 hj with e | hj
     · cases e; exact List.mem_cons_self
     · exact List.mem_cons_of_mem i (h.g2 j hj),
   h.g3, fun | _, rfl => { u with }⟩

section
variable {s : St} {m : Mem} {rootPath rootOid needWalk firstDo stopping : Bool} {cursor : Option CVal}
  {queue : List Int} {pc : PC} {k : Nat} {r : List Int} {i : Int} (h : Inv s) (u : UpInv s m)
  (hm : m = ⟨true, rootPath, rootOid, cursor, needWalk, firstDo, queue, stopping, pc⟩)
include h u hm

/-- `_do_first_init`: nothing to do after the first do(); else the provider's position is taken (no stored cursor), or the provider
    is put on the stored cursor, or rejects it -/
theorem inv_firstInit (hpc : pc = .firstInit) : Inv (stepUp s m) := by
  subst hm hpc
  cases firstDo with
  | false => exact ⟨h.g1, h.g2, h.g3, fun | _, rfl => { u.enter with }⟩
  | true =>
    cases cursor with
    | none =>
      have hsn : s.store.cursor = none := (u.u7 rfl).elim id id
      exact ⟨(fun c i hc => nomatch hsn.symm.trans hc), h.g2, h.g3, fun | _, rfl => { u with
        u1 := nofun
        u2 := nofun
        u3a := nofun
        u3b := fun _ => rfl
        u3c := fun _ => rfl
        u4 := nofun
        u5 := nofun
        u6 := nofun
        u7 := fun _ => Or.inl hsn
        u8 := fun _ c hc => by cases hc; exact Int.le_refl _
        u9 := fun _ _ _ => rfl
        u10 := nofun
        u12 := fun _ => rfl
        u13 := fun _ (a : rootOid = true) (b : needWalk = true) => Or.inl (by simp [stepUp, a, b])
        u14 := nofun
        u15 := fun _ a => u.u10 rfl a rfl }⟩
    | some v =>
      cases hacc : s.prov.accept? v with
      | some c =>
        -- the provider is put on the stored cursor: no event handed out yet
        obtain ⟨rfl, -⟩ := accept_some hacc
        simp only [stepUp, hacc, if_true]
        have u' : UpInv { s with prov := { s.prov with cur := c }, ghost := { s.ghost with base := c } }
            ⟨true, rootPath, rootOid, some (.int c), needWalk, false, queue, stopping, .firstInit⟩ := { u with
          u1 := nofun
          u2 := fun _ => ⟨c, rfl, Int.le_refl _, Int.le_refl _⟩
          u3a := nofun
          u3c := nofun
          u4 := fun _ => Or.inr fun i a b => absurd b (Int.not_le.2 a)
          u12 := nofun }
        exact ⟨h.g1, h.g2, h.g3, fun | _, rfl => { u'.enter with }⟩
      | none =>
        simp only [stepUp, hacc, if_true]
        exact ⟨h.g1, h.g2, h.g3, fun | _, rfl => { u with
          u1 := nofun
          u2 := nofun
          u3a := nofun
          u3b := fun _ => rfl
          u3c := fun _ => rfl
          u4 := nofun
          u5 := nofun
          u6 := nofun
          u9 := fun _ _ _ => rfl
          u10 := fun _ _ => nofun
          u12 := nofun
          u13 := fun _ a (b : (needWalk || !s.store.walked) = true) =>
            (Bool.or_eq_true_iff.1 b).elim (u.u13 rfl a) fun hw => Or.inl (by simpa using hw)
          u14 := nofun
          u15 := nofun }⟩

/-- the position taken from the provider is persisted: nothing lies between the seed and the cursor -/
theorem inv_seedSave (hpc : pc = .seedSave) : Inv (stepUp s m) := by
  subst hm hpc
  cases u.u3c rfl
  cases u.u12 rfl
  have u' : UpInv { s with store := { s.store with cursor := some (.int s.prov.cur) },
                           ghost := { s.ghost with seed := s.prov.cur, walkDue := true, base := s.prov.cur } }
      ⟨true, rootPath, rootOid, some (.int s.prov.cur), needWalk, false, queue, stopping, .firstInit⟩ := { u with
    u1 := nofun
    u2 := fun _ => ⟨_, rfl, Int.le_refl _, Int.le_refl _⟩
    u3a := nofun
    u3b := fun _ => rfl
    u3c := nofun
    u4 := fun _ => Or.inr fun i a b => absurd b (Int.not_le.2 a)
    u5 := nofun
    u6 := nofun
    u7 := fun _ => Or.inr rfl
    u8 := nofun
    u9 := fun _ _ _ => rfl
    u12 := nofun
    u14 := nofun
    u15 := nofun }
  exact ⟨fun c i hc hs hi => by cases hc; exact absurd hi (Int.not_le.2 hs), h.g2, h.g3,
    fun | _, rfl => { u'.enter with }⟩

/-- `_do_walk_if_needed`: one object offered, or the loop left on a stop request, or the marker written -/
theorem inv_walkItem (hpc : pc = .walkItem k) : Inv (stepUp s m) := by
  subst hm hpc
  cases u.u3a rfl
  have h4 := u.accounted rfl nofun
  cases k with
  | zero =>
    obtain ⟨c, hc, -⟩ := u.u2 rfl
    exact ⟨h.g1, h.g2, h.g3, fun | _, rfl => { u with
      u1 := nofun
      u3a := fun _ => rfl
      u3b := fun _ => rfl
      u3c := nofun
      u4 := fun _ => Or.inr (h4.move nofun _)
      u5 := fun _ h i hi => by cases h; exact Or.inl hi
      u6 := nofun
      u9 := fun _ => nofun
      u10 := fun _ _ h => nomatch hc.symm.trans h
      u12 := nofun
      u13 := fun _ _ => nofun
      u14 := nofun
      u15 := nofun }⟩
  | succ k =>
    cases stopping with
    | true =>
      exact ⟨h.g1, h.g2, h.g3, fun | _, rfl => { u with
        u1 := nofun
        u3a := fun _ => rfl
        u3b := fun _ => rfl
        u3c := nofun
        u4 := fun _ => Or.inr (h4.move nofun _)
        u5 := fun _ h i hi => by cases h; exact Or.inl hi
        u6 := nofun
        u9 := fun _ _ => nofun
        u12 := nofun
        u14 := nofun
        u15 := nofun }⟩
    | false =>
      exact ⟨h.g1, fun i hi => h.g2 i ((List.mem_cons.1 hi).resolve_left nofun), h.g3, fun | _, rfl => { u with
        u1 := nofun
        u3a := fun _ => rfl
        u3b := fun _ => rfl
        u3c := nofun
        u4 := fun _ => Or.inr fun i a b => (h4 i a b).imp (List.mem_cons_of_mem _) (Or.imp_right nofun)
        u5 := nofun
        u6 := nofun
        u9 := fun _ _ _ => rfl
        u12 := nofun
        u14 := nofun
        u15 := nofun }⟩

/-- the queued events of `_do_unsafe`: one delivered, or the queue is done with -/
theorem inv_queueLoop (hpc : pc = .queueLoop r) : Inv (stepUp s m) := by
  subst hm hpc
  cases u.u3a rfl
  have h4 := u.accounted rfl nofun
  have h5 := u.u5 r rfl
  cases r with
  | nil =>
    exact ⟨h.g1, h.g2, h.g3, fun | _, rfl => { u with
      u1 := nofun
      u3a := fun _ => rfl
      u3b := fun _ => rfl
      u3c := nofun
      u4 := fun _ => Or.inr fun i a b => (h4 i a b).elim Or.inl fun h =>
        h.elim (fun hq => Or.inl ((h5 i hq).resolve_left nofun)) nofun
      u5 := nofun
      u6 := fun _ => rfl
      u9 := fun a b c => nomatch u.u9 a b c
      u12 := nofun
      u14 := nofun
      u15 := nofun }⟩
  | cons i r =>
    exact inv_deliver h i { u with
      u1 := nofun
      u3a := fun _ => rfl
      u3b := fun _ => rfl
      u3c := nofun
      u4 := fun _ => Or.inr fun j a b => (h4 j a b).imp (List.mem_cons_of_mem _) (Or.imp_right nofun)
      u5 := fun _ h j hj => by
        cases h
        rcases h5 j hj with hj | hj
        · exact (List.mem_cons.1 hj).elim (fun e => Or.inr (e ▸ List.mem_cons_self)) Or.inl
        · exact Or.inr (List.mem_cons_of_mem _ hj)
      u6 := nofun
      u9 := fun a b c => nomatch u.u9 a b c
      u12 := nofun
      u14 := nofun
      u15 := nofun }

/-- top of the event loop of `_do_unsafe`: the provider hands out the next event, or the feed is drained -/
theorem inv_events (hpc : pc = .events) : Inv (stepUp s m) := by
  subst hm hpc
  cases u.u3a rfl
  have h4 := u.accounted rfl nofun
  cases u.u6 rfl
  simp only [stepUp]
  split
  · exact ⟨h.g1, h.g2, h.g3, fun | _, rfl => { u with
      u1 := nofun
      u2 := fun _ => let ⟨c, hc, hb, hcur⟩ := u.u2 rfl; ⟨c, hc, hb, Int.le_add_one hcur⟩
      u3a := fun _ => rfl
      u3b := fun _ => rfl
      u3c := nofun
      u4 := fun _ => Or.inr fun i a (b : i ≤ s.prov.cur + 1) =>
        if e : i = s.prov.cur + 1 then Or.inr (Or.inr (e ▸ rfl))
        else h4.move nofun _ i a (by omega)
      u5 := nofun
      u6 := fun _ => rfl
      u9 := fun a b c => nomatch u.u9 a b c
      u12 := nofun
      u14 := nofun
      u15 := nofun }⟩
  · exact ⟨h.g1, h.g2, h.g3, fun | _, rfl => { u with
      u1 := nofun
      u3a := fun _ => rfl
      u3b := fun _ => rfl
      u3c := nofun
      u4 := fun _ => Or.inr (h4.move nofun _)
      u5 := nofun
      u6 := fun _ => rfl
      u9 := fun a b c => nomatch u.u9 a b c
      u12 := nofun
      u14 := nofun
      u15 := nofun }⟩

/-- the event just fetched is processed, or dropped on a stop request -/
theorem inv_fetched (hpc : pc = .fetched i) : Inv (stepUp s m) := by
  subst hm hpc
  cases u.u3a rfl
  have h4 := u.accounted rfl nofun
  cases u.u6 rfl
  cases stopping with
  | true =>
    -- the event is dropped; the object has been told to stop for good
    exact ⟨h.g1, h.g2, h.g3, fun | _, rfl => { u with
      u1 := nofun
      u3a := nofun
      u3b := fun _ => rfl
      u3c := nofun
      u4 := fun _ => Or.inl ⟨rfl, rfl⟩
      u5 := nofun
      u6 := nofun
      u9 := fun _ _ => nofun
      u12 := nofun
      u14 := nofun
      u15 := nofun }⟩
  | false =>
    exact inv_deliver h i { u with
      u1 := nofun
      u3a := fun _ => rfl
      u3b := fun _ => rfl
      u3c := nofun
      u4 := fun _ => Or.inr fun j a b => (h4 j a b).elim (fun h => Or.inl (List.mem_cons_of_mem _ h)) fun h =>
        h.elim nofun fun e => by cases e; exact Or.inl List.mem_cons_self
      u5 := nofun
      u6 := fun _ => rfl
      u9 := fun a b c => nomatch u.u9 a b c
      u12 := nofun
      u14 := nofun
      u15 := nofun }

/-- `_save_current_cursor` at the end of do() -/
theorem inv_save (hpc : pc = .save) : Inv (stepUp s m) := by
  subst hm hpc
  cases u.u3a rfl
  have h4 := u.accounted rfl nofun
  cases u.u6 rfl
  obtain ⟨c0, rfl, hb, hcur⟩ := u.u2 rfl
  simp only [stepUp]
  split
  · refine ⟨fun c i hc hs hi => ?_, h.g2, h.g3, fun | _, rfl => { u with
      u1 := nofun
      u2 := fun _ => ⟨_, rfl, Int.le_trans hb hcur, Int.le_refl _⟩
      u3a := nofun
      u3b := fun _ => rfl
      u3c := nofun
      u4 := fun _ => Or.inr (h4.move nofun _)
      u5 := nofun
      u6 := nofun
      u7 := fun _ => Or.inr rfl
      u8 := nofun
      u9 := fun _ _ _ => rfl
      u10 := fun _ _ => nofun
      u12 := nofun
      u13 := fun _ a b => (u.u13 rfl a b).imp_right nofun
      u14 := nofun
      u15 := nofun }⟩
    -- the cursor moves from `c0` to the provider's position: below `c0` the old cursor vouches, above it
    -- every event handed out since first-init has been delivered, hence committed
    cases hc
    by_cases hle : i ≤ c0
    · rcases u.u7 rfl with h7 | h7
      · exact absurd (Int.lt_of_lt_of_le hs hle) (Int.not_lt.2 (u.u8 h7 c0 rfl))
      · exact h.g1 c0 i h7 hs hle
    · exact h.g2 i (((h4 i (by omega) hi).resolve_right fun h => h.elim nofun nofun))
  · exact ⟨h.g1, h.g2, h.g3, fun | _, rfl => { u with
      u1 := nofun
      u3a := nofun
      u3b := fun _ => rfl
      u3c := nofun
      u4 := fun _ => Or.inr (h4.move nofun _)
      u5 := nofun
      u6 := nofun
      u9 := fun _ _ _ => rfl
      u12 := nofun
      u14 := nofun
      u15 := nofun }⟩

/-- the last statement of the `CloudCursorError` handler: the reset position becomes the cursor and the seed, `need_walk` is set;
    the marker is gone already -/
theorem inv_errSave (hpc : pc = .errSave) : Inv (stepUp s m) := by
  subst hm hpc
  cases u.u3c rfl
  simp only [stepUp]
  split
  · exact ⟨fun c i hc hs hi => by cases hc; exact absurd hi (Int.not_le.2 hs), h.g2, h.g3, fun | _, rfl => { u with
      u1 := nofun
      u2 := nofun
      u3a := nofun
      u3b := fun _ => rfl
      u3c := nofun
      u4 := nofun
      u5 := nofun
      u6 := nofun
      u7 := fun _ => Or.inr rfl
      u8 := nofun
      u9 := fun _ _ _ => rfl
      u10 := fun _ _ _ => rfl
      u12 := nofun
      u13 := fun _ a _ => Or.inl (u.u14 rfl a)
      u14 := nofun
      u15 := nofun }⟩
  · rename_i hEq
    cases (Decidable.not_not.1 hEq : some (CVal.int s.prov.cur) = cursor)
    refine ⟨fun c i hc hs hi => ?_, h.g2, h.g3, fun | _, rfl => { u with
      u1 := nofun
      u2 := nofun
      u3a := nofun
      u3b := fun _ => rfl
      u3c := nofun
      u4 := nofun
      u5 := nofun
      u6 := nofun
      u8 := fun _ c hc => by cases hc; exact Int.le_refl _
      u9 := fun _ _ _ => rfl
      u10 := fun _ _ _ => rfl
      u12 := nofun
      u13 := fun _ a _ => Or.inl (u.u14 rfl a)
      u14 := nofun
      u15 := nofun }⟩
    cases ((u.u7 rfl).resolve_left fun h7 => nomatch h7.symm.trans hc).symm.trans hc
    exact absurd hi (Int.not_le.2 hs)

/-- inside the `CloudCursorError` handler, before its last statement (provider reset to its newest position; stored walk marker
    deleted): `_first_do` is still set, so nothing is claimed of positions, and the marker only goes -/
theorem inv_handler (hpc : pc = .errReset ∨ pc = .errForget) : Inv (stepUp s m) := by
  subst hm
  cases u.u3c (by rcases hpc with rfl | rfl <;> rfl)
  rcases hpc with rfl | rfl <;> exact ⟨h.g1, h.g2, h.g3, fun | _, rfl => { u with
    u1 := nofun
    u2 := nofun
    u3a := nofun
    u3b := fun _ => rfl
    u3c := fun _ => rfl
    u4 := nofun
    u5 := nofun
    u6 := nofun
    u9 := fun _ _ _ => rfl
    u12 := nofun
    u13 := fun _ a b => (u.u13 rfl a b).imp_left fun e => by simp [stepUp, e]
    -- only `errForget` goes on to `errSave`, and it has just dropped the marker
    u14 := fun e (a : rootOid = true) => by cases e <;> simp [stepUp, a]
    u15 := nofun }⟩

end

theorem inv_stepUp (s : St) (m : Mem) (hm : s.mem = some m) (h : Inv s) : Inv (stepUp s m) := by
  have u := h.up m hm
  obtain ⟨validated, rootPath, rootOid, cursor, needWalk, firstDo, queue, stopping, pc⟩ := m
  by_cases hidle : pc = .idle
  · cases hidle
    exact h
  cases u.u3b hidle
  cases pc with
  | idle => exact h
  | firstInit => exact inv_firstInit h u rfl rfl
  | seedSave => exact inv_seedSave h u rfl rfl
  | walkItem k => exact inv_walkItem h u rfl rfl
  | queueLoop r => exact inv_queueLoop h u rfl rfl
  | events => exact inv_events h u rfl rfl
  | fetched i => exact inv_fetched h u rfl rfl
  | save => exact inv_save h u rfl rfl
  | errReset => exact inv_handler h u rfl (.inl rfl)
  | errForget => exact inv_handler h u rfl (.inr rfl)
  | errSave => exact inv_errSave h u rfl rfl

theorem inv_apply (s : St) (a : Act) (h : Inv s) : Inv (apply s a) := by
  cases a with
  | user n => exact ⟨h.g1, h.g2, Int.le_add_one h.g3, fun m hm => { h.up m hm with }⟩
  | expire d =>
    exact ⟨h.g1, h.g2, Int.sub_le_self _ (Int.natCast_nonneg d), fun m hm => { h.up m hm with }⟩
  | setRoot =>
    simp only [apply]
    split
    · exact h
    · exact ⟨h.g1, h.g2, h.g3, fun m hm => { h.up m hm with }⟩
  | start => exact inv_start s h
  | stop => exact ⟨h.g1, h.g2, h.g3, fun _ hm => nomatch hm⟩
  | shutdown => exact inv_shutdown s h
  | callDo => exact inv_callDo s h
  | step =>
    simp only [apply]
    split
    · exact h
    · rename_i m hm
      exact inv_stepUp s m hm h
  | busy => exact inv_busy s h
  | forget => exact inv_forget s h
  | corrupt | delCursor =>
    simp only [apply]
    split
    · exact h
    · rename_i hd
      exact ⟨nofun, h.g2, h.g3, fun _ hm => nomatch hd.symm.trans hm⟩
  | delWalk | provCur _ | unsetRoot =>
    simp only [apply]
    split
    · exact h
    · rename_i hd
      exact ⟨h.g1, h.g2, h.g3, fun _ hm => nomatch hd.symm.trans hm⟩

theorem run_induction {P : St → Prop} (keeps : ∀ s a, P s → P (apply s a)) (s : St) (acts : List Act)
    (h : P s) : P (run s acts) := by
  induction acts generalizing s with
  | nil => exact h
  | cons a as ih => exact ih (apply s a) (keeps s a h)

theorem inv_run (s : St) (acts : List Act) (h : Inv s) : Inv (run s acts) :=
  run_induction inv_apply s acts h

/-- what makes the (next) engine walk: in memory `need_walk`, or a cursor its first do() will see rejected; on disk
    (engine down or root not validated yet) a missing or non-integer cursor, or a missing walk marker -/
def WalkPending (s : St) : Prop :=
  match s.mem with
  | some m =>
    if m.validated then m.needWalk = true ∨ (m.firstDo = true ∧ m.cursor = some .bad)
    else s.store.cursor = none ∨ s.store.cursor = some .bad ∨ s.store.walked = false
  | none => s.store.cursor = none ∨ s.store.cursor = some .bad ∨ s.store.walked = false

instance (s : St) : Decidable (WalkPending s) := by
  unfold WalkPending
  split
  · split <;> infer_instance
  · infer_instance

/-- `need_walk` set only in memory while storage holds both a walk marker and an integer cursor: an engine that went away in
    such a state would come back without walking.  No reachable state is like this (`former_window_unreachable`, by `u13` and `u7`). -/
def FormerWindow (s : St) : Prop :=
  ∃ m, s.mem = some m ∧ m.validated = true ∧ m.rootOid = true ∧ m.needWalk = true ∧ s.store.walked = true ∧
    ∃ c, s.store.cursor = some (.int c)

/-- the walk that is due has not been forgotten -/
def NoLost (s : St) : Prop := s.ghost.walkDue = true → WalkPending s

/- `fun_cases stepUp s m` yields one goal per statement of do(), in the order of the text of `stepUp`:
     1 idle · `_do_first_init`: 2 position taken (no cursor), 3 cursor accepted, 4 cursor rejected, 5 nothing to do · 6 seedSave ·
     walk: 7 left on a stop request, 8 one object, 9 marker written · queue: 10 one event, 11 done · event loop: 12 fetch, 13 feed drained,
     14 fetched event dropped on a stop request, 15 fetched event processed · 16 cursor saved, 17 cursor unchanged ·
     handler: 18 errReset, 19 errForget, 20 errSave.
   The names a `case caseN …` binds are the hypotheses and the `let` variables of the model (`m'`, `c`, `s'`) in the order of the context. -/
theorem stepUp_cfg (s : St) (m : Mem) : (stepUp s m).cfg = s.cfg := by
  fun_cases stepUp s m <;> rfl

theorem apply_cfg (s : St) (a : Act) : (apply s a).cfg = s.cfg := by
  fun_cases apply s a <;> first | rfl | exact stepUp_cfg ..

theorem run_cfg (s : St) (acts : List Act) : (run s acts).cfg = s.cfg :=
  run_induction (P := fun t => t.cfg = s.cfg) (fun t a h => (apply_cfg t a).trans h) s acts rfl

theorem nolost_step (s : St) (m : Mem) (hm : s.mem = some m) (h : Inv s) (hcfg : s.cfg ≠ .noRoot)
    (hn : NoLost s) : NoLost (stepUp s m) := by
  have u := h.up m hm
  have hro := (u.u11 hcfg).2
  obtain ⟨cfg, prov, store, mem, ghost⟩ := s
  cases hm
  obtain ⟨validated, rootPath, rootOid, cursor, needWalk, firstDo, queue, stopping, pc⟩ := m
  by_cases hidle : pc = .idle
  · cases hidle
    exact hn
  cases u.u3b hidle
  -- only seven statements write what `NoLost` reads (`walkDue`, `need_walk`, `_first_do`, the cursor in memory)
  fun_cases stepUp _ _
  -- 2, `_do_first_init` takes the provider's position: a root without cursor has `need_walk` (`u10`)
  case case2 _ _ hc _ =>
    cases hc
    exact fun _ => Or.inl (u.u10 rfl (hro rfl) rfl)
  -- 3, `_do_first_init` puts the provider on the accepted cursor: `_first_do` goes off, so what was pending was `need_walk`
  case case3 _ _ v hc c hacc _ =>
    cases hc
    cases (accept_some hacc).1
    exact fun hd => (hn hd).imp_right nofun
  -- 4, the cursor is rejected: `need_walk` can only be set
  case case4 =>
    exact fun hd => (hn hd).imp_left fun a => by simp [show needWalk = true from a]
  -- 6, seedSave makes the walk due: `need_walk` is set there (`u15`)
  case case6 hpc _ =>
    exact fun _ => Or.inl (u.u15 hpc (hro rfl))
  -- 9, the walk marker is written: no walk is due any more
  case case9 =>
    exact nofun
  -- 16, the cursor is saved at the end of do(): `_first_do` is off, so `need_walk` it is
  case case16 hpc _ _ =>
    cases hpc
    cases u.u3a rfl
    exact fun hd => (hn hd).imp_right nofun
  -- 20, errSave sets `need_walk`
  case case20 =>
    exact fun _ => Or.inl rfl
  -- every other statement leaves those four alone
  all_goals exact hn

/-- `_validate_root`, when it validates, turns what storage says about a walk into what the object will do -/
theorem walkPending_validateRoot (p : Prov) (st : Store) (m : Mem) (hv : m.validated = false)
    (hrp : m.rootPath = true) (hfd : m.firstDo = true)
    (hd : st.cursor = none ∨ st.cursor = some .bad ∨ st.walked = false) :
    if (validateRoot p st m).validated then
      (validateRoot p st m).needWalk = true ∨
        ((validateRoot p st m).firstDo = true ∧ (validateRoot p st m).cursor = some .bad)
    else st.cursor = none ∨ st.cursor = some .bad ∨ st.walked = false := by
  rw [validateRoot_eq p st m hv]
  split
  · rcases hd with hd | hd | hd
    · exact Or.inl (by simp [hrp, hd])
    · exact Or.inr ⟨hfd, hd⟩
    · exact Or.inl (by simp [hrp, hd])
  · simpa [hv] using hd

theorem nolost_apply (s : St) (a : Act) (h : Inv s) (hcfg : s.cfg ≠ .noRoot) (hn : NoLost s) :
    NoLost (apply s a) := by
  obtain ⟨cfg, prov, store, mem, ghost⟩ := s
  cases mem with
  | none =>
    cases a with
    | start =>
      exact fun hd => walkPending_validateRoot prov store (newMem cfg) rfl (by simpa [newMem] using hcfg) rfl (hn hd)
    | setRoot => simp only [apply]; split <;> exact hn
    | corrupt => exact fun _ => Or.inr (Or.inl rfl)
    | delCursor => exact fun _ => Or.inl rfl
    | delWalk => exact fun _ => Or.inr (Or.inr rfl)
    | _ => exact hn
  | some m =>
    have u := h.up m rfl
    cases a with
    | step => exact nolost_step _ m rfl h hcfg hn
    | setRoot => simp only [apply]; split <;> exact hn
    | stop =>
      -- whatever the object would have done is also written in storage
      intro hd
      have hp : if m.validated then _ else _ := hn hd
      split at hp
      · rename_i hv
        have h7 := u.u7 hv
        rcases hp with hp | hp
        · rcases u.u13 hv ((u.u11 hcfg).2 hv) hp with h | h
          · exact Or.inr (Or.inr h)
          · exact Or.inl (h7.elim id (·.trans h))
        · exact h7.elim Or.inl fun h7 => Or.inr (Or.inl (h7.trans hp.2))
      · exact hp
    | callDo =>
      simp only [apply]
      split
      · cases hv : m.validated with
        | true =>
          rw [validateRoot_validated prov store m hv, if_pos hv]
          exact hn
        | false =>
          have key := fun hd => walkPending_validateRoot prov store m hv (u.u11 hcfg).1 (u.u1 hv).2.1
            (by simpa [WalkPending, hv] using hn hd)
          generalize validateRoot prov store m = m' at key ⊢
          rcases m' with ⟨_ | _, _, _, _, _, _, _, _, _⟩ <;> exact key
      · exact hn
    | busy =>
      simp only [apply]
      repeat' split
      all_goals exact hn
    | forget =>
      simp only [apply]
      split
      · intro _
        show if m.validated then _ else _
        split
        · exact Or.inl rfl
        · exact Or.inl rfl
      · exact hn
    | _ => exact hn

theorem finish_of_idle (n : Nat) (s : St) (h : s.pcIdle = true) : finish n s = s := by
  cases n <;> simp [finish, h]

theorem finish_succ (n : Nat) (s : St) (h : s.pcIdle = false) : finish (n+1) s = finish n (apply s .step) := by
  simp [finish, h]

theorem finish_inv (n : Nat) (s : St) (h : Inv s) : Inv (finish n s) := by
  induction n generalizing s with
  | zero => exact h
  | succ n ih =>
    cases hi : s.pcIdle with
    | true => rwa [finish_of_idle _ s hi]
    | false => rw [finish_succ n s hi]; exact ih _ (inv_apply s .step h)

theorem apply_step {s : St} {m : Mem} (hm : s.mem = some m) : apply s .step = stepUp s m := by
  simp only [apply, hm]

theorem measure_stepUp {s : St} {m : Mem} (hm : s.mem = some m) (hni : m.pc ≠ .idle) : measure (stepUp s m) < measure s := by
  fun_cases stepUp s m
  -- 1, idle: excluded
  case case1 =>
    contradiction
  -- 3, `_do_first_init` accepts the cursor `c`: the provider's position jumps back to it, so `latest - cur` may grow to `latest - c`
  -- (`x` below): the summand `d'` of the measure at `.firstInit` pays for that
  case case3 hpc _ v hc c hacc m' =>
    cases (accept_some hacc).1
    cases hnw : m.needWalk && m.rootOid <;>
      simp only [measure, hm, hpc, hc, afterInit, m', hnw, Option.bind_some, CVal.toInt?, Bool.false_eq_true, if_false, if_true] <;>
      generalize (s.prov.latest - c).toNat = x <;>
      omega
  -- 5, `_do_first_init` with nothing to do, and 6, seedSave: on to the walk or to the queue (`afterInit`)
  case case5 hpc m' | case6 hpc m' =>
    cases hnw : m.needWalk && m.rootOid <;>
      simp only [measure, hm, hpc, afterInit, m', hnw, Bool.false_eq_true, if_false, if_true] <;>
      omega
  -- every other statement: the measure at its pc and at the next one differ by a constant, or `latest - cur` drops
  all_goals
    simp +zetaDelta only [measure, deliver, *, List.length_cons] <;>
    omega

theorem measure_step (s : St) (hni : s.pcIdle = false) : measure (apply s .step) < measure s := by
  cases hm : s.mem with
  | none => simp [St.pcIdle, hm] at hni
  | some m =>
    rw [apply_step hm]
    exact measure_stepUp hm (by simpa [St.pcIdle, hm] using hni)

/-- every do() returns -/
theorem finish_idle (n : Nat) (s : St) (h : measure s ≤ n) : (finish n s).pcIdle = true := by
  induction n generalizing s with
  | zero =>
    cases hi : s.pcIdle with
    | true => exact hi
    | false => have := measure_step s hi; omega
  | succ n ih =>
    cases hi : s.pcIdle with
    | true => rwa [finish_of_idle _ s hi]
    | false => rw [finish_succ n s hi]; exact ih _ (by have := measure_step s hi; omega)

end CS.Event
