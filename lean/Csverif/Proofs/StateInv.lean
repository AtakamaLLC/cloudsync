import Csverif.Proofs.State
/-
C11: the invariant (`Idx X` = the index clauses up to an exemption set `X`, `Pend` = the pending-set clause) and its
behaviour under the atomic index mutations.
-/
namespace CS.State

section proj
variable (st : St)

@[simp] theorem oids_popPathSlot (s : Sd) (p k) (s' : Sd) : (st.popPathSlot s p k).oids s' = st.oids s' := by
  unfold St.popPathSlot; split
  · rfl
  · dsimp only; split <;> simp
@[simp] theorem ents_popPathSlot (s : Sd) (p k) : (st.popPathSlot s p k).ents = st.ents := by
  unfold St.popPathSlot; split
  · rfl
  · dsimp only; split <;> simp
@[simp] theorem cs_popPathSlot (s : Sd) (p k) : (st.popPathSlot s p k).cs = st.cs := by
  unfold St.popPathSlot; split
  · rfl
  · dsimp only; split <;> simp
@[simp] theorem side_popPathSlot (s : Sd) (p k) (i : Nat) (s' : Sd) : (st.popPathSlot s p k).side i s' = st.side i s' := by
  simp [St.side, St.ent]

theorem get_paths_popPathSlot (s : Sd) (p : Option Path.Str) (k : Oid) (s' : Sd) (p' : Option Path.Str) :
    AL.get ((st.popPathSlot s p k).paths s') p' =
      if s' = s ∧ p' = p then
        (match AL.get (st.paths s) p with
          | none => none
          | some b => if (AL.erase b k).isEmpty then none else some (AL.erase b k))
      else AL.get (st.paths s') p' := by
  unfold St.popPathSlot
  cases h : AL.get (st.paths s) p with
  | none =>
    simp only
    split
    · next h' => obtain ⟨h1, h2⟩ := h'; subst h1; subst h2; exact h
    · rfl
  | some b =>
    simp only
    by_cases he : (AL.erase b k).isEmpty
    · simp only [he, if_true, paths_setPaths]
      by_cases hs : s' = s
      · subst hs; simp only [if_true, true_and, AL.get_erase]
      · simp [hs]
    · simp only [he]
      by_cases hs : s' = s
      · subst hs; simp [AL.get_set]
      · simp [hs]

@[simp] theorem oids_setPathSlot (s : Sd) (p k) (i : Nat) (s' : Sd) : (st.setPathSlot s p k i).oids s' = st.oids s' := by
  simp [St.setPathSlot]
@[simp] theorem ents_setPathSlot (s : Sd) (p k) (i : Nat) : (st.setPathSlot s p k i).ents = st.ents := by
  simp [St.setPathSlot]
@[simp] theorem cs_setPathSlot (s : Sd) (p k) (i : Nat) : (st.setPathSlot s p k i).cs = st.cs := by
  simp [St.setPathSlot]
@[simp] theorem side_setPathSlot (s : Sd) (p k) (i j : Nat) (s' : Sd) : (st.setPathSlot s p k i).side j s' = st.side j s' := by
  simp [St.side, St.ent]

theorem get_paths_setPathSlot (s : Sd) (p : Option Path.Str) (k : Oid) (i : Nat) (s' : Sd) (p' : Option Path.Str) :
    AL.get ((st.setPathSlot s p k i).paths s') p' =
      if s' = s ∧ p' = p then some (AL.set ((AL.get (st.paths s) p).getD []) k i) else AL.get (st.paths s') p' := by
  unfold St.setPathSlot
  simp only [paths_setPaths]
  by_cases hs : s' = s
  · subst hs; simp only [if_true, true_and, AL.get_set]
  · simp [hs]

end proj

theorem slot_congr {st st' : St} (h : ∀ s, st'.paths s = st.paths s) (s p k) : st'.slot s p k = st.slot s p k := by
  unfold St.slot; rw [h]

section slot
variable (st : St)
@[simp] theorem slot_setOids (s o s' p k) : (st.setOids s o).slot s' p k = st.slot s' p k := slot_congr (by simp) ..
@[simp] theorem slot_modSide (i s f s' p k) : (st.modSide i s f).slot s' p k = st.slot s' p k := slot_congr (by simp) ..
@[simp] theorem slot_modEnt (i f s' p k) : (st.modEnt i f).slot s' p k = st.slot s' p k := slot_congr (by simp) ..
@[simp] theorem slot_csAdd (i s' p k) : (st.csAdd i).slot s' p k = st.slot s' p k := slot_congr (by simp) ..
@[simp] theorem slot_csDiscard (i s' p k) : (st.csDiscard i).slot s' p k = st.slot s' p k := slot_congr (by simp) ..
@[simp] theorem slot_dirtyAdd (i s' p k) : (st.dirtyAdd i).slot s' p k = st.slot s' p k := slot_congr (by simp) ..

theorem slot_popPathSlot (s : Sd) (p : Option Path.Str) (k : Oid) (s' : Sd) (p' : Option Path.Str) (k' : Oid) :
    (st.popPathSlot s p k).slot s' p' k' = if s' = s ∧ p' = p ∧ k' = k then none else st.slot s' p' k' := by
  unfold St.slot
  rw [get_paths_popPathSlot]
  by_cases h : s' = s ∧ p' = p
  · obtain ⟨h1, h2⟩ := h; subst h1; subst h2
    simp only [and_self, if_true, true_and]
    cases hb : AL.get (st.paths s') p' with
    | none => simp
    | some b =>
      simp only
      by_cases he : (AL.erase b k).isEmpty
      · simp only [he, if_true]
        by_cases hk : k' = k
        · simp [hk]
        · simp only [hk, if_false]
          have : AL.erase b k = [] := by simpa using he
          exact (AL.get_eq_none_of_erase_eq_nil b k this k' hk).symm
      · simp [he, AL.get_erase]
  · have : ¬ (s' = s ∧ p' = p ∧ k' = k) := fun hh => h ⟨hh.1, hh.2.1⟩
    simp only [h, this, if_false]

theorem slot_setPathSlot (s : Sd) (p : Option Path.Str) (k : Oid) (i : Nat) (s' : Sd) (p' : Option Path.Str) (k' : Oid) :
    (st.setPathSlot s p k i).slot s' p' k' = if s' = s ∧ p' = p ∧ k' = k then some i else st.slot s' p' k' := by
  unfold St.slot
  rw [get_paths_setPathSlot]
  by_cases h : s' = s ∧ p' = p
  · obtain ⟨h1, h2⟩ := h; subst h1; subst h2
    simp only [and_self, if_true, true_and, AL.get_set]
    cases hb : AL.get (st.paths s') p' <;> simp
  · have : ¬ (s' = s ∧ p' = p ∧ k' = k) := fun hh => h ⟨hh.1, hh.2.1⟩
    simp only [h, this, if_false]
end slot

def PathKeyOk (st : St) : Prop :=
  ∀ s p b, AL.get (st.paths s) p = some b → truthyS p = true ∧ b ≠ [] ∧ ∀ x ∈ b, x.2 < st.ents.length

theorem PathKeyOk.congr {st st' : St} (h : PathKeyOk st) (hp : ∀ s, st'.paths s = st.paths s)
    (hl : st.ents.length ≤ st'.ents.length) : PathKeyOk st' := by
  intro s p b hb; rw [hp] at hb
  obtain ⟨h1, h2, h3⟩ := h s p b hb
  exact ⟨h1, h2, fun x hx => Nat.lt_of_lt_of_le (h3 x hx) hl⟩

theorem PathKeyOk.pop {st : St} (h : PathKeyOk st) (s p k) : PathKeyOk (st.popPathSlot s p k) := by
  intro s' p' b hb
  rw [get_paths_popPathSlot] at hb
  simp only [ents_popPathSlot]
  by_cases hc : s' = s ∧ p' = p
  · obtain ⟨h1, h2⟩ := hc; subst h1; subst h2
    simp only [and_self, if_true] at hb
    cases hb0 : AL.get (st.paths s') p' with
    | none => rw [hb0] at hb; cases hb
    | some b0 =>
      rw [hb0] at hb; simp only at hb
      by_cases he : (AL.erase b0 k).isEmpty
      · simp [he] at hb
      · simp only [he] at hb
        cases hb
        obtain ⟨g1, _, g3⟩ := h s' p' b0 hb0
        refine ⟨g1, ?_, fun x hx => g3 x (AL.mem_of_mem_erase hx)⟩
        intro hnil; rw [hnil] at he; simp at he
  · simp only [hc, if_false] at hb; exact h s' p' b hb

theorem PathKeyOk.setSlot {st : St} (h : PathKeyOk st) (s p k i) (ht : truthyS p = true) (hi : i < st.ents.length) :
    PathKeyOk (st.setPathSlot s p k i) := by
  intro s' p' b hb
  rw [get_paths_setPathSlot] at hb
  simp only [ents_setPathSlot]
  by_cases hc : s' = s ∧ p' = p
  · simp only [hc, and_self, if_true] at hb
    cases hb
    refine ⟨hc.2 ▸ ht, AL.set_ne_nil _ _ _, fun x hx => ?_⟩
    rcases AL.mem_of_mem_set hx with hx | hx
    · rw [hx]; exact hi
    · cases hb0 : AL.get (st.paths s) p with
      | none => rw [hb0] at hx; simp at hx
      | some b0 => rw [hb0] at hx; exact (h s p b0 hb0).2.2 x hx
  · simp only [hc, if_false] at hb; exact h s' p' b hb

/-- exemption set: entry sides whose index update is in flight -/
abbrev Ex2 := Nat → Sd → Prop
def Ex2.add (X : Ex2) (e : Nat) (s : Sd) : Ex2 := fun i s' => X i s' ∨ (i = e ∧ s' = s)
def noX : Ex2 := fun _ _ => False

/-- the index clauses of `IndexInv`; they are read one by one, in `SyncState`'s terms, in the header of Props/C11.lean (id slots: `bnd`,
    `oidKey`, `oidSlot`; `(path, id)` slots: `pathKey`, `pathSlot`; every entry is found where its fields say: `byOid`, `byPath`).
    `X` exempts entry sides whose index update is in flight from the last two. -/
structure Idx (X : Ex2) (st : St) : Prop where
  bnd : ∀ s k i, AL.get (st.oids s) k = some i → i < st.ents.length
  oidKey : ∀ s, AL.get (st.oids s) none = none
  oidSlot : ∀ s k i, AL.get (st.oids s) k = some i → (st.side i s).oid = k
  pathKey : PathKeyOk st
  pathSlot : ∀ s p k i, st.slot s p k = some i →
      (st.side i s).path = p ∧ (st.side i s).oid = k ∧ AL.get (st.oids s) k = some i
  /-- an `i` past the end of `ents` reads as `default`, which carries no id (`oid_oob`), so no bound on `i` is needed -/
  byOid : ∀ i s, ¬ X i s → (st.side i s).oid ≠ none → AL.get (st.oids s) (st.side i s).oid = some i
  byPath : ∀ i s, ¬ X i s → (st.side i s).oid ≠ none → truthyS (st.side i s).path = true →
      st.slot s (st.side i s).path (st.side i s).oid = some i

/-- the pending-set clause of `IndexInv` (the last item of that list) -/
def Pend (st : St) : Prop :=
  ∀ i, (∃ s, (st.side i s).changed.truthy = true ∧ truthyS (st.side i s).oid = true) → i ∈ st.cs

theorem Idx.congr_le {X st st'} (h : Idx X st) (hl : st.ents.length ≤ st'.ents.length)
    (ho : ∀ s, st'.oids s = st.oids s) (hp : ∀ s, st'.paths s = st.paths s)
    (hf : ∀ i s, (st'.side i s).oid = (st.side i s).oid ∧ (st'.side i s).path = (st.side i s).path) : Idx X st' := by
  have hs : ∀ s p k, st'.slot s p k = st.slot s p k := slot_congr hp
  constructor
  · intro s k i hg; rw [ho] at hg; exact Nat.lt_of_lt_of_le (h.bnd s k i hg) hl
  · intro s; rw [ho]; exact h.oidKey s
  · intro s k i hg; rw [ho] at hg; rw [(hf i s).1]; exact h.oidSlot s k i hg
  · exact h.pathKey.congr hp hl
  · intro s p k i hg; rw [hs] at hg; rw [(hf i s).1, (hf i s).2, ho]; exact h.pathSlot s p k i hg
  · intro i s hx hn; rw [(hf i s).1] at hn ⊢; rw [ho]; exact h.byOid i s hx hn
  · intro i s hx hn ht; rw [(hf i s).1] at hn ⊢; rw [(hf i s).2] at ht ⊢; rw [hs]; exact h.byPath i s hx hn ht

theorem Idx.congr {X st st'} (h : Idx X st) (hl : st'.ents.length = st.ents.length)
    (ho : ∀ s, st'.oids s = st.oids s) (hp : ∀ s, st'.paths s = st.paths s)
    (hf : ∀ i s, (st'.side i s).oid = (st.side i s).oid ∧ (st'.side i s).path = (st.side i s).path) : Idx X st' :=
  h.congr_le (Nat.le_of_eq hl.symm) ho hp hf

theorem Idx.of_empty {X : Ex2} {st : St} (hL : st.ixL = {}) (hR : st.ixR = {}) (hX : ∀ i s, ¬ X i s → (st.side i s).oid = none) :
    Idx X st := by
  have ho : ∀ s, st.oids s = [] := fun s => by cases s <;> simp [St.oids, St.ix, hL, hR]
  have hp : ∀ s, st.paths s = [] := fun s => by cases s <;> simp [St.paths, St.ix, hL, hR]
  refine ⟨?_, ?_, ?_, ?_, ?_, fun i s hx ho => absurd (hX i s hx) ho, fun i s hx ho => absurd (hX i s hx) ho⟩
  · intro s k i h; rw [ho] at h; cases h
  · intro s; rw [ho]; rfl
  · intro s k i h; rw [ho] at h; cases h
  · intro s p b h; rw [hp] at h; cases h
  · intro s p k i h; unfold St.slot at h; rw [hp] at h; cases h

theorem Pend.congr {st st'} (h : Pend st) (hc : ∀ i, i ∈ st.cs → i ∈ st'.cs)
    (hf : ∀ i s, (st'.side i s).oid = (st.side i s).oid ∧ (st'.side i s).changed = (st.side i s).changed) : Pend st' := by
  intro i ⟨s, h1, h2⟩
  rw [(hf i s).2] at h1; rw [(hf i s).1] at h2
  exact hc i (h i ⟨s, h1, h2⟩)

/-- what `idx_unindex` leaves behind and `Idx.clearOid`, `idx_indexOid` start from -/
def Clean (st : St) (e : Nat) (s : Sd) : Prop :=
  (∀ k, AL.get (st.oids s) k ≠ some e) ∧ (∀ p k, st.slot s p k ≠ some e)

theorem Idx.clean_of {X st} (h : Idx X st) {e s} (hg : AL.get (st.oids s) (st.side e s).oid = none) : Clean st e s := by
  constructor
  · intro k hk
    have := h.oidSlot s k e hk
    rw [this] at hg; rw [hg] at hk; cases hk
  · intro p k hk
    obtain ⟨_, h2, h3⟩ := h.pathSlot s p k e hk
    rw [h2] at hg; rw [hg] at h3; cases h3

theorem Idx.slot_truthy {X st} (h : Idx X st) {s p k i} (hk : st.slot s p k = some i) : truthyS p = true := by
  unfold St.slot at hk
  cases hb : AL.get (st.paths s) p with
  | none => rw [hb] at hk; cases hk
  | some b => exact (h.pathKey s p b hb).1

theorem Idx.slot_owner {X st} (h : Idx X st) {s k p q j} (hg : AL.get (st.oids s) k = some p) (hj : st.slot s q k = some j) :
    j = p ∧ (st.side p s).path = q := by
  obtain ⟨h1, _, h3⟩ := h.pathSlot s q k j hj
  rw [hg] at h3; cases h3; exact ⟨rfl, h1⟩

theorem side_oob (st : St) (i : Nat) (s : Sd) (h : ¬ i < st.ents.length) : st.side i s = (default : Entry).side s := by
  simp [St.side, St.ent, List.getElem?_eq_none (Nat.le_of_not_lt h)]
theorem side_default (s : Sd) : (default : Entry).side s = ({} : Side) := by cases s <;> rfl
theorem oid_oob (st : St) (i : Nat) (s : Sd) (h : ¬ i < st.ents.length) : (st.side i s).oid = none := by
  rw [side_oob st i s h, side_default]
theorem path_oob (st : St) (i : Nat) (s : Sd) (h : ¬ i < st.ents.length) : (st.side i s).path = none := by
  rw [side_oob st i s h, side_default]
theorem changed_oob (st : St) (i : Nat) (s : Sd) (h : ¬ i < st.ents.length) : (st.side i s).changed = .none := by
  rw [side_oob st i s h, side_default]

/-! `Idx` (its `pathKey` clause apart) reads a state only through the id index and the flattened path index as lookup functions, the
number of entries and the `oid`/`path` fields.  Every index primitive of the model is a point update of one of these, and each
point update keeps the clauses under a side condition of its own.  Updates of different components commute, so a composition may
take them in the order in which the clauses survive, whatever the order in the code. -/

/-- `pathKey` speaks of the buckets (no empty one, truthy keys), which the flattened `slot` function does not show; it is carried
    beside `IdxV` (`IdxV.idx`) -/
structure View where
  len : Nat
  get : Sd → Oid → Option Nat
  slot : Sd → Option Path.Str → Oid → Option Nat
  oid : Nat → Sd → Oid
  path : Nat → Sd → Option Path.Str

def St.view (st : St) : View where
  len := st.ents.length
  get s k := AL.get (st.oids s) k
  slot := st.slot
  oid i s := (st.side i s).oid
  path i s := (st.side i s).path

namespace View
@[simp] def setGet (v : View) (s : Sd) (k : Oid) (x : Option Nat) : View :=
  { v with get := fun s' k' => if s' = s ∧ k' = k then x else v.get s' k' }
@[simp] def setSlot (v : View) (s : Sd) (p : Option Path.Str) (k : Oid) (x : Option Nat) : View :=
  { v with slot := fun s' p' k' => if s' = s ∧ p' = p ∧ k' = k then x else v.slot s' p' k' }
@[simp] def setSide (v : View) (e : Nat) (s : Sd) (k : Oid) (p : Option Path.Str) : View :=
  { v with oid := fun i s' => if i = e ∧ s' = s then k else v.oid i s', path := fun i s' => if i = e ∧ s' = s then p else v.path i s' }

end View

@[simp] theorem St.view_get (st : St) (s k) : st.view.get s k = AL.get (st.oids s) k := rfl
@[simp] theorem St.view_slot (st : St) : st.view.slot = st.slot := rfl
@[simp] theorem St.view_oid (st : St) (i s) : st.view.oid i s = (st.side i s).oid := rfl
@[simp] theorem St.view_path (st : St) (i s) : st.view.path i s = (st.side i s).path := rfl

structure IdxV (X : Ex2) (v : View) : Prop where
  bnd : ∀ s k i, v.get s k = some i → i < v.len
  oidKey : ∀ s, v.get s none = none
  oidSlot : ∀ s k i, v.get s k = some i → v.oid i s = k
  pathSlot : ∀ s p k i, v.slot s p k = some i → v.path i s = p ∧ v.oid i s = k ∧ v.get s k = some i
  byOid : ∀ i s, ¬ X i s → v.oid i s ≠ none → v.get s (v.oid i s) = some i
  byPath : ∀ i s, ¬ X i s → v.oid i s ≠ none → truthyS (v.path i s) = true → v.slot s (v.path i s) (v.oid i s) = some i

theorem Idx.view {X st} (h : Idx X st) : IdxV X st.view := ⟨h.bnd, h.oidKey, h.oidSlot, h.pathSlot, h.byOid, h.byPath⟩
theorem IdxV.idx {X st} (h : IdxV X st.view) (hk : PathKeyOk st) : Idx X st :=
  ⟨h.bnd, h.oidKey, h.oidSlot, hk, h.pathSlot, h.byOid, h.byPath⟩

theorem of_ite_none {α} {c : Prop} [Decidable c] {x : Option α} {i : α} (h : (if c then none else x) = some i) : ¬ c ∧ x = some i := by
  split at h
  · cases h
  · exact ⟨‹_›, h⟩

theorem of_ite_some {α} {c : Prop} [Decidable c] {x : Option α} {e i : α} (h : (if c then some e else x) = some i) :
    (c ∧ i = e) ∨ (¬ c ∧ x = some i) := by
  split at h
  · cases h; exact Or.inl ⟨‹_›, rfl⟩
  · exact Or.inr ⟨‹_›, h⟩

namespace IdxV
variable {X : Ex2} {v : View} {s : Sd} {k : Oid} {p : Option Path.Str} {e : Nat}

theorem mono {X' : Ex2} (h : IdxV X v) (hx : ∀ i s, X i s → X' i s) : IdxV X' v :=
  { h with byOid := fun i s hn => h.byOid i s (fun hx' => hn (hx i s hx')),
           byPath := fun i s hn => h.byPath i s (fun hx' => hn (hx i s hx')) }

theorem unexempt (h : IdxV (X.add e s) v) (h1 : v.oid e s ≠ none → v.get s (v.oid e s) = some e)
    (h2 : v.oid e s ≠ none → truthyS (v.path e s) = true → v.slot s (v.path e s) (v.oid e s) = some e) : IdxV X v :=
  { h with
    byOid := fun i s' hx ho => by
      by_cases hc : i = e ∧ s' = s
      · obtain ⟨rfl, rfl⟩ := hc; exact h1 ho
      · exact h.byOid i s' (fun hx' => hx'.elim hx hc) ho
    byPath := fun i s' hx ho ht => by
      by_cases hc : i = e ∧ s' = s
      · obtain ⟨rfl, rfl⟩ := hc; exact h2 ho ht
      · exact h.byPath i s' (fun hx' => hx'.elim hx hc) ho ht }

theorem eraseGet (h : IdxV X v) (hS : ∀ p, v.slot s p k = none) (hX : ∀ i, v.get s k = some i → X i s) :
    IdxV X (v.setGet s k none) where
  bnd s' k' i hg := h.bnd s' k' i (of_ite_none hg).2
  oidKey s' := by
    show (if _ then none else _) = none
    split
    · rfl
    · exact h.oidKey s'
  oidSlot s' k' i hg := h.oidSlot s' k' i (of_ite_none hg).2
  pathSlot s' p' k' i hs := by
    obtain ⟨a, b, c⟩ := h.pathSlot s' p' k' i hs
    refine ⟨a, b, (if_neg ?_).trans c⟩
    rintro ⟨rfl, rfl⟩; exact absurd ((hS p').symm.trans hs) (by simp)
  byOid i s' hx ho := by
    refine (if_neg ?_).trans (h.byOid i s' hx ho)
    rintro ⟨rfl, hk⟩; exact hx (hX i (hk ▸ h.byOid i s' hx ho))
  byPath := h.byPath

theorem putGet (h : IdxV X v) (hk : k ≠ none) (hlt : e < v.len) (ho : v.oid e s = k) (hfree : v.get s k = none) :
    IdxV X (v.setGet s k (some e)) where
  bnd s' k' i hg := by
    rcases of_ite_some hg with ⟨_, rfl⟩ | ⟨_, hg⟩
    · exact hlt
    · exact h.bnd s' k' i hg
  oidKey s' := (if_neg (fun hc => hk hc.2.symm)).trans (h.oidKey s')
  oidSlot s' k' i hg := by
    rcases of_ite_some hg with ⟨⟨rfl, rfl⟩, rfl⟩ | ⟨_, hg⟩
    · exact ho
    · exact h.oidSlot s' k' i hg
  pathSlot s' p' k' i hs := by
    obtain ⟨a, b, c⟩ := h.pathSlot s' p' k' i hs
    refine ⟨a, b, (if_neg ?_).trans c⟩
    rintro ⟨rfl, rfl⟩; rw [hfree] at c; cases c
  byOid i s' hx hoi := by
    have hg := h.byOid i s' hx hoi
    refine (if_neg ?_).trans hg
    rintro ⟨rfl, hk'⟩; exact absurd (hfree.symm.trans (hk' ▸ hg)) (by simp)
  byPath := h.byPath

theorem eraseSlot (h : IdxV X v) (hX : ∀ i, v.slot s p k = some i → X i s) : IdxV X (v.setSlot s p k none) :=
  { h with
    pathSlot := fun s' p' k' i hs => h.pathSlot s' p' k' i (of_ite_none hs).2
    byPath := fun i s' hx ho ht => by
      have hs := h.byPath i s' hx ho ht
      refine (if_neg ?_).trans hs
      rintro ⟨rfl, hp, hk⟩; exact hx (hX i (hp ▸ hk ▸ hs)) }

theorem putSlot (h : IdxV X v) (hp : v.path e s = p) (ho : v.oid e s = k) (hg : v.get s k = some e) :
    IdxV X (v.setSlot s p k (some e)) :=
  { h with
    pathSlot := fun s' p' k' i hs => by
      rcases of_ite_some hs with ⟨⟨rfl, rfl, rfl⟩, rfl⟩ | ⟨_, hs⟩
      · exact ⟨hp, ho, hg⟩
      · exact h.pathSlot s' p' k' i hs
    byPath := fun i s' hx hoi ht => by
      show (if _ then some e else _) = some i
      split
      · next hc =>
        obtain ⟨rfl, _, hk⟩ := hc
        exact hg.symm.trans (hk ▸ h.byOid i s' hx hoi)
      · exact h.byPath i s' hx hoi ht }

theorem setSide (h : IdxV X v) (hX : X e s) (hG : ∀ k', v.get s k' = some e → k' = k)
    (hS : ∀ p' k', v.slot s p' k' = some e → p' = p ∧ k' = k) : IdxV X (v.setSide e s k p) := by
  have hne : ∀ i s', ¬ X i s' → ¬ (i = e ∧ s' = s) := fun i s' hx hc => hx (hc.1 ▸ hc.2 ▸ hX)
  refine { h with oidSlot := fun s' k' i hg => ?_, pathSlot := fun s' p' k' i hs => ?_, byOid := fun i s' hx ho => ?_,
                  byPath := fun i s' hx ho ht => ?_ }
  · show (if _ then k else _) = k'
    split
    · next hc => obtain ⟨rfl, rfl⟩ := hc; exact (hG k' hg).symm
    · exact h.oidSlot s' k' i hg
  · show (if _ then p else _) = p' ∧ (if _ then k else _) = k' ∧ _
    obtain ⟨a, b, c⟩ := h.pathSlot s' p' k' i hs
    split
    · next hc => obtain ⟨rfl, rfl⟩ := hc; exact ⟨(hS p' k' hs).1.symm, (hS p' k' hs).2.symm, c⟩
    · exact ⟨a, b, c⟩
  · simp only [View.setSide, if_neg (hne i s' hx)] at ho ⊢
    exact h.byOid i s' hx ho
  · simp only [View.setSide, if_neg (hne i s' hx)] at ho ht ⊢
    exact h.byPath i s' hx ho ht

end IdxV

theorem Idx.mono {X X' : Ex2} {st} (h : Idx X st) (hx : ∀ i s, X i s → X' i s) : Idx X' st := (h.view.mono hx).idx h.pathKey

section view
variable (st : St)

theorem view_setOids {s : Sd} {o : List (Oid × Nat)} {k : Oid} {x : Option Nat}
    (ho : ∀ k', AL.get o k' = if k' = k then x else AL.get (st.oids s) k') : (st.setOids s o).view = st.view.setGet s k x := by
  simp only [St.view, View.setGet, ents_setOids, side_setOids, View.mk.injEq, true_and, and_true]
  refine ⟨?_, by funext s' p' k'; simp⟩
  funext s' k'
  by_cases hs : s' = s
  · subst hs; simp [ho]
  · simp [hs]

theorem view_popPathSlot (s : Sd) (p : Option Path.Str) (k : Oid) : (st.popPathSlot s p k).view = st.view.setSlot s p k none := by
  simp only [St.view, View.setSlot, ents_popPathSlot, side_popPathSlot, oids_popPathSlot, View.mk.injEq, true_and, and_true]
  funext s' p' k'; exact slot_popPathSlot ..

theorem view_setPathSlot (s : Sd) (p : Option Path.Str) (k : Oid) (i : Nat) :
    (st.setPathSlot s p k i).view = st.view.setSlot s p k (some i) := by
  simp only [St.view, View.setSlot, ents_setPathSlot, side_setPathSlot, oids_setPathSlot, View.mk.injEq, true_and, and_true]
  funext s' p' k'; exact slot_setPathSlot ..

theorem view_modSide {e : Nat} (hlt : e < st.ents.length) (s : Sd) (f : Side → Side) :
    (st.modSide e s f).view = st.view.setSide e s (f (st.side e s)).oid (f (st.side e s)).path := by
  simp only [St.view, View.setSide, len_modSide, oids_modSide, side_modSide, hlt, and_true, View.mk.injEq, true_and]
  refine ⟨by funext s' p' k'; simp, ?_, ?_⟩ <;> funext i s' <;> split <;> rfl

end view

theorem idx_unindex {X st} (h : Idx X st) {s r p} (hg : AL.get (st.oids s) r = some p) :
    Idx (X.add p s) (unindex st s r p) ∧ Clean (unindex st s r p) p s := by
  have hpo := h.oidSlot s r p hg
  have hown : ∀ q j, st.slot s q r = some j → j = p ∧ (st.side p s).path = q := fun q j hj => h.slot_owner hg hj
  have hv : IdxV (X.add p s) st.view := h.view.mono (fun _ _ => Or.inl)
  have hX : ∀ i, st.view.get s r = some i → (X.add p s) i s := fun i hi => by
    rw [show i = p from Option.some.inj (hi.symm.trans hg)]; exact Or.inr ⟨rfl, rfl⟩
  have hk := h.pathKey.congr (st' := st.setOids s (AL.erase (st.oids s) r)) (by simp) (by simp)
  have hI : Idx (X.add p s) (unindex st s r p) := by
    unfold unindex
    split
    · refine IdxV.idx ?_ (hk.pop _ _ _)
      rw [view_popPathSlot, view_setOids st (fun _ => AL.get_erase ..)]
      -- the model erases the id slot first; the two point updates touch different components of the view, so here the
      -- path slot goes first and the id slot second (`eraseGet` asks that no path slot refers to the id any more)
      refine IdxV.eraseGet (v := st.view.setSlot s _ r none) (hv.eraseSlot fun i hi => (hown _ i hi).1 ▸ Or.inr ⟨rfl, rfl⟩) ?_ hX
      intro q
      show (if _ then none else st.slot s q r) = none
      split
      · rfl
      · next hne =>
        cases hq : st.slot s q r with
        | none => rfl
        | some j => exact absurd ⟨rfl, (hown q j hq).2.symm, rfl⟩ hne
    · next ht =>
      refine IdxV.idx ?_ hk
      rw [view_setOids st (fun _ => AL.get_erase ..)]
      refine hv.eraseGet (fun q => ?_) hX
      cases hq : st.slot s q r with
      | none => exact hq
      | some j => exact absurd ((hown q j hq).2 ▸ h.slot_truthy hq) ht
  refine ⟨hI, hI.clean_of ?_⟩
  unfold unindex
  split <;> simp [hpo, AL.get_erase]

theorem Idx.clearOid {X st} {p s} (h : Idx (X.add p s) st) (hc : Clean st p s) (hlt : p < st.ents.length) :
    Idx X (st.modSide p s (fun x => { x with oid := none })) := by
  refine IdxV.idx ?_ (h.pathKey.congr (by simp) (by simp))
  rw [view_modSide st hlt]
  exact (h.view.setSide (Or.inr ⟨rfl, rfl⟩) (fun k' hk => absurd hk (hc.1 k')) (fun p' k' hk => absurd hk (hc.2 p' k'))).unexempt
    (fun ho => absurd (if_pos ⟨rfl, rfl⟩) ho) (fun ho => absurd (if_pos ⟨rfl, rfl⟩) ho)

theorem idx_indexOid {X st} {e s} {k : Path.Str} (h : Idx (X.add e s) st) (hc : Clean st e s)
    (hfree : AL.get (st.oids s) (some k) = none) (hlt : e < st.ents.length) :
    Idx X (indexOid st e s (some k)) := by
  have h1 : IdxV (X.add e s) ((st.view.setSide e s (some k) (st.side e s).path).setGet s (some k) (some e)) :=
    (h.view.setSide (Or.inr ⟨rfl, rfl⟩) (fun k' hk => absurd hk (hc.1 k')) (fun p' k' hk => absurd hk (hc.2 p' k'))).putGet
      (by simp) hlt (if_pos ⟨rfl, rfl⟩) hfree
  have hv : ((st.modSide e s fun x => { x with oid := some k }).setOids s (AL.set (st.oids s) (some k) e)).view =
      (st.view.setSide e s (some k) (st.side e s).path).setGet s (some k) (some e) := by
    rw [view_setOids _ (fun _ => by rw [AL.get_set, oids_modSide]), view_modSide st hlt]
  have hk := h.pathKey.congr (st' := (st.modSide e s fun x => { x with oid := some k }).setOids s (AL.set (st.oids s) (some k) e))
    (by simp) (by simp)
  have hp : (((st.modSide e s fun x => { x with oid := some k }).setOids s (AL.set (st.oids s) (some k) e)).side e s).path
      = (st.side e s).path := by rw [side_setOids, side_modSide]; simp [hlt]
  unfold indexOid
  simp only [hp]
  split
  · next ht =>
    refine IdxV.idx ?_ (hk.setSlot _ _ _ _ ht (by simpa using hlt))
    rw [view_setPathSlot, hv]
    exact (h1.putSlot (if_pos ⟨rfl, rfl⟩) (if_pos ⟨rfl, rfl⟩) (if_pos ⟨rfl, rfl⟩)).unexempt
      (fun _ => by simp) (fun _ _ => by simp)
  · next ht =>
    refine IdxV.idx ?_ hk
    rw [hv]
    exact h1.unexempt (fun _ => by simp) (fun _ ht' => absurd ht' (by simpa using ht))

theorem Idx.popPath {X st} {e s} {p : Option Path.Str} {k : Oid} (h : Idx X st) (hown : ∀ j, st.slot s p k = some j → j = e) :
    Idx (X.add e s) (st.popPathSlot s p k) := by
  refine IdxV.idx ?_ (h.pathKey.pop _ _ _)
  rw [view_popPathSlot]
  exact (h.view.mono fun _ _ => Or.inl).eraseSlot fun i hi => Or.inr ⟨hown i hi, rfl⟩

theorem Idx.indexPath {X st} {e s} {pth : Path.Str} (h : Idx (X.add e s) st) (hc : ∀ p k, st.slot s p k ≠ some e)
    (hown : AL.get (st.oids s) (st.side e s).oid = some e) (ht : truthyS (some pth) = true)
    (hlt : e < st.ents.length) :
    Idx X ((st.setPathSlot s (some pth) (st.side e s).oid e).modSide e s (fun x => { x with path := some pth })) := by
  refine IdxV.idx ?_ ((h.pathKey.setSlot s (some pth) (st.side e s).oid e ht hlt).congr (by simp) (by simp))
  rw [view_modSide _ (by simpa using hlt), view_setPathSlot, side_setPathSlot]
  -- the field first: the slot may only be put where the entry's path says
  refine IdxV.unexempt (e := e) (s := s) ?_ (fun _ => by simpa using hown) (fun _ _ => by simp)
  exact IdxV.putSlot (v := st.view.setSide e s (st.side e s).oid (some pth))
    (h.view.setSide (Or.inr ⟨rfl, rfl⟩) (fun k' hk => (h.oidSlot s k' e hk).symm) (fun p' k' hk => absurd hk (hc p' k')))
    (if_pos ⟨rfl, rfl⟩) (if_pos ⟨rfl, rfl⟩) hown

theorem Idx.modSide_other {X st} (h : Idx X st) (e : Nat) (s : Sd) (f : Side → Side)
    (hf : ∀ x, (f x).oid = x.oid ∧ (f x).path = x.path) : Idx X (st.modSide e s f) := by
  exact h.congr (by simp) (by simp) (by simp) fun i s' =>
    ⟨proj_modSide st e i s s' f Side.oid fun x => (hf x).1, proj_modSide st e i s s' f Side.path fun x => (hf x).2⟩

theorem Pend.modSide_other {st} (h : Pend st) (e : Nat) (s : Sd) (f : Side → Side)
    (hf : ∀ x, (f x).oid = x.oid ∧ (f x).changed = x.changed) : Pend (st.modSide e s f) := by
  exact h.congr (by simp) fun i s' =>
    ⟨proj_modSide st e i s s' f Side.oid fun x => (hf x).1, proj_modSide st e i s s' f Side.changed fun x => (hf x).2⟩

end CS.State
