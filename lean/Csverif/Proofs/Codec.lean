import Csverif.Model.Codec
/- For Props/C08.lean: the msgpack normal form `norm`, and the codec round trip of one side through it
   (`Side.deserialize_serialize`). -/
namespace CS.Codec

-- `Val` is nested through `List`, so `deriving DecidableEq` fails; equality is decided by the model's own `Val.beq`
mutual
theorem Val.beq_eq : ∀ (a b : Val), Val.beq a b = true → a = b
  | .nil, b, h => by cases b <;> simp_all [Val.beq]
  | .bool x, b, h => by cases b <;> simp_all [Val.beq]
  | .int x, b, h => by cases b <;> simp_all [Val.beq]
  | .float x, b, h => by cases b <;> simp_all [Val.beq]
  | .str x, b, h => by cases b <;> simp_all [Val.beq]
  | .bin x, b, h => by cases b <;> simp_all [Val.beq]
  | .arr l xs, b, h => by
    cases b <;> simp_all [Val.beq]
    exact Val.beqList_eq _ _ h.2
  | .map xs, b, h => by
    cases b <;> simp_all [Val.beq]
    exact Val.beqKvs_eq _ _ h
theorem Val.beqList_eq : ∀ (a b : List Val), Val.beqList a b = true → a = b
  | [], b, h => by cases b <;> simp_all [Val.beqList]
  | x :: xs, b, h => by
    cases b with
    | nil => simp [Val.beqList] at h
    | cons y ys =>
      simp only [Val.beqList, Bool.and_eq_true] at h
      rw [Val.beq_eq x y h.1, Val.beqList_eq xs ys h.2]
theorem Val.beqKvs_eq : ∀ (a b : List (Key × Val)), Val.beqKvs a b = true → a = b
  | [], b, h => by cases b <;> simp_all [Val.beqKvs]
  | (k, x) :: xs, b, h => by
    cases b with
    | nil => simp [Val.beqKvs] at h
    | cons y ys =>
      obtain ⟨l, y⟩ := y
      simp only [Val.beqKvs, Bool.and_eq_true, beq_iff_eq] at h
      rw [h.1.1, Val.beq_eq x y h.1.2, Val.beqKvs_eq xs ys h.2]
end

mutual
theorem Val.beq_refl : ∀ (a : Val), Val.beq a a = true
  | .nil => by simp [Val.beq]
  | .bool _ => by simp [Val.beq]
  | .int _ => by simp [Val.beq]
  | .float _ => by simp [Val.beq]
  | .str _ => by simp [Val.beq]
  | .bin _ => by simp [Val.beq]
  | .arr _ xs => by simp [Val.beq, Val.beqList_refl xs]
  | .map xs => by simp [Val.beq, Val.beqKvs_refl xs]
theorem Val.beqList_refl : ∀ (a : List Val), Val.beqList a a = true
  | [] => by simp [Val.beqList]
  | x :: xs => by simp [Val.beqList, Val.beq_refl x, Val.beqList_refl xs]
theorem Val.beqKvs_refl : ∀ (a : List (Key × Val)), Val.beqKvs a a = true
  | [] => by simp [Val.beqKvs]
  | (k, x) :: xs => by simp [Val.beqKvs, Val.beq_refl x, Val.beqKvs_refl xs]
end

instance : DecidableEq Val := fun a b =>
  if h : Val.beq a b = true then isTrue (Val.beq_eq a b h)
  else isFalse (fun e => h (e ▸ Val.beq_refl a))

theorem Val.beq_iff (a b : Val) : (a == b) = true ↔ a = b :=
  ⟨Val.beq_eq a b, fun e => e ▸ Val.beq_refl a⟩

instance : LawfulBEq Val where
  eq_of_beq := Val.beq_eq _ _
  rfl := Val.beq_refl _

deriving instance DecidableEq for Side
deriving instance DecidableEq for Entry

mutual
theorem norm_idem : ∀ (v : Val), norm (norm v) = norm v
  | .nil => rfl
  | .bool _ => rfl
  | .int _ => rfl
  | .float _ => rfl
  | .str _ => rfl
  | .bin _ => rfl
  | .arr _ xs => by simp [norm, normList_idem xs]
  | .map xs => by simp [norm, normKvs_idem xs]
theorem normList_idem : ∀ (a : List Val), normList (normList a) = normList a
  | [] => rfl
  | x :: xs => by simp [normList, norm_idem x, normList_idem xs]
theorem normKvs_idem : ∀ (a : List (Key × Val)), normKvs (normKvs a) = normKvs a
  | [] => rfl
  | (k, x) :: xs => by simp [normKvs, norm_idem x, normKvs_idem xs]
end

mutual
theorem norm_of_noList : ∀ (v : Val), noList v = true → norm v = v
  | .nil, _ => rfl
  | .bool _, _ => rfl
  | .int _, _ => rfl
  | .float _, _ => rfl
  | .str _, _ => rfl
  | .bin _, _ => rfl
  | .arr l xs, h => by
    simp only [noList, Bool.and_eq_true, Bool.not_eq_true'] at h
    simp [norm, normList_of_noList xs h.2, h.1]
  | .map xs, h => by
    simp only [noList] at h
    simp [norm, normKvs_of_noList xs h]
theorem normList_of_noList : ∀ (a : List Val), noListList a = true → normList a = a
  | [], _ => rfl
  | x :: xs, h => by
    simp only [noListList, Bool.and_eq_true] at h
    simp [normList, norm_of_noList x h.1, normList_of_noList xs h.2]
theorem normKvs_of_noList : ∀ (a : List (Key × Val)), noListKvs a = true → normKvs a = a
  | [], _ => rfl
  | (k, x) :: xs, h => by
    simp only [noListKvs, Bool.and_eq_true] at h
    simp [normKvs, norm_of_noList x h.1, normKvs_of_noList xs h.2]
end

mutual
theorem noList_norm : ∀ (v : Val), noList (norm v) = true
  | .nil => rfl
  | .bool _ => rfl
  | .int _ => rfl
  | .float _ => rfl
  | .str _ => rfl
  | .bin _ => rfl
  | .arr _ xs => by simp [norm, noList, noListList_norm xs]
  | .map xs => by simp [norm, noList, noListKvs_norm xs]
theorem noListList_norm : ∀ (a : List Val), noListList (normList a) = true
  | [] => rfl
  | x :: xs => by simp [normList, noListList, noList_norm x, noListList_norm xs]
theorem noListKvs_norm : ∀ (a : List (Key × Val)), noListKvs (normKvs a) = true
  | [] => rfl
  | (k, x) :: xs => by simp [normKvs, noListKvs, noList_norm x, noListKvs_norm xs]
end

theorem norm_truthy (v : Val) : (norm v).truthy = v.truthy := by
  cases v with
  | arr l xs => cases xs <;> simp [norm, normList, Val.truthy]
  | map kvs =>
    cases kvs with
    | nil => simp [norm, normKvs, Val.truthy]
    | cons a r => obtain ⟨k, x⟩ := a; simp [norm, normKvs, Val.truthy]
  | _ => rfl

theorem norm_isNone (v : Val) : (norm v).isNone = v.isNone := by
  cases v <;> simp [norm, Val.isNone]

theorem norm_eq_str (v : Val) (s : String) (h : norm v = .str s) : v = .str s := by
  cases v <;> simp_all [norm]

theorem norm_isNumOrNone (v : Val) : (norm v).isNumOrNone = v.isNumOrNone := by
  cases v <;> simp [norm, Val.isNumOrNone]

theorem Exists.ofValue_value (e : Exists) : Exists.ofValue e.value = some e := by cases e <;> decide +kernel
theorem Ignore.ofValue_value (e : Ignore) : Ignore.ofValue e.value = some e := by cases e <;> decide +kernel
theorem OType.ofValue_value (e : OType) : OType.ofValue e.value = some e := by cases e <;> decide +kernel

theorem Exists.value_ne_empty (e : Exists) : (e.value != "") = true := by cases e <;> decide +kernel
theorem Ignore.value_ne_empty (e : Ignore) : (e.value != "") = true := by cases e <;> decide +kernel
theorem Ignore.value_ne_trashed (e : Ignore) : (Val.str e.value == Val.str "trashed") = false := by
  cases e <;> decide +kernel

theorem translateExists_value (e : Exists) : translateExists (.raw (.str e.value)) = .ok e := by
  cases e <;> rfl

theorem Val.getItem_cons (l k : String) (v : Val) (r : List (Key × Val)) :
    (Val.map ((.str l, v) :: r)).getItem k = if l = k then .ok v else (Val.map r).getItem k := by
  by_cases h : l = k <;> simp [Val.getItem, lookupKey, h]

theorem Val.getD_cons (l k : String) (v d : Val) (r : List (Key × Val)) :
    (Val.map ((.str l, v) :: r)).getD k d = if l = k then .ok v else (Val.map r).getD k d := by
  by_cases h : l = k <;> simp [Val.getD, lookupKey, h]

theorem Val.getD_nil (k : String) (d : Val) : (Val.map []).getD k d = .ok d := rfl

theorem Side.loadExists_raw (s : Side) (hs : s.isCorrupt = false) (v : Val) :
    s.loadExists (.raw v) = (translateExists (.raw v)).map fun x => ({ s with exists_ := x } : Side) := by
  simp only [Side.loadExists, Side.existsPre, ExV.isCorruptMember, hs, Side.existsPost, Bool.false_and, Bool.not_false,
    Bool.and_false, Bool.false_eq_true, if_false]
  cases translateExists (.raw v) <;> rfl

/-- `Exists(saved) if saved else None`, a `ValueError` giving UNKNOWN (state.py:271-275) -/
def savedOfVal (sv : Val) : Option Exists :=
  if sv.truthy then (match Exists.ofVal sv with | some e => some e | none => some .unknown) else none

theorem savedOfVal_serialized (o : Option Exists) :
    savedOfVal (norm (match o with | none => .nil | some e => .str e.value)) = o := by
  cases o with
  | none => rfl
  | some e => simp [savedOfVal, norm, Val.truthy, Exists.ofVal, Exists.ofValue_value, Exists.value_ne_empty]

/-- the back-compat assignments to `exists` are overwritten by the last one, the translation of the value itself -/
theorem Side.deserialize_eq (i : Int) (d : Val) (o : OType) (e : Exists) (sv : Val) {sd h c sh sp oid p ex tf sz mt : Val}
    (hot : d.getItem "otype" = .ok (.str o.value)) (hsd : d.getItem "side" = .ok sd) (hh : d.getItem "hash" = .ok h)
    (hc : d.getItem "changed" = .ok c) (hsh : d.getItem "sync_hash" = .ok sh) (hsp : d.getItem "sync_path" = .ok sp)
    (ho : d.getItem "oid" = .ok oid) (hp : d.getItem "path" = .ok p) (hex : d.getItem "exists" = .ok ex)
    (he : translateExists (.raw ex) = .ok e) (htf : d.getItem "temp_file" = .ok tf)
    (hsz : d.getD "size" .nil = .ok sz) (hmt : d.getD "mtime" .nil = .ok mt) (hm : mt.isNumOrNone = true)
    (hsv : d.getD "_saved_exists" .nil = .ok sv) :
    Side.deserialize i d = .ok {
      otype := o, side := sd, hash := h, changed := c, syncHash := sh, syncPath := sp, path := p, oid := oid, exists_ := e,
      tempFile := tf, size := sz, mtime := mt, savedExists := savedOfVal sv, forceSync := .bool false } := by
  have hnc : (Exists.unknown == Exists.corrupt) = false := rfl
  simp only [Side.deserialize, hot, hsd, hh, hc, hsh, hsp, ho, hp, hex, htf, hsz, hmt, hsv, bind, Except.bind, pure,
    Except.pure, OType.ofVal, OType.ofValue_value, Side.plainPost, Side.store, Side.fresh, Side.mtimePost, hm,
    Side.isCorrupt, hnc, Bool.and_false, Bool.false_eq_true, if_false]
  cases ex with
  | nil => cases he; rfl
  | bool b => cases b <;> cases he <;> rfl
  | _ =>
    simp only [Val.isNone, Bool.false_eq_true, if_false]
    rw [Side.loadExists_raw _ rfl, he]
    rfl

def Side.normed (s : Side) : Side :=
  { s with side := norm s.side, hash := norm s.hash, changed := norm s.changed, syncHash := norm s.syncHash,
           syncPath := norm s.syncPath, path := norm s.path, oid := norm s.oid, tempFile := norm s.tempFile,
           size := norm s.size, mtime := norm s.mtime, forceSync := .bool false }

theorem Side.deserialize_serialize (s : Side) (i : Int) (hm : s.mtime.isNumOrNone = true) :
    Side.deserialize i (norm s.serialize) = .ok s.normed := by
  -- `norm` of the literal dict is computed apart from the goal, so that `simp` does not also unfold `deserialize`
  generalize hd : norm s.serialize = d
  simp only [Side.serialize, norm, normKvs] at hd
  subst hd
  refine (Side.deserialize_eq i _ s.otype s.exists_ _ ?_ ?_ ?_ ?_ ?_ ?_ ?_ ?_ ?_ (translateExists_value _) ?_ ?_ ?_
    ((norm_isNumOrNone _).trans hm) ?_).trans (by rw [savedOfVal_serialized]; rfl)
  all_goals simp only [Val.getItem_cons, Val.getD_cons, String.reduceEq, if_true, if_false]
  rfl

theorem Entry.deserializeVal_eq (sid : Nat) (ser : Val) {d0 d1 : Val} {s0 s1 : Side} {ig : Ignore}
    (h0 : ser.getItem "side0" = .ok d0) (hs0 : Side.deserialize 0 d0 = .ok s0)
    (h1 : ser.getItem "side1" = .ok d1) (hs1 : Side.deserialize 1 d1 = .ok s1) (hig : decodeIgnored ser = .ok ig) :
    Entry.deserializeVal sid ser = .ok { s0 := s0, s1 := s1, ignored := ig, priority := 0, storageId := some sid } := by
  simp only [Entry.deserializeVal, h0, hs0, h1, hs1, hig, bind, Except.bind, pure, Except.pure]

end CS.Codec
