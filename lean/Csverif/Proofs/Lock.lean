import Csverif.Model.Lock
/- Helper lemmas for C15 (Props/C15.lean).  Under the lock invariant a non-holder can only do `other` steps while the lock is
   held, and such a step (`skip`) commutes to the left past the steps of other threads (the mover lemma, `step_skip_comm`);
   hence a schedule has a serial permutation in which the critical section still open at the end comes last (`decomp_exists`). -/
namespace CS.Lock

theorem upd_comm {α : Type} (f : Nat → α) (a b : Nat) (x y : α) (h : a ≠ b) :
    upd (upd f a x) b y = upd (upd f b y) a x := by
  funext k
  simp only [upd]
  by_cases h1 : k = b
  · by_cases h2 : k = a
    · exact absurd (h2.symm.trans h1) h
    · simp [h1]
      intro e; exact absurd e.symm h
  · by_cases h2 : k = a
    · simp [h2]
      intro e; exact absurd e h
    · simp [h1, h2]

/-- nesting depth at which thread `u` currently holds the lock (0 = does not hold it) -/
def held (s : State) (u : Tid) : Nat := if s.owner = some u then s.depth else 0

/-- the lock state agrees with every thread's syntactic nesting depth -/
def Inv (s : State) : Prop := ∀ u, okFrom (held s u) (s.code u)

theorem inv_init {p : Prog} {σ : Loc → Val} (h : Disciplined p) : Inv (init p σ) := by
  intro u
  simpa [held, init] using h u

/-- the enabled cases of `step`, one by one; the code is left alone -/
inductive Eff (s : State) (t : Tid) : Act → State → Prop
  | acqFree : s.owner = none → Eff s t .acquire { s with owner := some t, depth := 1 }
  | acqAgain : s.owner = some t → Eff s t .acquire { s with depth := s.depth + 1 }
  | relLast : s.owner = some t → s.depth ≤ 1 → Eff s t .release { s with owner := none, depth := 0 }
  | relInner : s.owner = some t → ¬ s.depth ≤ 1 → Eff s t .release { s with depth := s.depth - 1 }
  | read l : Eff s t (.read l) { s with obs := upd s.obs t (s.store l :: s.obs t) }
  | write l f : Eff s t (.write l f) { s with store := upd s.store l (f (s.obs t)) }
  | other : Eff s t .other s

theorem step_cases {s s' : State} {t : Tid} (hs : step s t = some s') :
    ∃ a rest s1, s.code t = a :: rest ∧ Eff s t a s1 ∧ s' = { s1 with code := upd s.code t rest } := by
  unfold step at hs
  cases hc : s.code t with
  | nil => rw [hc] at hs; cases hs
  | cons a rest =>
    rw [hc] at hs
    refine ⟨a, rest, ?_⟩
    cases a with
    | acquire =>
      cases ho : s.owner with
      | none => simp only [ho] at hs; cases hs; exact ⟨_, rfl, .acqFree ho, rfl⟩
      | some o =>
        simp only [ho] at hs
        by_cases hot : o = t
        · rw [if_pos hot] at hs; cases hs; exact ⟨_, rfl, .acqAgain (hot ▸ ho), by rw [ho]⟩
        · rw [if_neg hot] at hs; cases hs
    | release =>
      cases ho : s.owner with
      | none => simp only [ho] at hs; cases hs
      | some o =>
        simp only [ho] at hs
        by_cases hot : o = t
        · rw [if_pos hot] at hs
          by_cases hd : s.depth ≤ 1
          · rw [if_pos hd] at hs; cases hs; exact ⟨_, rfl, .relLast (hot ▸ ho) hd, rfl⟩
          · rw [if_neg hd] at hs; cases hs; exact ⟨_, rfl, .relInner (hot ▸ ho) hd, by rw [ho]⟩
        · rw [if_neg hot] at hs; cases hs
    | read l => cases hs; exact ⟨_, rfl, .read l, rfl⟩
    | write l f => cases hs; exact ⟨_, rfl, .write l f, rfl⟩
    | other => cases hs; exact ⟨s, rfl, .other, rfl⟩

theorem step_of_eff {s s1 : State} {t : Tid} {a : Act} {rest : List Act} (hc : s.code t = a :: rest) (h : Eff s t a s1) :
    step s t = some { s1 with code := upd s.code t rest } := by
  unfold step
  rw [hc]
  cases h with
  | acqFree ho => simp only [ho]
  | acqAgain ho => simp only [ho, if_true]
  | relLast ho hd => simp only [ho, if_true, hd]
  | relInner ho hd => simp only [ho, if_true, hd, if_false]
  | read | write | other => rfl

theorem step_blocked {s : State} {t o : Tid} {rest : List Act} (hc : s.code t = .acquire :: rest) (ho : s.owner = some o)
    (hot : o ≠ t) : step s t = none := by
  cases hs : step s t with
  | none => rfl
  | some s' =>
    obtain ⟨a, r, s1, hc', he, _⟩ := step_cases hs
    rw [hc] at hc'
    cases hc'
    cases he with
    | acqFree h => rw [ho] at h; cases h
    | acqAgain h => exact absurd (Option.some.inj (ho.symm.trans h)) hot

theorem Eff.setCode {s s1 : State} {t : Tid} {a : Act} (h : Eff s t a s1) (c : Prog) :
    Eff { s with code := c } t a { s1 with code := c } := by
  cases h with
  | acqFree ho => exact .acqFree ho
  | acqAgain ho => exact .acqAgain ho
  | relLast ho hd => exact .relLast ho hd
  | relInner ho hd => exact .relInner ho hd
  | read l => exact .read l
  | write l f => exact .write l f
  | other => exact .other

theorem eff_owner {s s1 : State} {t : Tid} {a : Act} (h : Eff s t a s1) :
    s1.owner = s.owner ∨ s1.owner = some t ∨ (s.owner = some t ∧ s1.owner = none) := by
  cases h with
  | acqFree => exact Or.inr (Or.inl rfl)
  | relLast ho => exact Or.inr (Or.inr ⟨ho, rfl⟩)
  | _ => exact Or.inl rfl

theorem eff_held_other {s s1 : State} {t u : Tid} {a : Act} (h : Eff s t a s1) (hu : u ≠ t) :
    held s1 u = held s u := by
  have hne : ¬ t = u := fun e => hu e.symm
  cases h with
  | acqFree ho | acqAgain ho | relLast ho | relInner ho => simp [held, ho, hne]
  | _ => rfl

theorem eff_okFrom {s s1 : State} {t : Tid} {a : Act} {rest : List Act} (h : Eff s t a s1)
    (hk : okFrom (held s t) (a :: rest)) : okFrom (held s1 t) rest := by
  cases h with
  | acqFree ho | acqAgain ho | relInner ho => simpa [held, ho, okFrom] using hk
  | relLast ho hd =>
    simp only [held, ho, okFrom, if_true] at hk
    rw [Nat.sub_eq_zero_of_le hd] at hk
    simpa [held] using hk
  | read | write => exact hk.2
  | other => exact hk

theorem eff_nonholder {s s1 : State} {t u : Tid} {a : Act} {rest : List Act} (ho : s.owner = some t) (hu : u ≠ t)
    (h : Eff s u a s1) (hk : okFrom 0 (a :: rest)) : a = .other ∧ s1 = s := by
  have hne : some t ≠ some u := fun e => hu (Option.some.inj e).symm
  cases h with
  | acqFree ho' => rw [ho] at ho'; cases ho'
  | acqAgain ho' | relLast ho' | relInner ho' => exact absurd (ho.symm.trans ho') hne
  | read | write => exact absurd hk.1 (Nat.lt_irrefl 0)
  | other => exact ⟨rfl, rfl⟩

theorem step_code_other {s s' : State} {t u : Tid} (hs : step s t = some s') (h : u ≠ t) : s'.code u = s.code u := by
  obtain ⟨a, rest, s1, _, h1, rfl⟩ := step_cases hs
  exact upd_other _ _ _ _ h

theorem inv_step {s s' : State} {t : Tid} (hi : Inv s) (hs : step s t = some s') : Inv s' := by
  obtain ⟨a, rest, s1, hc, h1, rfl⟩ := step_cases hs
  intro u
  show okFrom (held s1 u) (upd s.code t rest u)
  by_cases hut : u = t
  · subst hut
    rw [upd_same]
    exact eff_okFrom h1 (hc ▸ hi u)
  · rw [upd_other _ _ _ _ hut, eff_held_other h1 hut]
    exact hi u

theorem run_cons_some {s s' : State} {t : Tid} {l : List Tid} :
    run s (t :: l) = some s' ↔ ∃ s1, step s t = some s1 ∧ run s1 l = some s' := by
  rw [run]
  cases step s t with
  | none => exact ⟨nofun, fun ⟨_, h, _⟩ => nomatch h⟩
  | some s1 => exact ⟨fun h => ⟨s1, rfl, h⟩, fun ⟨_, h, hr⟩ => Option.some.inj h ▸ hr⟩

theorem inv_run {s s' : State} {l : List Tid} (hi : Inv s) (hr : run s l = some s') : Inv s' := by
  induction l generalizing s with
  | nil => cases hr; exact hi
  | cons t rest ih =>
    obtain ⟨s1, h1, hr⟩ := run_cons_some.1 hr
    exact ih (inv_step hi h1) hr

/-- what an `other` step of `u` does -/
def skip (u : Tid) (s : State) : State := { s with code := upd s.code u (s.code u).tail }

@[simp] theorem skip_owner (u : Tid) (s : State) : (skip u s).owner = s.owner := rfl

theorem step_nonholder {s s' : State} {t u : Tid} (hi : Inv s) (ho : s.owner = some t) (hut : u ≠ t)
    (hs : step s u = some s') : s' = skip u s ∧ (s.code u).head? = some .other := by
  obtain ⟨a, rest, s1, hc, h1, rfl⟩ := step_cases hs
  have hk := hi u
  have hh : held s u = 0 := if_neg (fun e => hut (Option.some.inj (ho.symm.trans e)).symm)
  rw [hc, hh] at hk
  obtain ⟨rfl, rfl⟩ := eff_nonholder ho hut h1 hk
  exact ⟨by simp only [skip, hc, List.tail_cons], by rw [hc]; rfl⟩

theorem step_skip_of_other {s : State} {u : Tid} (h : (s.code u).head? = some .other) : step s u = some (skip u s) := by
  cases hc : s.code u with
  | nil => rw [hc] at h; cases h
  | cons a rest =>
    rw [hc] at h
    cases h
    rw [step_of_eff hc .other, skip, hc]; rfl

theorem step_skip_comm (s : State) {u x : Tid} (h : x ≠ u) : step (skip u s) x = (step s x).map (skip u) := by
  have hux : u ≠ x := fun e => h e.symm
  have hcx : (skip u s).code x = s.code x := upd_other _ _ _ _ h
  cases hs : step s x with
  | some s1 =>
    -- the same action takes effect in `skip u s`; the two code updates commute
    obtain ⟨a, rest, s2, hc, he, rfl⟩ := step_cases hs
    rw [step_of_eff (hcx.trans hc) (he.setCode _)]
    simp only [Option.map, skip, upd_other _ _ _ _ hux]
    rw [upd_comm _ _ _ _ _ hux]
  | none =>
    -- an action that takes effect in `skip u s` takes effect in `s`
    cases hs' : step (skip u s) x with
    | none => rfl
    | some s1 =>
      obtain ⟨a, rest, s2, hc, he, _⟩ := step_cases hs'
      have he' : Eff s x a _ := he.setCode s.code
      rw [step_of_eff (hcx ▸ hc) he'] at hs
      cases hs

theorem run_skip_comm {u : Tid} : ∀ (l : List Tid) (s : State), (∀ x ∈ l, x ≠ u) →
    run (skip u s) l = (run s l).map (skip u)
  | [], s, _ => by simp [run]
  | x :: rest, s, h => by
    have hx : x ≠ u := h x (by simp)
    simp only [run]
    rw [step_skip_comm s hx]
    cases hs : step s x with
    | none => simp
    | some s1 =>
      simp
      exact run_skip_comm rest s1 (fun y hy => h y (by simp [hy]))

theorem run_code_other {u : Tid} : ∀ (l : List Tid) {a b : State}, (∀ x ∈ l, x ≠ u) → run a l = some b →
    b.code u = a.code u
  | [], a, b, _, hr => by cases hr; rfl
  | y :: rest, a, b, hy, hr => by
    obtain ⟨a1, hsy, hr⟩ := run_cons_some.1 hr
    rw [run_code_other rest (fun z hz => hy z (List.mem_cons_of_mem _ hz)) hr,
      step_code_other hsy (fun e => hy y List.mem_cons_self e.symm)]

theorem run_append (s : State) (l1 l2 : List Tid) :
    run s (l1 ++ l2) = (run s l1).bind (fun sm => run sm l2) := by
  induction l1 generalizing s with
  | nil => simp [run]
  | cons t rest ih =>
    simp only [List.cons_append, run]
    cases step s t with
    | none => simp
    | some s1 => simp [ih]

theorem run_snoc_some {s s' : State} {l : List Tid} {u : Tid} :
    run s (l ++ [u]) = some s' ↔ ∃ s1, run s l = some s1 ∧ step s1 u = some s' := by
  rw [run_append]
  cases run s l with
  | none => exact ⟨nofun, fun ⟨_, h, _⟩ => nomatch h⟩
  | some s1 =>
    rw [Option.bind_some, run_cons_some]
    exact ⟨fun ⟨s2, h, hr⟩ => ⟨s1, rfl, by cases hr; exact h⟩, fun ⟨_, h, hs⟩ => ⟨s', Option.some.inj h ▸ hs, rfl⟩⟩

theorem serial_append {s sm : State} {l1 l2 : List Tid} (h1 : Serial s l1) (hr : run s l1 = some sm)
    (h2 : Serial sm l2) : Serial s (l1 ++ l2) := by
  induction l1 generalizing s with
  | nil => cases hr; exact h2
  | cons t rest ih =>
    obtain ⟨s1, hs, hr⟩ := run_cons_some.1 hr
    simp only [List.cons_append, Serial, hs] at h1 ⊢
    exact ⟨h1.1, ih h1.2 hr⟩

theorem step_owner {s s' : State} {t : Tid} (hs : step s t = some s') (h0 : s.owner = none ∨ s.owner = some t) :
    s'.owner = none ∨ s'.owner = some t := by
  obtain ⟨a, rest, s1, _, h1, rfl⟩ := step_cases hs
  rcases eff_owner h1 with h | h | h
  · exact h ▸ h0
  · exact Or.inr h
  · exact Or.inl h.2

theorem serial_same_thread {t : Tid} : ∀ (l : List Tid) (s : State), (∀ x ∈ l, x = t) →
    (s.owner = none ∨ s.owner = some t) → Serial s l
  | [], _, _, _ => by simp [Serial]
  | x :: rest, s, h, ho => by
    have hx : x = t := h x (by simp)
    subst hx
    simp only [Serial]
    refine ⟨ho, ?_⟩
    cases hs : step s x with
    | none => trivial
    | some s1 =>
      simp only
      exact serial_same_thread rest s1 (fun y hy => h y (by simp [hy])) (step_owner hs ho)

structure OpenSection (s0 : State) (pre sec : List Tid) (sm : State) (t : Tid) : Prop where
  runPre : run s0 pre = some sm
  serialPre : Serial s0 pre
  free : sm.owner = none
  mine : ∀ x ∈ sec, x = t

/-- Induction on the schedule from its END (hence `r.reverse`).  Beside the serial schedule `l` the statement says where the
    critical section still open at the end begins: `pre` leaves the lock free, `sec` is the holder's alone. -/
theorem decomp_exists {s0 : State} (hi : Inv s0) (h0 : s0.owner = none) :
    ∀ (r : List Tid) (s' : State), run s0 r.reverse = some s' →
      ∃ l, l.Perm r.reverse ∧ run s0 l = some s' ∧ Serial s0 l ∧
        ∀ t, s'.owner = some t → ∃ pre sec sm, l = pre ++ sec ∧ OpenSection s0 pre sec sm t
  | [], s', hr => by
    cases hr
    exact ⟨[], .nil, rfl, trivial, fun t ht => nomatch h0.symm.trans ht⟩
  | u :: r, s', hr => by
    simp only [List.reverse_cons] at hr ⊢
    obtain ⟨s1, h1, hs⟩ := run_snoc_some.1 hr
    obtain ⟨l, hperm, hrun, hser, hopen⟩ := decomp_exists hi h0 r s1 h1
    have hone : ∀ (s : State), s.owner = none ∨ s.owner = some u → Serial s [u] := fun s =>
      serial_same_thread [u] s (fun x hx => List.mem_singleton.1 hx)
    by_cases ho : s1.owner = none ∨ s1.owner = some u
    · -- the lock is free, or `u` holds it: the step stays last; it opens or continues the open section, or leaves none
      refine ⟨l ++ [u], hperm.append_right [u], run_snoc_some.2 ⟨s1, hrun, hs⟩, serial_append hser hrun (hone s1 ho),
        fun t ht => ?_⟩
      obtain rfl : u = t :=
        (step_owner hs ho).elim (fun h => nomatch ht.symm.trans h) (fun h => Option.some.inj (h.symm.trans ht))
      rcases ho with ho | ho
      · exact ⟨l, [u], s1, rfl,
          { runPre := hrun, serialPre := hser, free := ho, mine := fun x hx => List.mem_singleton.1 hx }⟩
      · obtain ⟨pre, sec, sm, rfl, o⟩ := hopen u ho
        exact ⟨pre, sec ++ [u], sm, List.append_assoc ..,
          { o with mine := fun x hx => (List.mem_append.1 hx).elim (o.mine x) List.mem_singleton.1 }⟩
    · cases hown : s1.owner with
      | none => exact absurd (.inl hown) ho
      | some t =>
        -- a non-holder steps while `t` holds the lock: an `other` step (`step_nonholder`), which the mover lemma
        -- (`run_skip_comm`) takes in front of the open section
        have hut : u ≠ t := fun e => ho (.inr (e ▸ hown))
        obtain ⟨pre, sec, sm, rfl, o⟩ := hopen t hown
        obtain ⟨hskip, hhead⟩ := step_nonholder (inv_run hi h1) hown hut hs
        have hne : ∀ x ∈ sec, x ≠ u := fun x hx => o.mine x hx ▸ hut.symm
        have hsec : run sm sec = some s1 := by rw [run_append, o.runPre] at hrun; exact hrun
        have hpreu : run s0 (pre ++ [u]) = some (skip u sm) :=
          run_snoc_some.2 ⟨sm, o.runPre, step_skip_of_other (by rw [← run_code_other sec hne hsec]; exact hhead)⟩
        have hserpu : Serial s0 (pre ++ [u]) := serial_append o.serialPre o.runPre (hone sm (.inl o.free))
        have hown' : s'.owner = some t := by rw [hskip]; exact hown
        refine ⟨pre ++ [u] ++ sec, ?_, ?_, serial_append hserpu hpreu (serial_same_thread sec _ o.mine (.inl o.free)),
          fun t' ht' => ⟨pre ++ [u], sec, skip u sm, rfl,
            { runPre := hpreu, serialPre := hserpu, free := o.free, mine := Option.some.inj (hown'.symm.trans ht') ▸ o.mine }⟩⟩
        · rw [List.append_assoc]
          refine (List.Perm.append_left pre List.perm_append_comm).trans ?_
          rw [← List.append_assoc]; exact hperm.append_right [u]
        · rw [run_append, hpreu]
          show run (skip u sm) sec = some s'
          rw [run_skip_comm sec sm hne, hsec, hskip]; rfl

end CS.Lock
