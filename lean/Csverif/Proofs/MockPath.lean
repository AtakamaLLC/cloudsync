import Csverif.Model.MockFS
import Csverif.Proofs.Path
/- String-level facts the mock-provider proofs need: what the path helpers of provider.py do on
   *clean* paths `canon sep l` (a separator followed by non-empty, separator-free components joined by
   single separators). -/
namespace CS.MockFS
open CS.Path

/-- the mock hard-codes '/' (startswith, rstrip, lstrip, `"/" in`) next to `self.sep` -/
structure COk (c : Cfg) : Prop where
  ok  : c.Ok
  sep : c.sep = '/'

def foldL (c : Cfg) (l : List Str) : List Str := l.map (fold c)

theorem foldL_length (c : Cfg) (l : List Str) : (foldL c l).length = l.length := List.length_map ..

theorem foldL_append (c : Cfg) (a b : List Str) : foldL c (a ++ b) = foldL c a ++ foldL c b := List.map_append ..

theorem foldL_nil_iff (c : Cfg) (l : List Str) : foldL c l = [] ↔ l = [] := List.map_eq_nil_iff

theorem foldL_drop {c : Cfg} (l : List Str) (n : Nat) : foldL c (l.drop n) = (foldL c l).drop n :=
  List.map_drop

theorem Comps.take {c : Cfg} {l : List Str} (h : Comps c l) (n : Nat) : Comps c (l.take n) :=
  ⟨fun f hf => h.1 f (List.mem_of_mem_take hf), fun f hf => h.2 f (List.mem_of_mem_take hf)⟩

theorem Comps.drop {c : Cfg} {l : List Str} (h : Comps c l) (n : Nat) : Comps c (l.drop n) :=
  ⟨fun f hf => h.1 f (List.mem_of_mem_drop hf), fun f hf => h.2 f (List.mem_of_mem_drop hf)⟩

theorem canon_inj {sep : Char} {l m : List Str} (hl : GoodComps sep l) (hm : GoodComps sep m)
    (h : canon sep l = canon sep m) : l = m := by
  rw [← comps_canon sep l hl, ← comps_canon sep m hm, h]

theorem canon_eq_sep {sep : Char} {l : List Str} (hl : GoodComps sep l) : canon sep l = [sep] ↔ l = [] :=
  ⟨canon_inj hl (m := []) nofun, fun e => e ▸ rfl⟩

theorem intercalate_ne_nil {sep : Char} {l : List Str} (hl : GoodComps sep l) (hne : l ≠ []) :
    intercalate sep l ≠ [] :=
  fun e => hne ((canon_eq_sep hl).1 (congrArg (sep :: ·) e))

theorem head_canon (sep : Char) (l : List Str) : (canon sep l).head? = some sep := rfl

theorem head_intercalate_ne {sep : Char} {l : List Str} (hl : GoodComps sep l) :
    (intercalate sep l).head? ≠ some sep := by
  cases l with
  | nil => nofun
  | cons p rest =>
    have hp := hl p (.head _)
    have e : sep :: intercalate sep (p :: rest) = sep :: (p ++ stem sep rest) :=
      canon_eq_stem (List.cons_ne_nil p rest)
    rw [List.cons.inj e |>.2, List.head?_append, Option.or_of_isSome (by simpa using hp.1)]
    exact head?_ne_of_not_mem hp.2

theorem rstrip_canon {sep : Char} {l : List Str} (hl : GoodComps sep l) (hne : l ≠ []) :
    rstrip sep (canon sep l) = canon sep l :=
  rstrip_eq_self _ _ (getLast?_canon_ne hl hne)

theorem hasForbidden_canon {c : Cfg} (fl : Flavour) (hfs : c.sep ∉ fl.forbidden) (l : List Str) :
    hasForbidden fl (canon c.sep l) = l.any (fun n => fl.forbidden.any (fun ch => n.contains ch)) := by
  have hne ch (hch : ch ∈ fl.forbidden) : ch ≠ c.sep := fun e => hfs (e ▸ hch)
  rw [Bool.eq_iff_iff]
  simp only [hasForbidden, List.any_eq_true, List.contains_iff_mem]
  exact ⟨fun ⟨ch, hch, hm⟩ => have ⟨f, hf, hx⟩ := (mem_canon (hne ch hch) l).1 hm; ⟨f, hf, ch, hch, hx⟩,
    fun ⟨f, hf, ch, hch, hx⟩ => ⟨ch, hch, (mem_canon (hne ch hch) l).2 ⟨f, hf, hx⟩⟩⟩

theorem norm_canon {c : Cfg} (h : c.Ok) {l : List Str} (hl : Comps c l) :
    norm c (canon c.sep l) = canon c.sep (foldL c l) := by
  rw [norm, normalizePath_false_form h, C_canon h hl]
  rfl

theorem prefix_decomp {c : Cfg} {f t : List Str} (hp : (foldL c f).isPrefixOf (foldL c t) = true) :
    ∃ t1 t2, t = t1 ++ t2 ∧ foldL c t1 = foldL c f ∧ t.drop f.length = t2 := by
  obtain ⟨r, hr⟩ := List.isPrefixOf_iff_prefix.1 hp
  obtain ⟨t1, t2, rfl, h1, rfl⟩ := List.map_eq_append_iff.1 hr.symm
  exact ⟨t1, t2, rfl, h1, List.drop_left' (by simpa [foldL] using congrArg List.length h1)⟩

theorem isSubpath_canon {c : Cfg} (h : c.Ok) {f t : List Str} (hf : Comps c f) (ht : Comps c t) (strict : Bool) :
    isSubpath c (canon c.sep f) (canon c.sep t) strict =
      if foldL c f = foldL c t then (if strict then .no else .rel [c.sep])
      else if (foldL c f).isPrefixOf (foldL c t) then .rel (c.sep :: intercalate c.sep (t.drop f.length))
      else .no := by
  have ef := normSeps_canon h hf
  have et := normSeps_canon h ht
  by_cases heq : foldL c f = foldL c t
  · rw [if_pos heq, isSubpath_def, ef, et, fold_canon h, fold_canon h, show f.map (fold c) = t.map (fold c) from heq]
    simp [canon]
  rw [if_neg heq]
  by_cases hp : (foldL c f).isPrefixOf (foldL c t) = true
  · obtain ⟨t1, t2, rfl, h1, h2⟩ := prefix_decomp hp
    have hne : t2 ≠ [] := fun e => heq (by rw [e, List.append_nil, h1])
    rw [if_pos hp, h2]
    refine isSubpath_of_decomp h (List.cons_ne_nil _ _) (et.trans (canon_append _ _ hne)) ?_
      (.inl (intercalate_ne_nil ht.right.1 hne))
    rw [ef, rstrip_canon_eq_stem hf.1, fold_stem h, fold_stem h]
    exact congrArg _ h1
  · rw [if_neg hp]
    cases hr : isSubpath c (canon c.sep f) (canon c.sep t) strict with
    | no => rfl
    | rel r =>
      have := (isSubpath_rel_spec h hr).2
      rw [C_canon h hf, C_canon h ht] at this
      exact absurd (List.isPrefixOf_iff_prefix.2 ⟨_, this⟩) hp

theorem childName_canon {c : Cfg} (hc : COk c) {f t : List Str} (hf : Comps c f) (ht : Comps c t) :
    childName c (canon c.sep f) (canon c.sep t) =
      if (foldL c f).isPrefixOf (foldL c t) && t.length == f.length + 1 then t.getLast? else none := by
  rw [childName, isSubpath_canon hc.ok hf ht true]
  cases hp : (foldL c f).isPrefixOf (foldL c t) with
  | false =>
    have : foldL c f ≠ foldL c t := fun e => by simp [e, ← Bool.not_eq_true] at hp
    simp [this]
  | true =>
  obtain ⟨t1, t2, rfl, h1, h2⟩ := prefix_decomp hp
  have hl : f.length = t1.length := by simpa [foldL] using (congrArg List.length h1).symm
  have hg := ht.right.1
  have hs : lstrip c.sep (c.sep :: intercalate c.sep t2) = intercalate c.sep t2 := by
    rw [lstrip, if_pos (beq_self_eq_true _)]
    exact lstrip_eq_self _ _ (head_intercalate_ne hg)
  rw [h2, hl, ← hc.sep, foldL_append, h1]
  simp only [List.self_eq_append_right, foldL_nil_iff, if_true]
  -- what is left of `t` after `f`: nothing, one name (the child), or more (then the relative part contains a separator)
  rcases t2 with _ | ⟨a, _ | ⟨b, rest⟩⟩
  · simp
  · simp only [List.cons_ne_nil, if_false, hs]
    simp [intercalate, (hg a (.head _)).2]
  · simp only [List.cons_ne_nil, if_false, hs]
    simp [intercalate]

theorem replacePath_canon {c : Cfg} (h : c.Ok) {f t g : List Str} (hf : Comps c f) (ht : Comps c t) (hg : Comps c g)
    (hp : (foldL c f).isPrefixOf (foldL c t) = true) (hne : foldL c f ≠ foldL c t) (hgne : g ≠ []) :
    replacePath c (canon c.sep t) (canon c.sep f) (canon c.sep g) = .ok (canon c.sep (g ++ t.drop f.length)) := by
  obtain ⟨t1, t2, rfl, h1, h2⟩ := prefix_decomp hp
  have ht2 : t2 ≠ [] := fun e => hne (by rw [e, List.append_nil, h1])
  rw [replacePath, isSubpath_canon h hf ht false, if_neg hne, if_pos hp, normSeps_canon h hg, h2,
    canon_append _ _ ht2, ← canon_eq_stem hgne]
  simp [canon, intercalate_ne_nil ht.right.1 ht2]

end CS.MockFS
