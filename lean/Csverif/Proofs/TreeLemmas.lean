import Csverif.Model.Tree
import Csverif.Proofs.Assoc
/- The reference tree as a finite map (lookup after set / erase, membership).  `Tree.get` / `Tree.erase` unfold to
   `Assoc.get` / `Assoc.del` and `Tree.set` to a deletion followed by a write at the end, so the laws are those of
   Proofs/Assoc.lean. -/
namespace CS.Tree
variable {C : Type}

theorem get_nil (k : Path) : get ([] : T C) k = none := rfl

theorem get_cons (e : Path × Node C) (t : T C) (k : Path) :
    get (e :: t) k = if e.1 = k then some e.2 else get t k := Assoc.get_cons e t k

theorem get_erase (t : T C) (k k' : Path) : get (erase t k) k' = if k' = k then none else get t k' :=
  Assoc.get_del t k k'

theorem get_set (t : T C) (k : Path) (n : Node C) (k' : Path) :
    get (set t k n) k' = if k' = k then some n else get t k' := Assoc.get_del_snoc t k n k'

theorem mem_of_get {t : T C} {k : Path} {n : Node C} (h : get t k = some n) : (k, n) ∈ t := Assoc.mem_of_get h

theorem get_of_mem {t : T C} (hn : (t.map (·.1)).Nodup) {k : Path} {n : Node C} (hm : (k, n) ∈ t) :
    get t k = some n := Assoc.get_of_mem hn hm

theorem nodup_erase {t : T C} (hn : (t.map (·.1)).Nodup) (k : Path) : ((erase t k).map (·.1)).Nodup :=
  Assoc.nodup_del hn k

theorem mem_erase_iff {t : T C} {k : Path} {e : Path × Node C} : e ∈ erase t k ↔ e ∈ t ∧ e.1 ≠ k := Assoc.mem_del

theorem nodup_set {t : T C} (hn : (t.map (·.1)).Nodup) (k : Path) (n : Node C) : ((set t k n).map (·.1)).Nodup :=
  Assoc.nodup_del_snoc hn k n

theorem mem_set_iff {t : T C} {k : Path} {n : Node C} {e : Path × Node C} :
    e ∈ set t k n ↔ e = (k, n) ∨ (e ∈ t ∧ e.1 ≠ k) := by
  rw [set, List.mem_append, mem_erase_iff, List.mem_singleton, or_comm]

theorem mem_children {t : T C} {k : Path} {e : Path × Node C} :
    e ∈ children t k ↔ e ∈ t ∧ e.1.length = k.length + 1 ∧ k.isPrefixOf e.1 = true := by
  simp [children, List.mem_filter]

end CS.Tree
