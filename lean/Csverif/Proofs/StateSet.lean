import Csverif.Proofs.StatePath
import Csverif.Proofs.StateMoving
/-
C11: the remaining attributes, the kids loop (`updateKids_ho` walks `_update_kids` once, for any loop invariant and any claim about
the exceptions), and the theorem for `ent[side].<attr> = v`.  `hook_all` is the one induction over the fuel: with `n` levels a hooked
assignment keeps the invariant, the number of entries, the paths of the folders on the `_kids_moving` stack and, where ids are not
paths, every `oid` field (`HookPost`), on a normal return and on every exception; and the exception is fuel exhaustion only if `n`
is below the number of entries not on the stack, plus 3.  `good_all` here, `total_all` (StateTotal.lean) and `goodO_all`
(StateItem.lean) are its parts.
-/
namespace CS.State

/-- `st'` differs from `st` in nothing the invariant reads -/
structure PlainRel (st st' : St) : Prop where
  len : st'.ents.length = st.ents.length
  oids : ∀ s, st'.oids s = st.oids s
  paths : ∀ s, st'.paths s = st.paths s
  cs : st'.cs = st.cs
  fields : ∀ i s, (st'.side i s).oid = (st.side i s).oid ∧ (st'.side i s).path = (st.side i s).path ∧
    (st'.side i s).changed = (st.side i s).changed
  mov : st'.moving = st.moving

theorem PlainRel.refl (st : St) : PlainRel st st := ⟨rfl, fun _ => rfl, fun _ => rfl, rfl, fun _ _ => ⟨rfl, rfl, rfl⟩, rfl⟩
theorem PlainRel.trans {st st' st''} (h1 : PlainRel st st') (h2 : PlainRel st' st'') : PlainRel st st'' :=
  ⟨h2.len.trans h1.len, fun s => (h2.oids s).trans (h1.oids s), fun s => (h2.paths s).trans (h1.paths s), h2.cs.trans h1.cs,
   fun i s => ⟨(h2.fields i s).1.trans (h1.fields i s).1, (h2.fields i s).2.1.trans (h1.fields i s).2.1,
     (h2.fields i s).2.2.trans (h1.fields i s).2.2⟩, h2.mov.trans h1.mov⟩

theorem PlainRel.inv {st st'} (h : PlainRel st st') (hi : Inv st) : Inv st' :=
  ⟨hi.1.congr h.len h.oids h.paths (fun i s => ⟨(h.fields i s).1, (h.fields i s).2.1⟩),
   hi.2.congr (fun _ hi' => h.cs ▸ hi') (fun i s => ⟨(h.fields i s).1, (h.fields i s).2.2⟩)⟩

theorem plainRel_dirtyAdd (st : St) (j : Nat) : PlainRel st (st.dirtyAdd j) :=
  ⟨rfl, fun s => by simp, fun s => by simp, rfl, fun _ _ => ⟨rfl, rfl, rfl⟩, rfl⟩

theorem plainRel_modSide (st : St) (e : Nat) (s : Sd) (f : Side → Side)
    (hf : ∀ x, (f x).oid = x.oid ∧ (f x).path = x.path ∧ (f x).changed = x.changed) : PlainRel st (st.modSide e s f) := by
  exact ⟨by simp, fun s => by simp, fun s => by simp, rfl, fun i s' => ⟨proj_modSide st e i s s' f Side.oid fun x => (hf x).1,
    proj_modSide st e i s s' f Side.path fun x => (hf x).2.1, proj_modSide st e i s s' f Side.changed fun x => (hf x).2.2⟩, rfl⟩

theorem plainRel_modEnt (st : St) (e : Nat) (f : Entry → Entry) (hf : ∀ x s, (f x).side s = x.side s) : PlainRel st (st.modEnt e f) := by
  have hs := fun i => side_modEnt st e i f hf
  exact ⟨by simp, fun s => by simp, fun s => by simp, rfl, fun i s => by rw [hs]; exact ⟨rfl, rfl, rfl⟩, rfl⟩

theorem PlainRel.dirtyAdd {st st'} (h : PlainRel st st') (j : Nat) : PlainRel st (st'.dirtyAdd j) := h.trans (plainRel_dirtyAdd _ _)
theorem PlainRel.modSide {st st'} (h : PlainRel st st') (e : Nat) (s : Sd) (f : Side → Side)
    (hf : ∀ x, (f x).oid = x.oid ∧ (f x).path = x.path ∧ (f x).changed = x.changed) : PlainRel st (st'.modSide e s f) :=
  h.trans (plainRel_modSide _ _ _ _ hf)

theorem plainRel_existsState (st : St) (e : Nat) (s : Sd) (v : ExVal) : PlainRel st (existsState st e s v) := by
  unfold existsState
  simp only
  split
  · exact (PlainRel.refl st).modSide _ _ _ (by intro x; exact ⟨rfl, rfl, rfl⟩)
  · split
    · exact (PlainRel.refl st).modSide _ _ _ (by intro x; exact ⟨rfl, rfl, rfl⟩)
    · exact (((PlainRel.refl st).dirtyAdd _).modSide _ _ _ (by intro x; exact ⟨rfl, rfl, rfl⟩)).dirtyAdd _

theorem plainRel_hashState (st : St) (e : Nat) (s : Sd) (v : Option Nat) : PlainRel st (hashState st e s v) := by
  unfold hashState
  simp only
  split
  · exact ((((((PlainRel.refl st).dirtyAdd _).modSide _ _ _ (by intro x; exact ⟨rfl, rfl, rfl⟩)).dirtyAdd _).modSide _ _ _
      (by intro x; exact ⟨rfl, rfl, rfl⟩))).modSide _ _ _ (by intro x; exact ⟨rfl, rfl, rfl⟩)
  · exact ((PlainRel.refl st).dirtyAdd _).modSide _ _ _ (by intro x; exact ⟨rfl, rfl, rfl⟩)

def FV.plain : FV → Bool
  | .path _ | .oid _ | .changed _ => false
  | _ => true

theorem sideSetBody_plain (setF : SetF) (cfg : Cfg) (e : Nat) (s : Sd) (fv : FV) (h : fv.plain = true) (st : St) :
    ∃ st', sideSetBody setF cfg e s fv st = (.ok (), st') ∧ PlainRel st st' := by
  cases fv with
  | path _ => cases h
  | oid _ => cases h
  | changed _ => cases h
  | exists_ v => exact ⟨_, rfl, plainRel_existsState ..⟩
  | hash v => exact ⟨_, rfl, plainRel_hashState ..⟩
  | mtime v => exact ⟨_, rfl, (((PlainRel.refl st).dirtyAdd _).modSide _ _ _ (by intro x; exact ⟨rfl, rfl, rfl⟩)).dirtyAdd _⟩
  | syncHash v => exact ⟨_, rfl, ((PlainRel.refl st).dirtyAdd _).modSide _ _ _ (by intro x; exact ⟨rfl, rfl, rfl⟩)⟩
  | syncPath v => exact ⟨_, rfl, ((PlainRel.refl st).dirtyAdd _).modSide _ _ _ (by intro x; exact ⟨rfl, rfl, rfl⟩)⟩
  | otype v => exact ⟨_, rfl, ((PlainRel.refl st).dirtyAdd _).modSide _ _ _ (by intro x; exact ⟨rfl, rfl, rfl⟩)⟩
  | size v => exact ⟨_, rfl, ((PlainRel.refl st).dirtyAdd _).modSide _ _ _ (by intro x; exact ⟨rfl, rfl, rfl⟩)⟩

theorem kidRel_congr (cfg : Cfg) {st st' : St} (s : Sd) (prior : Path.Str) (i : Nat)
    (h : (st'.side i s).path = (st.side i s).path) : kidRel cfg st' s prior i = kidRel cfg st s prior i := by
  unfold kidRel; rw [h]

theorem sideSet_path_leaf_tr (cfg : Cfg) (n : Nat) (e : Nat) (s : Sd) (v : Option Path.Str) (st0 : St)
    (hi : Inv st0) (hlt : e < st0.ents.length) (hleaf : (st0.side e s).otype ≠ .dir ∨ (st0.side e s).path = none) :
    Tr (fun st => st = st0) (sideSet cfg n e s (.path v))
      (fun _ st' => Inv st' ∧ Frame (some (e, s)) st0 st') (fun st' => Inv st' ∧ Frame (some (e, s)) st0 st') := by
  cases n with
  | zero => exact sideSet_zero_tr _ _ _ _
  | succ n =>
    have hfr0 : Frame (some (e, s)) st0 (popPrior st0 s e) := (frame_popPrior ..).weaken
    refine Ho.tr (sideSet_path_ho cfg n e s v st0 (Q := fun st' => Frame (some (e, s)) st0 st') hi hlt
      { start := Frame.refl _ _, assertFails := fun _ _ => ⟨hi, Frame.refl _ _⟩, popped := fun _ => hfr0,
        chg := fun st5 st6 h5 hrel => h5.trans hrel.frame.weaken, noFuel := fun _ _ h => absurd rfl h, kids := ?_ }
      (fun st6 h6 => h6.trans (frame_pathFin ..)))
    intro c p _ ho hp
    obtain ⟨hinv4, hfr4, hp4⟩ := inv_putPath hi.1 hi.2 s e (c :: p) rfl ho hp hlt
    exact Ho.of_eq (updateKids_skip_eq _ _ _ _ _ _ _ (show _ ∨ _ by rw [(hfr4.2 e s).1]; exact hleaf))
      (fun _ _ => ⟨hinv4, by rw [hfr4.1]; exact hlt, hp4, hfr4⟩) nofun

theorem sideSet_syncPath_tr (cfg : Cfg) (n : Nat) (e : Nat) (s : Sd) (v : Option Path.Str) (st0 : St) (hi : Inv st0) :
    Tr (fun st => st = st0) (sideSet cfg n e s (.syncPath v)) (fun _ st' => Inv st' ∧ Frame none st0 st') (fun _ => False) := by
  cases n with
  | zero => exact sideSet_zero_tr _ _ _ _
  | succ n =>
    rintro st rfl
    have hstep : sideSet cfg (n + 1) e s (.syncPath v) st = (.ok (), (st.dirtyAdd e).modSide e s (fun x => { x with syncPath := v })) := rfl
    rw [hstep]
    have hpr : PlainRel st ((st.dirtyAdd e).modSide e s (fun x => { x with syncPath := v })) :=
      ((PlainRel.refl st).dirtyAdd _).modSide _ _ _ (by intro x; exact ⟨rfl, rfl, rfl⟩)
    exact ⟨fun _ _ => ⟨hpr.inv hi, Frame.of_sides (by simp) fun i s' =>
      ⟨proj_modSide _ e i s s' _ Side.otype fun _ => rfl, proj_modSide _ e i s s' _ Side.path fun _ => rfl⟩⟩, fun x hx => by cases hx⟩

def KeepPaths (M : List Nat) (st st' : St) : Prop := ∀ m ∈ M, ∀ s, (st'.side m s).path = (st.side m s).path

theorem KeepPaths.refl (M) (st : St) : KeepPaths M st st := fun _ _ _ => rfl
theorem KeepPaths.trans {M st st' st''} (h1 : KeepPaths M st st') (h2 : KeepPaths M st' st'') : KeepPaths M st st'' :=
  fun m hm s => (h2 m hm s).trans (h1 m hm s)
theorem KeepPaths.mono {M M' st st'} (h : KeepPaths M st st') (hs : ∀ m ∈ M', m ∈ M) : KeepPaths M' st st' :=
  fun m hm s => h m (hs m hm) s
theorem Frame.keep {t st st'} (h : Frame t st st') (M : List Nat) (ht : ∀ e s, t = some (e, s) → e ∉ M) : KeepPaths M st st' :=
  fun m hm s => (h.2 m s).2 (fun heq => ht m s heq.symm hm)

theorem Tr.with_mov {α} {P : St → Prop} {m : M α} {Q : α → St → Prop} {E : St → Prop} (h : Tr P m Q E) (hm : Mov m) (M : List Nat) :
    Tr (fun st => P st ∧ st.moving = M) m (fun a st' => Q a st' ∧ st'.moving = M) (fun st' => E st' ∧ st'.moving = M) := by
  intro st ⟨hp, hM⟩
  have := h st hp
  have hmv : (m st).2.moving = M := (hm st).trans hM
  exact ⟨fun a ha => ⟨this.1 a ha, hmv⟩, fun x hx hne => ⟨this.2 x hx hne, hmv⟩⟩

theorem inv_setMoving {st : St} (hi : Inv st) (x : List Nat) : Inv { st with moving := x } :=
  ⟨hi.1.congr rfl (fun s => by cases s <;> rfl) (fun s => by cases s <;> rfl) (fun _ _ => ⟨rfl, rfl⟩),
   hi.2.congr (fun _ h => h) (fun _ _ => ⟨rfl, rfl⟩)⟩

/-- the paths of the folders whose kids are being moved are kept so that a folder's own new path still stands when its kids loop is
    over -/
def GoodPost (st : St) (st' : St) : Prop := Inv st' ∧ st'.ents.length = st.ents.length ∧ KeepPaths st.moving st st'

def Good (cfg : Cfg) (n : Nat) : Prop :=
  ∀ e s fv st, Inv st → e < st.ents.length → e ∉ st.moving →
    Tr (fun st' => st' = st) (sideSet cfg n e s fv) (fun _ st' => GoodPost st st') (GoodPost st)

/-- loop invariant of `_update_kids` -/
def KidsJ (L : Nat) (M : List Nat) (st0 : St) (st : St) : Prop :=
  Inv st ∧ st.ents.length = L ∧ st.moving = M ∧ KeepPaths M st0 st

/-- one kid is moved (state.py:872-893): its id (path-id providers only), its path — recursively, `_update_kids` of the kid —, its
    sync_path -/
theorem moveKid_ho {J : St → Prop} {E : Exc → St → Prop} (cfg : Cfg) (n : Nat) (s : Sd) (sub : Nat) (prior path rel : Path.Str)
    (step : ∀ fv, (cfg.oip s = false → ∀ v, fv ≠ .oid v) → ∀ st, J st → Ho st (sideSet cfg n sub s fv) (fun _ => J) E)
    (st : St) (hj : J st) : Ho st (moveKid (sideSet cfg n) cfg s sub prior path rel) (fun _ => J) E := by
  unfold moveKid
  simp only
  refine Ho.bind (R := fun _ => J) (Ho.when (fun hoip => ?_) fun _ => hj) fun _ st1 hj1 =>
    Ho.bind (step _ (fun _ _ h => by cases h) st1 hj1) fun _ st2 hj2 => ?_
  · split
    · exact step _ (fun h => by rw [hoip] at h; cases h) st hj
    · exact Ho.pure hj
  unfold fixSyncPath
  refine Ho.getSt ?_
  split
  · split
    · exact step _ (fun _ _ h => by cases h) st2 hj2
    · exact Ho.pure hj2
  · exact Ho.pure hj2

/-- entries on the stack `M` are skipped (`sub ∉ M`), every other kid is an existing entry (`sub < L`) -/
theorem kidsLoop_ho {J : St → Prop} {E : Exc → St → Prop} (cfg : Cfg) (n : Nat) (s : Sd) (prior pth : Path.Str) (L : Nat) (M : List Nat)
    (hJ : ∀ st, J st → st.ents.length = L ∧ st.moving = M)
    (step : ∀ sub, sub ∉ M → sub < L → ∀ fv, (cfg.oip s = false → ∀ v, fv ≠ .oid v) → ∀ st, J st → Ho st (sideSet cfg n sub s fv) (fun _ => J) E) :
    ∀ (l : List Nat) (st : St), J st → Ho st (kidsLoop (sideSet cfg n) cfg s prior pth l) (fun _ => J) E
  | [], _, hj => Ho.pure hj
  | sub :: rest, st1, hj => by
    unfold kidsLoop
    refine Ho.getSt ?_
    have ih := kidsLoop_ho cfg n s prior pth L M hJ step rest
    cases hk : kidRel cfg st1 s prior sub with
    | none => exact ih st1 hj
    | some rel =>
      simp only
      obtain ⟨hl1, hm1⟩ := hJ st1 hj
      split
      · exact ih st1 hj
      · next hc =>
        have hsub : sub ∉ M := fun hmem => hc (by rw [hm1]; simpa using hmem)
        have hsublt : sub < L := by
          rw [← hl1]
          apply Decidable.byContradiction; intro hge
          unfold kidRel at hk; rw [path_oob st1 sub s hge] at hk; cases hk
        exact Ho.bind (moveKid_ho cfg n s sub prior pth rel (step sub hsub hsublt) st1 hj) fun _ => ih

theorem updateKids_ho {J : St → Prop} {E : Exc → St → Prop} (cfg : Cfg) (n : Nat) (s : Sd) (e : Nat) (prior : Option Path.Str)
    (pth : Path.Str) (st4 : St) (hJ : ∀ st, J st → st.ents.length = st4.ents.length ∧ st.moving = e :: st4.moving)
    (step : ∀ sub, sub ∉ e :: st4.moving → sub < st4.ents.length → ∀ fv, (cfg.oip s = false → ∀ v, fv ≠ .oid v) →
      ∀ st, J st → Ho st (sideSet cfg n sub s fv) (fun _ => J) E)
    (h0 : J { st4 with moving := e :: st4.moving }) {Q : St → Prop} {EQ : Exc → St → Prop}
    (hQ : ∀ st', J st' → Q { st' with moving := st'.moving.tail }) (hE : ∀ x st', E x st' → EQ x { st' with moving := st'.moving.tail }) :
    Ho st4 (updateKids (sideSet cfg n) cfg s e prior pth) (fun _ => Q) EQ := by
  unfold updateKids
  refine Ho.finally_ (Q0 := fun _ => J) (E0 := E) (Ho.modify_bind ?_) (fun _ => hQ) hE
  unfold updateKidsOf
  refine Ho.getSt ?_
  cases prior with
  | none => exact Ho.pure h0
  | some pr =>
    simp only
    exact Ho.when (fun _ => kidsLoop_ho cfg n s pr pth _ _ hJ step _ _ h0) (fun _ => h0)

@[simp] theorem moving_popPrior (st : St) (s e) : (popPrior st s e).moving = st.moving := by unfold popPrior; split <;> simp
@[simp] theorem moving_putPath (st : St) (s e pth) : (putPath st s e pth).moving = st.moving := by simp [putPath]
@[simp] theorem moving_pathFin (st : St) (e s v) : (pathFin st e s v).moving = st.moving := by simp [pathFin]

def OidF (st st' : St) : Prop := ∀ i s, (st'.side i s).oid = (st.side i s).oid

theorem OidF.refl (st : St) : OidF st st := fun _ _ => rfl
theorem OidF.trans {st st' st'' : St} (h1 : OidF st st') (h2 : OidF st' st'') : OidF st st'' := fun i s => (h2 i s).trans (h1 i s)
theorem oidF_popPrior (st : St) (s e) : OidF st (popPrior st s e) := fun i s' => by rw [side_popPrior]
theorem oidF_pathFin (st : St) (e s v) : OidF st (pathFin st e s v) :=
  fun i s' => proj_modSide (st.dirtyAdd e) e i s s' _ Side.oid fun _ => rfl
theorem oidF_putPath (st : St) (s e pth) : OidF st (putPath st s e pth) :=
  fun i s' => (proj_modSide (st.setPathSlot s (some pth) (st.side e s).oid e) e i s s' (fun x => { x with path := some pth }) Side.oid
    fun _ => rfl).trans (by rw [side_setPathSlot])

def budgetOf (L : Nat) (M : List Nat) : Nat := (List.range L).countP (fun i => !M.contains i)

theorem countP_lt {p q : Nat → Bool} (hpq : ∀ x, p x = true → q x = true) (x : Nat) (hq : q x = true) (hp : p x = false) :
    ∀ l : List Nat, x ∈ l → l.countP p + 1 ≤ l.countP q
  | [], h => by cases h
  | y :: t, h => by
    rw [List.countP_cons, List.countP_cons]
    by_cases hxy : x = y
    · subst hxy
      have : t.countP p ≤ t.countP q := List.countP_mono_left (fun z _ => hpq z)
      simp only [hq, hp, if_true, Bool.false_eq_true, if_false]
      omega
    · have hmem : x ∈ t := by
        cases h with
        | head => exact absurd rfl hxy
        | tail _ h' => exact h'
      have ih := countP_lt hpq x hq hp t hmem
      by_cases hpy : p y = true
      · simp only [hpy, hpq y hpy, if_true]; omega
      · have hpy' : p y = false := by simpa using hpy
        simp only [hpy', Bool.false_eq_true, if_false]
        split <;> omega

/-- this pays for the level of fuel that each nested `_update_kids` costs (the kids case of `hook_all`) -/
theorem budget_cons {L : Nat} {M : List Nat} {e : Nat} (hlt : e < L) (hm : e ∉ M) : budgetOf L (e :: M) + 1 ≤ budgetOf L M := by
  unfold budgetOf
  apply countP_lt (x := e)
  · intro x hx
    simp only [Bool.not_eq_true', List.contains_eq_mem, List.mem_cons, decide_eq_false_iff_not, not_or] at hx ⊢
    simpa using hx.2
  · simpa using hm
  · simp
  · exact List.mem_range.2 hlt

theorem budget_le (L : Nat) (M : List Nat) : budgetOf L M ≤ L := by
  unfold budgetOf
  exact Nat.le_trans List.countP_le_length (by simp)

/-- what a hooked assignment on side `s` leaves alone while the folders `M` are on the `_kids_moving` stack -/
structure Kept (cfg : Cfg) (s : Sd) (M : List Nat) (st st' : St) : Prop where
  len : st'.ents.length = st.ents.length
  mov : st'.moving = st.moving
  paths : KeepPaths M st st'
  oids : cfg.oip s = false → OidF st st'

theorem Kept.refl (cfg : Cfg) (s : Sd) (M : List Nat) (st : St) : Kept cfg s M st st := ⟨rfl, rfl, KeepPaths.refl _ _, fun _ => OidF.refl _⟩
theorem Kept.trans {cfg : Cfg} {s M st st' st''} (h1 : Kept cfg s M st st') (h2 : Kept cfg s M st' st'') : Kept cfg s M st st'' :=
  ⟨h2.len.trans h1.len, h2.mov.trans h1.mov, h1.paths.trans h2.paths, fun ho => (h1.oids ho).trans (h2.oids ho)⟩
theorem Kept.of_frame {cfg : Cfg} {s M t st st'} (hf : Frame t st st') (ht : ∀ e s, t = some (e, s) → e ∉ M) (hm : st'.moving = st.moving)
    (ho : OidF st st') : Kept cfg s M st st' := ⟨hf.1, hm, hf.keep M ht, fun _ => ho⟩

def HookPost (cfg : Cfg) (s : Sd) (fv : FV) (st st' : St) : Prop :=
  GoodPost st st' ∧ (cfg.oip s = false → (∀ v, fv ≠ .oid v) → OidF st st')

structure OrFuel (b : Prop) (P : St → Prop) (x : Exc) (st' : St) : Prop where
  fuel : x = .recursion → b
  other : x ≠ .recursion → P st'

/-- the statement proved by induction on the fuel `n` (`hook_all`) -/
def Hook (cfg : Cfg) (n : Nat) : Prop :=
  ∀ e s fv st, Inv st → e < st.ents.length → e ∉ st.moving →
    Ho st (sideSet cfg n e s fv) (fun _ => HookPost cfg s fv st) (OrFuel (n < budgetOf st.ents.length st.moving + 3) (HookPost cfg s fv st))

/-- loop invariant of `_update_kids` in `hook_all`; `st0` is the state in which the loop starts, the moved folder pushed -/
def HookKids (cfg : Cfg) (s : Sd) (st0 st : St) : Prop := Inv st ∧ Kept cfg s st0.moving st0 st

theorem hook_kidStep (cfg : Cfg) (n : Nat) (hG : Hook cfg n) (s : Sd) (sub : Nat) (st0 : St) (hsub : sub ∉ st0.moving)
    (hlt : sub < st0.ents.length) (fv : FV) (hfv : cfg.oip s = false → ∀ v, fv ≠ .oid v) (st1 : St) (h1 : HookKids cfg s st0 st1) :
    Ho st1 (sideSet cfg n sub s fv) (fun _ => HookKids cfg s st0)
      (OrFuel (n < budgetOf st0.ents.length st0.moving + 3) (HookKids cfg s st0)) := by
  obtain ⟨hi1, hk1⟩ := h1
  have hpost : ∀ st', HookPost cfg s fv st1 st' → st'.moving = st1.moving → HookKids cfg s st0 st' := fun st' h h4 =>
    ⟨h.1.1, hk1.trans ⟨h.1.2.1, h4, hk1.mov ▸ h.1.2.2, fun hoip => h.2 hoip (hfv hoip)⟩⟩
  refine ((hG sub s fv st1 hi1 (hk1.len ▸ hlt) (hk1.mov ▸ hsub)).with_keeps (R := fun st st' => st'.moving = st.moving)
    (sideSet_moving cfg n sub s fv)).conseq (fun _ st' h => hpost st' h.1 h.2) ?_
  rintro x st' ⟨⟨hr, hg⟩, h4⟩
  exact ⟨fun hx => by rw [← hk1.len, ← hk1.mov]; exact hr hx, fun hx => hpost st' (hg hx) h4⟩

theorem hook_updateKids (cfg : Cfg) (n : Nat) (hG : Hook cfg n) (s : Sd) (e : Nat) (prior : Option Path.Str) (pth : Path.Str) (st4 : St)
    (hi4 : Inv st4) :
    Ho st4 (updateKids (sideSet cfg n) cfg s e prior pth) (fun _ st5 => Inv st5 ∧ Kept cfg s (e :: st4.moving) st4 st5)
      (OrFuel (n < budgetOf st4.ents.length (e :: st4.moving) + 3) fun st5 => Inv st5 ∧ Kept cfg s (e :: st4.moving) st4 st5) := by
  have hpop : ∀ st', HookKids cfg s { st4 with moving := e :: st4.moving } st' →
      Inv { st' with moving := st'.moving.tail } ∧ Kept cfg s (e :: st4.moving) st4 { st' with moving := st'.moving.tail } :=
    fun st' ⟨h1, h2⟩ => ⟨inv_setMoving h1 _, h2.len, by simp [h2.mov], h2.paths, h2.oids⟩
  exact updateKids_ho (J := HookKids cfg s { st4 with moving := e :: st4.moving }) cfg n s e prior pth st4
    (fun _ h => ⟨h.2.len, h.2.mov⟩) (E := OrFuel (n < budgetOf st4.ents.length (e :: st4.moving) + 3) (HookKids cfg s { st4 with moving := e :: st4.moving }))
    (fun sub hsub hlt fv hfv => hook_kidStep cfg n hG s sub { st4 with moving := e :: st4.moving } hsub hlt fv hfv)
    ⟨inv_setMoving hi4 _, Kept.refl ..⟩ hpop (fun x st' h => ⟨h.fuel, fun hx => hpop st' (h.other hx)⟩)

/-- `oid` runs out of fuel only when the ousting call has none.  `path`: the kids are moved by the induction hypothesis
    (`hook_updateKids`) with `e` pushed, and `budget_cons` turns "`n` below the budget with `e` pushed" into "`n + 1` below the budget". -/
theorem hook_all (cfg : Cfg) : ∀ n, Hook cfg n
  | 0 => fun _ _ _ _ _ _ _ => Ho.throw ⟨fun _ => Nat.succ_pos _, fun h => absurd rfl h⟩
  | n + 1 => by
    have hG := hook_all cfg n
    intro e s fv st hi hlt hm
    have hpost : ∀ {st'}, Inv st' → Kept cfg s st.moving st st' → HookPost cfg s fv st st' :=
      fun h1 h2 => ⟨⟨h1, h2.len, h2.paths⟩, fun hoip _ => h2.oids hoip⟩
    by_cases hpl : fv.plain = true
    · obtain ⟨st', heq, hrel⟩ := sideSetBody_plain (sideSet cfg n) cfg e s fv hpl st
      exact Ho.of_eq (show sideSet cfg (n + 1) e s fv st = _ from heq)
        (fun _ _ => hpost (hrel.inv hi) ⟨hrel.len, hrel.mov, fun m _ s' => (hrel.fields m s').2.1, fun _ i s' => (hrel.fields i s').1⟩) nofun
    cases fv with
    | oid v =>
      refine (sideSet_oid_ho (oustOk_fuel cfg n) cfg hi.1 hi.2 e s v hlt).conseq ?_ ?_
      · intro _ st' ⟨h1, h2, h3⟩
        exact ⟨⟨⟨h1, h2⟩, h3.1, h3.keep _ nofun⟩, fun _ hv => absurd rfl (hv v)⟩
      · rintro x st' ⟨hn, rfl⟩; exact ⟨fun _ => by omega, fun h => absurd rfl h⟩
    | changed v =>
      refine (sideSet_changed_ho cfg (n + 1) noX e s v hi.1 hi.2 hlt).conseq ?_ (fun _ _ h => nomatch h.2)
      intro _ st' ⟨h3, h1, h2⟩
      exact hpost ⟨h1, h2⟩ (.of_frame h3.frame nofun h3.mov fun i s' => (h3.field i s').1)
    | path v =>
      have hte : ∀ e' s', some (e, s) = some (e', s') → e' ∉ st.moving := fun e' s' h => by cases h; exact hm
      refine (sideSet_path_ho cfg n e s v st (E := OrFuel (n + 1 < budgetOf st.ents.length st.moving + 3) (HookPost cfg s (.path v) st))
        (Q := Kept cfg s st.moving st) hi hlt
        { start := Kept.refl ..,
          assertFails := fun _ => ⟨nofun, fun _ => hpost hi (Kept.refl ..)⟩,
          popped := fun _ => .of_frame (frame_popPrior st s e) nofun (by simp) (oidF_popPrior st s e),
          chg := fun st5 st6 h5 hrel => h5.trans (.of_frame hrel.frame nofun hrel.mov fun i s' => (hrel.field i s').1),
          noFuel := fun _ _ => ⟨fun _ => by omega, fun h => absurd rfl h⟩, kids := ?_ }
        (fun st6 h6 => h6.trans (.of_frame (frame_pathFin st6 e s v) (fun e' s' h => by cases h; exact h6.mov ▸ hm) (by simp) (oidF_pathFin st6 e s v)))).conseq
        (fun _ _ h => hpost h.1 h.2) (fun _ _ h => h)
      intro c p _ ho hp
      obtain ⟨hinv4, hfr4, hp4⟩ := inv_putPath hi.1 hi.2 s e (c :: p) rfl ho hp hlt
      have hk4 : Kept cfg s st.moving st (putPath (popPrior st s e) s e (c :: p)) :=
        .of_frame hfr4 hte (by simp) ((oidF_popPrior st s e).trans (oidF_putPath _ s e _))
      have hk : ∀ st5, Kept cfg s (e :: (putPath (popPrior st s e) s e (c :: p)).moving) (putPath (popPrior st s e) s e (c :: p)) st5 →
          (st5.side e s).path = some (c :: p) ∧ Kept cfg s st.moving st st5 := fun st5 h5 =>
        ⟨by rw [h5.paths e (List.mem_cons_self ..) s]; exact hp4,
         hk4.trans { h5 with paths := h5.paths.mono fun m hmem => List.mem_cons_of_mem _ (hk4.mov ▸ hmem) }⟩
      refine (hook_updateKids cfg n hG s e (st.side e s).path (c :: p) _ hinv4).conseq ?_ ?_
      · intro _ st5 h5
        exact ⟨h5.1, (hk st5 h5.2).2.len ▸ hlt, hk st5 h5.2⟩
      · rintro x st5 ⟨hr, hg⟩
        refine ⟨fun hx => ?_, fun hx => hpost (hg hx).1 (hk st5 (hg hx).2).2⟩
        -- the push pays for this level
        have := hr hx
        rw [hk4.len, hk4.mov] at this
        have := budget_cons hlt hm
        omega
    | _ => exact absurd rfl hpl

theorem good_all (cfg : Cfg) : ∀ n, Good cfg n := fun n e s fv st hi hlt hm =>
  ((hook_all cfg n e s fv st hi hlt hm).conseq (fun _ _ h => h.1) (fun _ _ h hx => (h.other hx).1)).tr

theorem sideSet_inv (cfg : Cfg) (n : Nat) (e : Nat) (s : Sd) (fv : FV) (st : St) (hi : Inv st) (hlt : e < st.ents.length)
    (hm : e ∉ st.moving) :
    Tr (fun st' => st' = st) (sideSet cfg n e s fv) (fun _ st' => Inv st' ∧ st'.ents.length = st.ents.length)
      (fun st' => Inv st' ∧ st'.ents.length = st.ents.length) :=
  (good_all cfg n e s fv st hi hlt hm).conseq (fun _ h => h) (fun _ _ h => ⟨h.1, h.2.1⟩) (fun _ h => ⟨h.1, h.2.1⟩)

theorem kidStep_tr (cfg : Cfg) (n : Nat) (hG : Good cfg n) (s : Sd) (sub : Nat) (L : Nat) (M : List Nat) (st0 : St) (hsub : sub ∉ M)
    (hlt : sub < L) (fv : FV) : Tr (KidsJ L M st0) (sideSet cfg n sub s fv) (fun _ => KidsJ L M st0) (KidsJ L M st0) := by
  apply Tr.fix
  rintro st1 ⟨hi1, hl1, hm1, hk1⟩
  refine ((hG sub s fv st1 hi1 (hl1 ▸ hlt) (hm1 ▸ hsub)).with_mov (sideSet_moving cfg n sub s fv) M).conseq ?_ ?_ ?_
  · rintro st rfl; exact ⟨rfl, hm1⟩
  · rintro _ st' ⟨⟨h1, h2, h3⟩, h4⟩; exact ⟨h1, h2.trans hl1, h4, hk1.trans (hm1 ▸ h3)⟩
  · rintro st' ⟨⟨h1, h2, h3⟩, h4⟩; exact ⟨h1, h2.trans hl1, h4, hk1.trans (hm1 ▸ h3)⟩

theorem moveKid_tr (cfg : Cfg) (n : Nat) (hG : Good cfg n) (s : Sd) (sub : Nat) (prior path rel : Path.Str) (L : Nat) (M : List Nat)
    (st0 : St) (hsub : sub ∉ M) (hlt : sub < L) :
    Tr (KidsJ L M st0) (moveKid (sideSet cfg n) cfg s sub prior path rel) (fun _ => KidsJ L M st0) (KidsJ L M st0) :=
  moveKid_ho (E := fun x st => x ≠ .recursion → KidsJ L M st0 st) cfg n s sub prior path rel
    (fun fv _ => kidStep_tr cfg n hG s sub L M st0 hsub hlt fv)

theorem kidsLoop_tr (cfg : Cfg) (n : Nat) (hG : Good cfg n) (s : Sd) (prior pth : Path.Str) (L : Nat) (M : List Nat) (st0 : St) :
    ∀ l : List Nat, Tr (KidsJ L M st0) (kidsLoop (sideSet cfg n) cfg s prior pth l) (fun _ => KidsJ L M st0) (KidsJ L M st0) :=
  kidsLoop_ho (E := fun x st => x ≠ .recursion → KidsJ L M st0 st) cfg n s prior pth L M (fun _ h => ⟨h.2.1, h.2.2.1⟩)
    (fun sub hsub hlt fv _ => kidStep_tr cfg n hG s sub L M st0 hsub hlt fv)

theorem updateKids_tr (cfg : Cfg) (n : Nat) (hG : Good cfg n) (s : Sd) (e : Nat) (prior : Option Path.Str) (pth : Path.Str) (st4 : St)
    (hi4 : Inv st4) :
    Tr (fun st => st = st4) (updateKids (sideSet cfg n) cfg s e prior pth)
      (fun _ st5 => Inv st5 ∧ st5.ents.length = st4.ents.length ∧ st5.moving = st4.moving ∧ KeepPaths (e :: st4.moving) st4 st5)
      (fun st5 => Inv st5 ∧ st5.ents.length = st4.ents.length ∧ st5.moving = st4.moving ∧ KeepPaths (e :: st4.moving) st4 st5) := by
  have hpop : ∀ st', KidsJ st4.ents.length (e :: st4.moving) { st4 with moving := e :: st4.moving } st' →
      Inv { st' with moving := st'.moving.tail } ∧ st'.ents.length = st4.ents.length ∧ st'.moving.tail = st4.moving ∧
        KeepPaths (e :: st4.moving) st4 { st' with moving := st'.moving.tail } :=
    fun st' ⟨h1, h2, h3, h4⟩ => ⟨inv_setMoving h1 _, h2, by simp [h3], fun m hm s' => h4 m hm s'⟩
  exact Ho.tr <| updateKids_ho (E := fun x st => x ≠ .recursion → KidsJ st4.ents.length (e :: st4.moving) { st4 with moving := e :: st4.moving } st)
    cfg n s e prior pth st4 (fun _ h => ⟨h.2.1, h.2.2.1⟩) (fun sub hsub hlt fv _ => kidStep_tr cfg n hG s sub _ _ _ hsub hlt fv)
    ⟨inv_setMoving hi4 _, rfl, rfl, KeepPaths.refl _ _⟩ hpop (fun _ _ h hx => hpop _ (h hx))

end CS.State
