import Csverif.Proofs.Storage
/- The id-order invariant of the table and, on a table that has it, the paged readers of Model/Storage.lean
   (for the size-independence part of Props/C09.lean). -/
namespace CS.Storage
namespace Sqlite
variable {V : Type}

/-- new ids are `maxId + 1`, so insertion order is id order -/
def Sorted (t : Table V) : Prop := t.Pairwise (fun a b => a.id < b.id)

/-- `1 ≤ id`: the paged scan starts at cursor 0 and selects `id > cursor`, so a row with id 0 would never be read -/
def Inv2 (t : Table V) : Prop := Sorted t ∧ ∀ r ∈ t, 1 ≤ r.id

theorem Sorted.inv {t : Table V} (h : Sorted t) : Inv t := by
  unfold Inv
  rw [List.Nodup, List.pairwise_map]
  exact List.Pairwise.imp (fun hab => Nat.ne_of_lt hab) h

theorem sorted_filter {t : Table V} (h : Sorted t) (p : Row V → Bool) : Sorted (t.filter p) :=
  List.Pairwise.filter p h

theorem inv2_iff (t : Table V) : Inv2 t ↔ (ids t).Pairwise (· < ·) ∧ ∀ a ∈ ids t, 1 ≤ a := by
  unfold Inv2 Sorted ids
  rw [List.pairwise_map, List.forall_mem_map]

theorem inv2_step (t : Table V) (op : Op V) (h : Inv2 t) : Inv2 (step t op).1 := by
  rw [inv2_iff] at h ⊢
  rcases ids_step t op with hs | he
  · exact ⟨h.1.sublist hs, fun a ha => h.2 a (hs.subset ha)⟩
  · rw [he]
    refine ⟨List.pairwise_append.2 ⟨h.1, List.pairwise_singleton _ _, fun a ha b hb => ?_⟩, fun a ha => ?_⟩
    · cases List.mem_singleton.1 hb
      exact Nat.lt_succ_of_le (le_maxId_of_mem_ids ha)
    · rcases List.mem_append.1 ha with ha | ha
      · exact h.2 a ha
      · cases List.mem_singleton.1 ha
        omega

/-! `orderById` is a sort (`orderById_perm`, `orderById_sorted`: said of the model, for its own sake); the paged theorems only
    need that it leaves an id-ordered table alone (`orderById_of_sorted`) -/

theorem insertById_perm (r : Row V) (t : Table V) : (insertById r t).Perm (r :: t) := by
  induction t with
  | nil => exact List.Perm.refl _
  | cons x xs ih =>
    simp only [insertById]
    split
    · exact List.Perm.refl _
    · exact (List.Perm.cons x ih).trans (List.Perm.swap r x xs)

theorem orderById_perm (t : Table V) : (orderById t).Perm t := by
  induction t with
  | nil => exact List.Perm.refl _
  | cons x xs ih =>
    simp only [orderById]
    exact (insertById_perm x _).trans (List.Perm.cons x ih)

theorem insertById_sorted (r : Row V) (t : Table V) (h : t.Pairwise (fun a b => a.id ≤ b.id)) :
    (insertById r t).Pairwise (fun a b => a.id ≤ b.id) := by
  induction t with
  | nil => exact List.pairwise_singleton _ _
  | cons x xs ih =>
    simp only [insertById]
    obtain ⟨hx, hxs⟩ := List.pairwise_cons.1 h
    split
    · rename_i hle
      refine List.pairwise_cons.2 ⟨?_, h⟩
      intro b hb
      rcases List.mem_cons.1 hb with rfl | hb
      · exact hle
      · exact Nat.le_trans hle (hx b hb)
    · rename_i hnle
      refine List.pairwise_cons.2 ⟨?_, ih hxs⟩
      intro b hb
      have := (insertById_perm r xs).mem_iff.1 hb
      rcases List.mem_cons.1 this with rfl | hb'
      · omega
      · exact hx b hb'

theorem orderById_sorted (t : Table V) : (orderById t).Pairwise (fun a b => a.id ≤ b.id) := by
  induction t with
  | nil => exact List.Pairwise.nil
  | cons x xs ih => simp only [orderById]; exact insertById_sorted x _ ih

theorem orderById_of_sorted (t : Table V) (h : Sorted t) : orderById t = t := by
  induction t with
  | nil => rfl
  | cons x xs ih =>
    obtain ⟨hx, hxs⟩ := List.pairwise_cons.1 h
    simp only [orderById, ih hxs]
    cases xs with
    | nil => rfl
    | cons y ys =>
      simp only [insertById]
      rw [if_pos (Nat.le_of_lt (hx y (List.mem_cons_self)))]

theorem filter_gt_last (R : Table V) (hR : Sorted R) (p : Nat) (l : Row V)
    (hl : (R.take p).getLast? = some l) :
    R.filter (fun r => decide (l.id < r.id)) = R.drop p := by
  have hsplit : R = R.take p ++ R.drop p := (List.take_append_drop p R).symm
  have hS : Sorted (R.take p ++ R.drop p) := by rw [← hsplit]; exact hR
  obtain ⟨hT, _, hTD⟩ := List.pairwise_append.1 hS
  have hlmem : l ∈ R.take p := List.mem_of_getLast? hl
  have hle : ∀ a ∈ R.take p, a.id ≤ l.id := by
    intro a ha
    obtain ⟨ys, hys⟩ := List.getLast?_eq_some_iff.1 hl
    rw [hys] at ha hT
    rcases List.mem_append.1 ha with ha | ha
    · have := (List.pairwise_append.1 hT).2.2 a ha l (List.mem_singleton.2 rfl)
      exact Nat.le_of_lt this
    · simp only [List.mem_singleton] at ha
      subst ha; exact Nat.le_refl _
  conv => lhs; rw [hsplit]
  rw [List.filter_append]
  have h1 : (R.take p).filter (fun r => decide (l.id < r.id)) = [] := by
    rw [List.filter_eq_nil_iff]
    intro a ha
    have := hle a ha
    simp only [decide_eq_true_eq]; omega
  have h2 : (R.drop p).filter (fun r => decide (l.id < r.id)) = R.drop p := by
    rw [List.filter_eq_self]
    intro a ha
    simp only [decide_eq_true_eq]
    exact hTD l hlmem a ha
  rw [h1, h2, List.nil_append]

/-- on a table in id order the per-page query is a `take` of the selected rows beyond the cursor: `ORDER BY id` has nothing to do -/
theorem page_eq {t : Table V} (ht : Sorted t) (tag : Option Tag) (pos p : Nat) :
    page t tag pos p = ((t.filter (sel tag)).filter (fun r => decide (pos < r.id))).take p := by
  unfold page
  rw [orderById_of_sorted _ (sorted_filter ht _), List.filter_filter]
  congr 1
  apply List.filter_congr
  intro a _
  exact Bool.and_comm _ _

/-- the fuel bound: each full page takes `p ≥ 1` of the rows beyond `pos` -/
theorem pagedGo_correct (t : Table V) (ht : Sorted t) (tag : Option Tag) (p : Nat) (hp : 1 ≤ p) :
    ∀ (fuel pos : Nat), ((t.filter (sel tag)).filter (fun r => decide (pos < r.id))).length < fuel →
      pagedGo t tag p 0 fuel pos = (t.filter (sel tag)).filter (fun r => decide (pos < r.id)) := by
  have hL : Sorted (t.filter (sel tag)) := sorted_filter ht _
  generalize hLe : t.filter (sel tag) = L at hL ⊢
  intro fuel
  induction fuel with
  | zero => intro pos h; omega
  | succ fuel ih =>
    intro pos hlen
    simp only [pagedGo, page_eq ht, hLe]
    generalize hR : L.filter (fun r => decide (pos < r.id)) = R at hlen
    have hRs : Sorted R := by rw [← hR]; exact sorted_filter hL _
    by_cases hshort : (R.take p).length < p
    · rw [if_pos hshort]
      rw [List.length_take] at hshort
      apply List.take_of_length_le
      omega
    · rw [if_neg hshort]
      have hplen : p ≤ R.length := by
        rw [List.length_take] at hshort; omega
      cases hlast : (R.take p).getLast? with
      | none =>
        exfalso
        have := List.getLast?_eq_none_iff.1 hlast
        have h0 : (R.take p).length = 0 := by rw [this]; rfl
        rw [List.length_take] at h0
        omega
      | some l =>
        simp only [Nat.add_zero]
        have hlmem : l ∈ R := List.mem_of_mem_take (List.mem_of_getLast? hlast)
        have hposl : pos < l.id := by
          rw [← hR] at hlmem
          have := (List.mem_filter.1 hlmem).2
          simpa using this
        have hnext : L.filter (fun r => decide (l.id < r.id)) = R.drop p := by
          rw [← filter_gt_last R hRs p l hlast, ← hR, List.filter_filter]
          apply List.filter_congr
          intro a _
          by_cases ha : l.id < a.id
          · have : pos < a.id := by omega
            simp [ha, this]
          · simp [ha]
        rw [ih (l.id) (by rw [hnext, List.length_drop]; omega), hnext, List.take_append_drop]

theorem filter_pos_zero (L : Table V) (h1 : ∀ r ∈ L, 1 ≤ r.id) :
    L.filter (fun r => decide (0 < r.id)) = L := by
  rw [List.filter_eq_self]
  intro a ha
  have := h1 a ha
  simp only [decide_eq_true_eq]; omega

theorem pagedRows_correct (t : Table V) (h : Inv2 t) (tag : Option Tag) (p : Nat) (hp : 1 ≤ p) :
    pagedRows t tag p 0 = t.filter (sel tag) := by
  unfold pagedRows
  have h1 : ∀ r ∈ t.filter (sel tag), 1 ≤ r.id := fun r hr => h.2 r (List.mem_filter.1 hr).1
  have hlen : ((t.filter (sel tag)).filter (fun r => decide (0 < r.id))).length < t.length + 1 := by
    rw [filter_pos_zero _ h1]
    exact Nat.lt_succ_of_le (List.length_filter_le _ _)
  rw [pagedGo_correct t h.1 tag p hp _ 0 hlen, filter_pos_zero _ h1]

end Sqlite
end CS.Storage
