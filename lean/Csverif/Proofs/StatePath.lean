import Csverif.Proofs.StateChanged
/-
C11: `ent[side].path = v` (`_change_path`, `_update_kids`; state.py:820-894).
-/
namespace CS.State

/-- the state after `self._paths[side][prior_path].pop(ent[side].oid)` (state.py:830-834) -/
def popPrior (st : St) (s : Sd) (e : Nat) : St :=
  if truthyS (st.side e s).path then st.popPathSlot s (st.side e s).path (st.side e s).oid else st

/-- the state after `self._paths[side][path][oid] = ent; ent[side]._path = path` (state.py:847-848) -/
def putPath (st : St) (s : Sd) (e : Nat) (pth : Path.Str) : St :=
  (st.setPathSlot s (some pth) (st.side e s).oid e).modSide e s (fun x => { x with path := some pth })

theorem side_popPrior (st : St) (s e i s') : (popPrior st s e).side i s' = st.side i s' := by
  unfold popPrior; split <;> simp
theorem oids_popPrior (st : St) (s e s') : (popPrior st s e).oids s' = st.oids s' := by
  unfold popPrior; split <;> simp
theorem len_popPrior (st : St) (s e) : (popPrior st s e).ents.length = st.ents.length := by
  unfold popPrior; split <;> simp
theorem cs_popPrior (st : St) (s e) : (popPrior st s e).cs = st.cs := by
  unfold popPrior; split <;> simp

theorem frame_popPrior (st : St) (s e) : Frame none st (popPrior st s e) :=
  Frame.of_sides (len_popPrior ..) (fun i s' => by rw [side_popPrior]; exact ⟨rfl, rfl⟩)

theorem idx_popPrior {st : St} (h : Idx noX st) (s : Sd) (e : Nat) :
    Idx (noX.add e s) (popPrior st s e) ∧ (∀ p k, (popPrior st s e).slot s p k ≠ some e) ∧
    (∀ p, (st.side e s).oid ≠ none → p ≠ (st.side e s).path → (popPrior st s e).slot s p (st.side e s).oid = none) := by
  have hown : ∀ j, st.slot s (st.side e s).path (st.side e s).oid = some j → j = e := by
    intro j hj
    obtain ⟨_, h2, h3⟩ := h.pathSlot s _ _ j hj
    by_cases ho : (st.side e s).oid = none
    · rw [ho, h.oidKey s] at h3; cases h3
    · have := h.byOid e s (fun hx => hx) ho
      rw [this] at h3; cases h3; rfl
  have hfree : ∀ p, (st.side e s).oid ≠ none → p ≠ (st.side e s).path → st.slot s p (st.side e s).oid = none := by
    intro p ho hp
    cases hs : st.slot s p (st.side e s).oid with
    | none => rfl
    | some j => exact absurd (h.slot_owner (h.byOid e s (fun hx => hx) ho) hs).2.symm hp
  unfold popPrior
  by_cases ht : truthyS (st.side e s).path = true
  · simp only [ht, if_true]
    refine ⟨h.popPath hown, ?_, ?_⟩
    · intro p k hk
      rw [slot_popPathSlot] at hk
      split at hk
      · cases hk
      · next hne =>
        obtain ⟨h1, h2, _⟩ := h.pathSlot s p k e hk
        exact hne ⟨rfl, h1.symm, h2.symm⟩
    · intro p ho hp
      rw [slot_popPathSlot]
      split
      · rfl
      · exact hfree p ho hp
  · simp only [ht, Bool.false_eq_true, if_false]
    exact ⟨h.mono (fun i s' hx => Or.inl hx), fun p k hk => ht ((h.pathSlot s p k e hk).1 ▸ h.slot_truthy hk), hfree⟩

/-- what `__setitem__`'s final side replacement needs to know about the receiving entry side -/
structure Ready (st : St) (e : Nat) (s : Sd) (oid : Oid) (path : Option Path.Str) : Prop where
  idx : Idx (noX.add e s) st
  lt : e < st.ents.length
  oidSlots : ∀ k, AL.get (st.oids s) k = some e → oid = k
  pathSlots : ∀ p k, st.slot s p k = some e → path = p ∧ oid = k
  byOid : oid ≠ none → AL.get (st.oids s) oid = some e
  byPath : oid ≠ none → truthyS path = true → st.slot s path oid = some e

theorem Ready.of_idx {st : St} (hi : Idx noX st) {e s} (hlt : e < st.ents.length) :
    Ready st e s (st.side e s).oid (st.side e s).path :=
  ⟨hi.mono (fun _ _ h => Or.inl h), hlt, fun k hk => (hi.oidSlot s k e hk),
   fun p k hk => ⟨(hi.pathSlot s p k e hk).1, (hi.pathSlot s p k e hk).2.1⟩,
   fun ho => hi.byOid e s (fun h => h) ho, fun ho ht => hi.byPath e s (fun h => h) ho ht⟩

theorem Ready.congr {st st' : St} {e s oid path} (h : Ready st e s oid path) (hl : st'.ents.length = st.ents.length)
    (ho : ∀ s, st'.oids s = st.oids s) (hp : ∀ s, st'.paths s = st.paths s)
    (hf : ∀ i s, (st'.side i s).oid = (st.side i s).oid ∧ (st'.side i s).path = (st.side i s).path) : Ready st' e s oid path :=
  ⟨h.idx.congr hl ho hp hf, hl ▸ h.lt, fun k hk => h.oidSlots k (ho s ▸ hk),
   fun p k hk => h.pathSlots p k (by rw [← slot_congr hp]; exact hk),
   fun hn => by rw [ho]; exact h.byOid hn, fun hn ht => by rw [slot_congr hp]; exact h.byPath hn ht⟩

/-- the side replacement `self.__states[side] = copy.copy(val)` (state.py:437) re-establishes the index clauses -/
theorem Ready.install {st : St} {e s} {v' : Side} (h : Ready st e s v'.oid v'.path) :
    Idx noX (st.modSide e s (fun _ => v')) := by
  refine IdxV.idx ?_ (h.idx.pathKey.congr (by simp) (by simp))
  rw [view_modSide st h.lt]
  exact (h.idx.view.setSide (Or.inr ⟨rfl, rfl⟩) (fun k hk => (h.oidSlots k hk).symm)
    (fun p k hk => ⟨(h.pathSlots p k hk).1.symm, (h.pathSlots p k hk).2.symm⟩)).unexempt
    (fun ho => by simpa using h.byOid (by simpa using ho)) (fun ho ht => by simpa using h.byPath (by simpa using ho) (by simpa using ht))

theorem ready_dirtyAdd {st : St} {e s oid path} (h : Ready st e s oid path) (j : Nat) : Ready (st.dirtyAdd j) e s oid path :=
  h.congr rfl (fun s => by simp) (fun s => by simp) (fun _ _ => ⟨rfl, rfl⟩)

theorem ready_popPrior {st : St} (hi : Inv st) {e s} (hlt : e < st.ents.length) {w : Option Path.Str} (hw : truthyS w = false) :
    Ready (popPrior st s e) e s (st.side e s).oid w ∧ Pend (popPrior st s e) := by
  obtain ⟨h1, h2, _⟩ := idx_popPrior hi.1 s e
  refine ⟨⟨h1, by rw [len_popPrior]; exact hlt, ?_, fun p k hk => absurd hk (h2 p k), ?_, fun _ ht => by rw [hw] at ht; cases ht⟩, ?_⟩
  · intro k hk; rw [oids_popPrior] at hk; exact hi.1.oidSlot s k e hk
  · intro ho; rw [oids_popPrior]; exact hi.1.byOid e s (fun h => h) ho
  · exact hi.2.congr (fun i hi' => by simpa [cs_popPrior] using hi') (fun i s' => by rw [side_popPrior]; exact ⟨rfl, rfl⟩)

theorem oustPathOwner_eq (s : Sd) (e : Nat) (pth : Path.Str) (st : St) (h : st.slot s (some pth) (st.side e s).oid = none) :
    oustPathOwner s e pth st = (.ok (), st) := by
  simp only [oustPathOwner, M.bind_apply, getSt_apply, h, M.pure_apply]

theorem Pend.path_irrelevant {st st' : St} (h : Pend st) (hc : st'.cs = st.cs)
    (hf : ∀ i s, (st'.side i s).oid = (st.side i s).oid ∧ (st'.side i s).changed = (st.side i s).changed) : Pend st' :=
  h.congr (fun _ hi => hc ▸ hi) hf

theorem inv_putPath {st : St} (hI : Idx noX st) (hP : Pend st) (s : Sd) (e : Nat) (pth : Path.Str)
    (ht : truthyS (some pth) = true) (ho : truthyS (st.side e s).oid = true) (hne : (st.side e s).path ≠ some pth)
    (hlt : e < st.ents.length) :
    Inv (putPath (popPrior st s e) s e pth) ∧ Frame (some (e, s)) st (putPath (popPrior st s e) s e pth) ∧
    ((putPath (popPrior st s e) s e pth).side e s).path = some pth := by
  obtain ⟨h1, h2, h3⟩ := idx_popPrior hI s e
  have hon : (st.side e s).oid ≠ none := by intro hh; rw [hh] at ho; cases ho
  have hside := side_popPrior st s e
  unfold putPath
  refine ⟨⟨?_, ?_⟩, ?_, ?_⟩
  · apply Idx.indexPath h1 h2
    · rw [hside, oids_popPrior]; exact hI.byOid e s (fun hx => hx) hon
    · exact ht
    · rw [len_popPrior]; exact hlt
  · apply hP.congr
    · intro i hi; simpa [cs_popPrior] using hi
    · intro i s'
      rw [side_modSide]; simp only [side_setPathSlot, hside]
      split
      · next hh => obtain ⟨a, b, _⟩ := hh; subst a; subst b; exact ⟨rfl, rfl⟩
      · exact ⟨rfl, rfl⟩
  · refine ⟨by simp [len_popPrior], fun i s' => ?_⟩
    rw [side_modSide]; simp only [side_setPathSlot, hside]
    split
    · next hh =>
      obtain ⟨a, b, _⟩ := hh; subst a; subst b
      exact ⟨rfl, fun hn => absurd rfl hn⟩
    · exact ⟨rfl, fun _ => rfl⟩
  · rw [side_modSide]; simp [len_popPrior, hlt]

/-- the final, redundant `object.__setattr__(self, "_path", v)` and the dirty mark -/
def pathFin (st : St) (e : Nat) (s : Sd) (v : Option Path.Str) : St :=
  (st.dirtyAdd e).modSide e s (fun x => { x with path := v })

theorem side_pathFin (st : St) (e : Nat) (s : Sd) (v : Option Path.Str) (i : Nat) (s' : Sd) :
    (pathFin st e s v).side i s' = if i = e ∧ s' = s ∧ e < st.ents.length then { st.side e s with path := v } else st.side i s' := by
  unfold pathFin; rw [side_modSide]; rfl

theorem frame_pathFin (st : St) (e s v) : Frame (some (e, s)) st (pathFin st e s v) := by
  refine ⟨by simp [pathFin], fun i s' => ?_⟩
  rw [side_pathFin]
  by_cases hh : i = e ∧ s' = s ∧ e < st.ents.length
  · rw [if_pos hh]; obtain ⟨a, b, _⟩ := hh; subst a; subst b; exact ⟨rfl, fun hn => absurd rfl hn⟩
  · rw [if_neg hh]; exact ⟨rfl, fun _ => rfl⟩

theorem pushpop (st : St) (e : Nat) : ({ ({ st with moving := e :: st.moving } : St) with moving := (e :: st.moving).tail } : St) = st := rfl

theorem updateKidsOf_skip_eq (setF : SetF) (cfg : Cfg) (s : Sd) (e : Nat) (prior : Option Path.Str) (pth : Path.Str) (st : St)
    (h : (st.side e s).otype ≠ .dir ∨ prior = none) : updateKidsOf setF cfg s e prior pth st = (.ok (), st) := by
  simp only [updateKidsOf, M.bind_apply, getSt_apply]
  cases prior with
  | none => rfl
  | some pr =>
    rcases h with h | h
    · have : ((st.side e s).otype == OType.dir) = false := by simpa using h
      simp [whenM, this]
    · cases h

theorem updateKids_skip_eq (setF : SetF) (cfg : Cfg) (s : Sd) (e : Nat) (prior : Option Path.Str) (pth : Path.Str) (st : St)
    (h : (st.side e s).otype ≠ .dir ∨ prior = none) : updateKids setF cfg s e prior pth st = (.ok (), st) := by
  unfold updateKids
  rw [finallyM_apply]
  simp only [M.bind_apply, modifySt_apply]
  have h' : (({ st with moving := e :: st.moving } : St).side e s).otype ≠ .dir ∨ prior = none := h
  rw [updateKidsOf_skip_eq setF cfg s e prior pth { st with moving := e :: st.moving } h']
  rfl

theorem changePath_eq (setF : SetF) (cfg : Cfg) (s : Sd) (e : Nat) (path : Option Path.Str) (st : St) :
    changePath setF cfg s e path st =
      if (!truthyS path || truthyS (st.side e s).oid) = false then (.error .assert, st)
      else if (st.side e s).path = path then (.ok (), st)
      else match path with
        | some (c :: p) =>
          (oustPathOwner s e (c :: p) >>= fun _ => modifySt (fun st => putPath st s e (c :: p)) >>= fun _ =>
            updateKids setF cfg s e (st.side e s).path (c :: p) >>= fun _ => setPriority setF cfg e (cfg.prio s (c :: p))) (popPrior st s e)
        | _ => (.ok (), popPrior st s e) := by
  simp only [changePath, M.bind_apply, getSt_apply, assertM_apply]
  cases (!truthyS path || truthyS (st.side e s).oid)
  · rfl
  · by_cases hp : (st.side e s).path = path
    · simp [hp]
    · simp only [hp, if_false, M.ite_apply, modifySt_apply, popPrior]
      match path with
      | none | some [] | some (_ :: _) => rfl

/-- what a caller of the path hook brings: a property `Q` that it tracks from `st` on, a claim `E` about each exception, and why
    they stand at each way through `_change_path` -/
structure PathCaller (cfg : Cfg) (n : Nat) (e : Nat) (s : Sd) (v : Option Path.Str) (st : St) (Q : St → Prop) (E : Exc → St → Prop) :
    Prop where
  start : Q st
  /-- `if path: assert ent[side].oid` fails: nothing has been written -/
  assertFails : truthyS v = true → E .assert st
  popped : truthyS v = false → Q (popPrior st s e)
  /-- the priority (which only touches `changed` fields) after the kids -/
  chg : ∀ st5 st6, Q st5 → ChgRel e st5 st6 → Q st6
  /-- the priority's `changed` bump runs out of fuel only when there is none -/
  noFuel : n = 0 → ∀ st', E .recursion st'
  kids : ∀ c p, v = some (c :: p) → truthyS (st.side e s).oid = true → (st.side e s).path ≠ some (c :: p) →
    Ho (putPath (popPrior st s e) s e (c :: p)) (updateKids (sideSet cfg n) cfg s e (st.side e s).path (c :: p))
      (fun _ st5 => Inv st5 ∧ e < st5.ents.length ∧ (st5.side e s).path = some (c :: p) ∧ Q st5) E

/-- in every branch the entry side is `Ready` for the field write of `v` under the id it carries then (on a path-id side a kid may
    have taken its old id) -/
theorem changePath_ho (cfg : Cfg) (n : Nat) (e : Nat) (s : Sd) (v : Option Path.Str) (st : St)
    {Q : St → Prop} {E : Exc → St → Prop} (hi : Inv st) (hlt : e < st.ents.length) (H : PathCaller cfg n e s v st Q E) :
    Ho st (changePath (sideSet cfg n) cfg s e v) (fun _ st' => Ready st' e s (st'.side e s).oid v ∧ Pend st' ∧ Q st') E := by
  have hpop : truthyS v = false → Ho (popPrior st s e) (pure () : M Unit)
      (fun _ st' => Ready st' e s (st'.side e s).oid v ∧ Pend st' ∧ Q st') E := fun hf => Ho.pure
    ⟨by rw [side_popPrior]; exact (ready_popPrior hi hlt hf).1, (ready_popPrior hi hlt hf).2, H.popped hf⟩
  unfold changePath
  refine Ho.getSt (Ho.bind (R := fun _ st' => st = st' ∧ (truthyS v = true → truthyS (st.side e s).oid = true)) (Ho.assert ?_ ?_) ?_)
  · intro hb; exact H.assertFails (by cases hv : truthyS v <;> simp [hv] at hb ⊢)
  · intro hb; exact ⟨rfl, fun hv => by simpa [hv] using hb⟩
  rintro _ _ ⟨rfl, ho⟩
  dsimp only
  refine Ho.ite (fun hp => Ho.pure ⟨hp ▸ Ready.of_idx hi.1 hlt, hi.2, H.start⟩) fun hp => Ho.modify_bind ?_
  show Ho (popPrior st s e) _ _ _
  match v, H, ho, hp, hpop with
  | none, _, _, _, hpop => exact hpop rfl
  | some [], _, _, _, hpop => exact hpop rfl
  | some (c :: p), H, ho, hp, _ =>
    -- the target slot is free after the pop, so nobody is ousted
    have hfree : (popPrior st s e).slot s (some (c :: p)) ((popPrior st s e).side e s).oid = none := by
      rw [side_popPrior]
      exact (idx_popPrior hi.1 s e).2.2 _ (by intro hh; rw [hh] at ho; cases ho rfl) (fun hh => hp hh.symm)
    refine Ho.bind (R := fun _ st' => st' = popPrior st s e) (Ho.of_eq (oustPathOwner_eq s e _ _ hfree) (fun _ _ => rfl) nofun) ?_
    rintro _ _ rfl
    refine Ho.modify_bind (Ho.bind (H.kids c p rfl (ho rfl) hp) fun _ st5 ⟨h5, hl5, hp5, hq5⟩ => ?_)
    refine (setPriority_ho cfg n noX e (cfg.prio s (c :: p)) h5.1 h5.2 hl5).conseq ?_ (fun x st6 ⟨hx, hn⟩ => hx ▸ H.noFuel hn st6)
    rintro _ st6 ⟨hrel, hI6, hP6⟩
    have hr6 := Ready.of_idx hI6 (e := e) (s := s) (hrel.len ▸ hl5)
    rw [(hrel.field e s).2.1, hp5] at hr6
    exact ⟨hr6, hP6, H.chg st5 st6 hq5 hrel⟩

theorem ready_pathFin {st : St} {e s} {v : Option Path.Str} (h : Ready st e s (st.side e s).oid v) (hP : Pend st) :
    Inv (pathFin st e s v) :=
  ⟨(ready_dirtyAdd h e).install (v' := { st.side e s with path := v }), hP.congr (fun _ hi => hi) fun i s' =>
    ⟨proj_modSide (st.dirtyAdd e) e i s s' _ Side.oid fun _ => rfl, proj_modSide (st.dirtyAdd e) e i s s' _ Side.changed fun _ => rfl⟩⟩

theorem sideSet_path_ho (cfg : Cfg) (n : Nat) (e : Nat) (s : Sd) (v : Option Path.Str) (st : St)
    {Q : St → Prop} {E : Exc → St → Prop} (hi : Inv st) (hlt : e < st.ents.length) (H : PathCaller cfg n e s v st Q E)
    (hQfin : ∀ st6, Q st6 → Q (pathFin st6 e s v)) :
    Ho st (sideSet cfg (n + 1) e s (.path v)) (fun _ st' => Inv st' ∧ Q st') E := by
  show Ho _ (sideSetBody (sideSet cfg n) cfg e s (.path v)) _ _
  unfold sideSetBody updatedSide
  refine Ho.bind (Ho.bind (changePath_ho cfg n e s v st hi hlt H) fun _ st6 h => Ho.modify (Q := fun _ st1 =>
    ∃ st6, st1 = st6.dirtyAdd e ∧ Ready st6 e s (st6.side e s).oid v ∧ Pend st6 ∧ Q st6) ⟨st6, rfl, h⟩) ?_
  rintro _ _ ⟨st6, rfl, hr, hp, hq⟩
  exact Ho.modify ⟨ready_pathFin hr hp, hQfin st6 hq⟩

end CS.State
