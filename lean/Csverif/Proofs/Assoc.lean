/- Rows found by a key with `find?`, and finite maps as association lists `List (α × β)` read by first match, with the two
   ways the models write: `set` (a Python dict: the entry is overwritten where it stands, a new key goes last) and
   `del l k ++ [(k, v)]` (the specifications: the entry moves to the end).  Every model has lookup and update of its own
   under its own names; they unfold to the ones here or are shown equal to them (`…_eq`), and the laws are taken from here. -/
namespace CS

section Key
variable {α κ : Type} [BEq κ] (key : α → κ)

theorem find?_key_of_mem [LawfulBEq κ] {l : List α} (hn : (l.map key).Nodup) {x : α} (hx : x ∈ l) :
    l.find? (key · == key x) = some x := by
  induction l with
  | nil => cases hx
  | cons y ys ih =>
    rw [List.map_cons, List.nodup_cons] at hn
    rcases List.mem_cons.mp hx with rfl | hx
    · simp
    · have : key y ≠ key x := fun e => hn.1 (e ▸ List.mem_map_of_mem hx)
      rw [List.find?_cons_of_neg (by simpa using this)]
      exact ih hn.2 hx

theorem find?_key_filter [LawfulBEq κ] (f : κ → Bool) (l : List α) (k : κ) :
    (l.filter (fun x => f (key x))).find? (key · == k) = if f k then l.find? (key · == k) else none := by
  rw [List.find?_filter]
  split
  · next h =>
    congr 1; funext x
    by_cases hx : key x = k <;> simp [hx, h]
  · next h =>
    rw [List.find?_eq_none]
    intro x _
    by_cases hx : key x = k <;> simp [hx, h]

theorem find?_key_map (g : α → α) (hg : ∀ x, key (g x) = key x) (l : List α) (k : κ) :
    (l.map g).find? (key · == k) = (l.find? (key · == k)).map g := by
  rw [List.find?_map]
  congr 2; funext x; simp [hg]

omit [BEq κ] in
theorem nodup_key_snoc {l : List α} (hn : (l.map key).Nodup) {x : α} (hx : ∀ y ∈ l, key y ≠ key x) :
    ((l ++ [x]).map key).Nodup := by
  rw [List.map_append, List.nodup_append]
  refine ⟨hn, List.pairwise_singleton _ _, fun a ha b hb => ?_⟩
  obtain ⟨y, hy, rfl⟩ := List.mem_map.mp ha
  rw [List.mem_singleton.mp hb]
  exact hx y hy

omit [BEq κ] in
theorem nodup_key_filter {l : List α} (hn : (l.map key).Nodup) (p : α → Bool) : ((l.filter p).map key).Nodup :=
  hn.sublist (List.filter_sublist.map _)

end Key

theorem mem_ite_snoc {α : Type} {l : List α} {x y : α} {c : Prop} [Decidable c] (hc : c → x ∈ l) :
    y ∈ (if c then l else l ++ [x]) ↔ y ∈ l ∨ y = x := by
  split
  · next h => exact ⟨Or.inl, fun g => g.elim id (· ▸ hc h)⟩
  · exact List.mem_append.trans (or_congr_right List.mem_singleton)

namespace Assoc
variable {α β : Type}

variable [BEq α]

abbrev get (l : List (α × β)) (k : α) : Option β := (l.find? (fun e => e.1 == k)).map (·.2)

abbrev del (l : List (α × β)) (k : α) : List (α × β) := l.filter (fun e => !(e.1 == k))

theorem nodup_del {l : List (α × β)} (hn : (l.map (·.1)).Nodup) (k : α) : ((del l k).map (·.1)).Nodup :=
  nodup_key_filter _ hn _

variable [LawfulBEq α]

theorem mem_del {l : List (α × β)} {k : α} {e : α × β} : e ∈ del l k ↔ e ∈ l ∧ e.1 ≠ k := by
  simp [del]

theorem mem_of_get {l : List (α × β)} {k : α} {v : β} (h : get l k = some v) : (k, v) ∈ l := by
  obtain ⟨e, he, rfl⟩ := Option.map_eq_some_iff.1 h
  have hk : e.1 = k := eq_of_beq (List.find?_some (p := fun (e : α × β) => e.1 == k) he)
  subst hk
  exact List.mem_of_find?_eq_some he

theorem get_eq_none_iff {l : List (α × β)} {k : α} : get l k = none ↔ k ∉ l.map (·.1) := by
  simp only [get, Option.map_eq_none_iff, List.find?_eq_none, beq_iff_eq, Prod.forall, List.mem_map,
    Prod.exists, exists_and_right, exists_eq_right, not_exists]
  exact ⟨fun h x hx => h k x hx rfl, fun h a b hab hak => h b (hak ▸ hab)⟩

variable [DecidableEq α]

theorem get_cons (e : α × β) (l : List (α × β)) (k : α) :
    get (e :: l) k = if e.1 = k then some e.2 else get l k := by
  by_cases h : e.1 = k <;> simp [get, h]

omit [LawfulBEq α] [DecidableEq α] in
theorem get_append (l1 l2 : List (α × β)) (k : α) : get (l1 ++ l2) k = (get l1 k).or (get l2 k) := by
  simp only [get, List.find?_append, Option.map_or]

omit [DecidableEq α] in
theorem get_filter_key (p : α → Bool) (l : List (α × β)) (k : α) :
    get (l.filter (fun e => p e.1)) k = if p k then get l k else none := by
  rw [get, find?_key_filter Prod.fst]
  split <;> rfl

theorem get_del (l : List (α × β)) (k k' : α) : get (del l k) k' = if k' = k then none else get l k' := by
  rw [del, get_filter_key (fun x => !(x == k))]
  by_cases h : k' = k <;> simp [h]

omit [DecidableEq α] in
theorem get_of_mem {l : List (α × β)} (hn : (l.map (·.1)).Nodup) {k : α} {v : β} (hm : (k, v) ∈ l) :
    get l k = some v := by
  rw [get, find?_key_of_mem Prod.fst hn hm]; rfl

omit [DecidableEq α] in
theorem get_iff_mem {l : List (α × β)} (hn : (l.map (·.1)).Nodup) {k : α} {v : β} : get l k = some v ↔ (k, v) ∈ l :=
  ⟨mem_of_get, get_of_mem hn⟩

theorem get_del_snoc (l : List (α × β)) (k : α) (v : β) (k' : α) :
    get (del l k ++ [(k, v)]) k' = if k' = k then some v else get l k' := by
  rw [get_append, get_del, get_cons]
  by_cases hk : k' = k
  · simp [hk]
  · rw [if_neg hk, if_neg hk, if_neg (fun h => hk h.symm)]; cases get l k' <;> rfl

omit [DecidableEq α] in
theorem nodup_del_snoc {l : List (α × β)} (hn : (l.map (·.1)).Nodup) (k : α) (v : β) :
    ((del l k ++ [(k, v)]).map (·.1)).Nodup :=
  nodup_key_snoc _ (nodup_del hn k) fun _ hy => (mem_del.1 hy).2

/-- `d[k] = v`; written with `=` like the models' recursive writes it stands for, so that they agree with it step by step -/
def set : List (α × β) → α → β → List (α × β)
  | [], k, v => [(k, v)]
  | e :: t, k, v => if e.1 = k then (k, v) :: t else e :: set t k v

theorem get_set (l : List (α × β)) (k k' : α) (v : β) : get (set l k v) k' = if k' = k then some v else get l k' := by
  induction l with
  | nil => rw [set, get_cons]; simp only [eq_comm]
  | cons e t ih =>
    rw [set]
    split
    · next he => rw [get_cons, get_cons, he]; simp only [eq_comm]; split <;> rfl
    · next he =>
      rw [get_cons, get_cons, ih]
      split
      · next h1 => rw [if_neg (fun h => he (h1.trans h))]
      · rfl

theorem keys_set (l : List (α × β)) (k : α) (v : β) :
    (set l k v).map (·.1) = if k ∈ l.map (·.1) then l.map (·.1) else l.map (·.1) ++ [k] := by
  induction l with
  | nil => rfl
  | cons e t ih =>
    rw [set]
    split
    · next he => simp [he]
    · next he =>
      have : ¬ k = e.1 := fun h => he h.symm
      simp only [List.map_cons, ih, List.mem_cons, this, false_or]
      split <;> rfl

omit [BEq α] [LawfulBEq α] in
theorem set_of_not_mem {l : List (α × β)} {k : α} (v : β) (h : k ∉ l.map (·.1)) : set l k v = l ++ [(k, v)] := by
  induction l with
  | nil => rfl
  | cons e t ih =>
    rw [List.map_cons, List.mem_cons, not_or] at h
    rw [set, if_neg (fun e => h.1 e.symm), ih h.2]; rfl

theorem nodup_set {l : List (α × β)} (hn : (l.map (·.1)).Nodup) (k : α) (v : β) : ((set l k v).map (·.1)).Nodup := by
  by_cases h : k ∈ l.map (·.1)
  · rw [keys_set, if_pos h]; exact hn
  · rw [set_of_not_mem v h]
    exact nodup_key_snoc _ hn fun y hy (e : y.1 = k) => h (e ▸ List.mem_map_of_mem hy)

omit [BEq α] [LawfulBEq α] in
theorem mem_of_mem_set {l : List (α × β)} {k : α} {v : β} {x : α × β} (h : x ∈ set l k v) : x = (k, v) ∨ x ∈ l := by
  induction l with
  | nil => exact Or.inl (List.mem_singleton.1 h)
  | cons e t ih =>
    rw [set] at h
    split at h
    · exact (List.mem_cons.1 h).imp_right (List.mem_cons_of_mem _)
    · rcases List.mem_cons.1 h with h | h
      · exact Or.inr (h ▸ List.mem_cons_self ..)
      · exact (ih h).imp_right (List.mem_cons_of_mem _)

end Assoc

end CS
