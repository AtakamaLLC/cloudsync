import Csverif.Model.Sched
import Csverif.Proofs.Assoc
import Mathlib.Tactic.Linarith
import Mathlib.Tactic.Ring
/-
Helper lemmas for C17 (Model/Sched.lean): the sort key is a total preorder, the stable insertion
sort is a sorted permutation that commutes with filtering, so "first eligible element of the sorted
list" equals "first key-minimal element of the eligible sublist" (`find_sortKey`).  Then, one entry: eligibility, the
`changed` hook (`setChangedA_*`), the priority write as one equation (`setPriorityA_eq`) and the algebra of punting; and the
table: lookups and changeset membership after a hooked write (`withE_get?`, `mem_act`).
-/
namespace CS.Sched

theorem keyLt_iff (a b : Entry) :
    keyLt a b = true ↔ a.priority < b.priority ∨ (a.priority = b.priority ∧ keyTime a < keyTime b) := by
  simp [keyLt]

theorem keyLe_iff (a b : Entry) :
    keyLe a b = true ↔ a.priority < b.priority ∨ (a.priority = b.priority ∧ keyTime a ≤ keyTime b) := by
  simp only [keyLe, Bool.not_eq_true', ← Bool.not_eq_true, keyLt_iff, not_or, not_and, not_lt]
  rcases lt_trichotomy a.priority b.priority with h | h | h
  · simp [h, h.le, h.ne']
  · simp [h]
  · simp [h.not_gt, h.not_ge, h.ne']

theorem keyLe_refl (a : Entry) : keyLe a a = true := (keyLe_iff a a).2 (Or.inr ⟨rfl, le_refl _⟩)

theorem keyLe_total (a b : Entry) : keyLe a b = true ∨ keyLe b a = true := by
  simp only [keyLe_iff]
  rcases lt_trichotomy a.priority b.priority with h | h | h
  · exact Or.inl (Or.inl h)
  · exact (le_total (keyTime a) (keyTime b)).imp (fun h2 => Or.inr ⟨h, h2⟩) (fun h2 => Or.inr ⟨h.symm, h2⟩)
  · exact Or.inr (Or.inl h)

theorem keyLe_trans {a b c : Entry} (h1 : keyLe a b = true) (h2 : keyLe b c = true) : keyLe a c = true := by
  simp only [keyLe_iff] at *
  rcases h1 with h1 | ⟨h1, h1'⟩ <;> rcases h2 with h2 | ⟨h2, h2'⟩
  · exact Or.inl (lt_trans h1 h2)
  · exact Or.inl (h2 ▸ h1)
  · exact Or.inl (h1 ▸ h2)
  · exact Or.inr ⟨h1.trans h2, le_trans h1' h2'⟩

theorem keyLt_of_not_keyLe {a b : Entry} (h : keyLe a b = false) : keyLt b a = true := by
  simpa [keyLe] using h

theorem not_keyLt_of_keyLe {a b : Entry} (h : keyLe a b = true) : keyLt b a = false := by
  simpa [keyLe] using h

theorem keyLe_of_keyLt {a b : Entry} (h : keyLt a b = true) : keyLe a b = true :=
  (keyLe_total a b).resolve_right (by simp [keyLe, h])

abbrev Sorted (l : List Entry) : Prop := l.Pairwise (fun a b => keyLe a b = true)

theorem insertKey_perm (a : Entry) (l : List Entry) : (insertKey a l).Perm (a :: l) := by
  induction l with
  | nil => exact List.Perm.refl _
  | cons b l ih =>
    simp only [insertKey]
    split
    · exact List.Perm.refl _
    · exact (ih.cons b).trans (List.Perm.swap a b l)

theorem sortKey_perm (l : List Entry) : (sortKey l).Perm l := by
  induction l with
  | nil => exact List.Perm.refl _
  | cons a l ih => exact (insertKey_perm a _).trans (List.Perm.cons a ih)

theorem mem_sortKey {l : List Entry} {e : Entry} : e ∈ sortKey l ↔ e ∈ l := (sortKey_perm l).mem_iff

theorem insertKey_sorted (a : Entry) (l : List Entry) (h : Sorted l) : Sorted (insertKey a l) := by
  induction l with
  | nil => exact List.pairwise_singleton _ _
  | cons b l ih =>
    obtain ⟨hb, hl⟩ := List.pairwise_cons.1 h
    simp only [insertKey]
    split
    · rename_i hab
      exact List.Pairwise.cons (List.forall_mem_cons.2 ⟨hab, fun x hx => keyLe_trans hab (hb x hx)⟩) h
    · rename_i hab
      refine List.Pairwise.cons (fun x hx => ?_) (ih hl)
      rcases List.mem_cons.1 ((insertKey_perm a l).mem_iff.1 hx) with rfl | hx
      · exact (keyLe_total _ _).resolve_left hab
      · exact hb x hx

theorem sortKey_sorted (l : List Entry) : Sorted (sortKey l) := by
  induction l with
  | nil => exact List.Pairwise.nil
  | cons a l ih => exact insertKey_sorted a _ ih

theorem insertKey_of_le {a : Entry} {s : List Entry} (h : ∀ x ∈ s, keyLe a x = true) : insertKey a s = a :: s := by
  cases s with
  | nil => rfl
  | cons b l => simp only [insertKey, h b List.mem_cons_self, if_true]

theorem filter_insertKey (p : Entry → Bool) (a : Entry) (s : List Entry) (hs : Sorted s) :
    (insertKey a s).filter p = if p a then insertKey a (s.filter p) else s.filter p := by
  induction s with
  | nil => cases h : p a <;> simp [insertKey, h]
  | cons b l ih =>
    obtain ⟨hb, hl⟩ := List.pairwise_cons.1 hs
    simp only [insertKey]
    split
    · rename_i hab
      have hall : ∀ x ∈ (b :: l).filter p, keyLe a x = true := by
        intro x hx
        rcases List.mem_cons.1 (List.mem_filter.1 hx).1 with rfl | hx
        · exact hab
        · exact keyLe_trans hab (hb x hx)
      rw [insertKey_of_le hall, List.filter_cons]
    · rename_i hab
      rw [List.filter_cons, ih hl, List.filter_cons]
      cases p a <;> cases p b <;> simp only [↓reduceIte, Bool.false_eq_true]
      exact (if_neg hab).symm

theorem filter_sortKey (p : Entry → Bool) (l : List Entry) : (sortKey l).filter p = sortKey (l.filter p) := by
  induction l with
  | nil => rfl
  | cons a l ih =>
    rw [sortKey, filter_insertKey p a _ (sortKey_sorted l), ih, List.filter_cons]
    split <;> rfl

def pickFirstMin : List Entry → Option Entry
  | [] => none
  | a :: l =>
    match pickFirstMin l with
    | none => some a
    | some b => if keyLe a b then some a else some b

theorem pickFirstMin_eq_none {l : List Entry} : pickFirstMin l = none ↔ l = [] := by
  cases l with
  | nil => simp [pickFirstMin]
  | cons a l =>
    simp only [pickFirstMin, reduceCtorEq, iff_false]
    cases pickFirstMin l with
    | none => simp
    | some b => simp only; split <;> simp

theorem keyLe_of_mem_split {e : Entry} {pre post : List Entry} (hpre : ∀ x ∈ pre, keyLt e x = true)
    (hpost : ∀ x ∈ post, keyLe e x = true) : ∀ x ∈ pre ++ e :: post, keyLe e x = true := by
  intro x hx
  rcases List.mem_append.1 hx with hx | hx
  · exact keyLe_of_keyLt (hpre x hx)
  · rcases List.mem_cons.1 hx with rfl | hx
    · exact keyLe_refl _
    · exact hpost x hx

theorem pickFirstMin_split {l : List Entry} {e : Entry} (h : pickFirstMin l = some e) :
    ∃ pre post, l = pre ++ e :: post ∧ (∀ x ∈ pre, keyLt e x = true) ∧ ∀ x ∈ post, keyLe e x = true := by
  induction l generalizing e with
  | nil => cases h
  | cons a l ih =>
    simp only [pickFirstMin] at h
    cases hp : pickFirstMin l with
    | none =>
      rw [hp] at h
      cases h
      exact ⟨[], l, rfl, by simp, by simp [pickFirstMin_eq_none.1 hp]⟩
    | some b =>
      obtain ⟨pre, post, hl, hpre, hpost⟩ := ih hp
      rw [hp] at h
      simp only at h
      split at h <;> cases h
      · rename_i hab
        exact ⟨[], l, rfl, by simp, fun x hx => keyLe_trans hab (keyLe_of_mem_split hpre hpost x (hl ▸ hx))⟩
      · rename_i hab
        exact ⟨a :: pre, post, by rw [hl]; rfl,
          List.forall_mem_cons.2 ⟨keyLt_of_not_keyLe (by simpa using hab), hpre⟩, hpost⟩

theorem pickFirstMin_mem {l : List Entry} {e : Entry} (h : pickFirstMin l = some e) : e ∈ l := by
  obtain ⟨pre, post, rfl, _⟩ := pickFirstMin_split h
  simp

theorem pickFirstMin_le {l : List Entry} {e : Entry} (h : pickFirstMin l = some e) :
    ∀ x ∈ l, keyLe e x = true := by
  obtain ⟨pre, post, rfl, hpre, hpost⟩ := pickFirstMin_split h
  exact keyLe_of_mem_split hpre hpost

theorem head?_sortKey (l : List Entry) : (sortKey l).head? = pickFirstMin l := by
  induction l with
  | nil => rfl
  | cons a l ih =>
    rw [sortKey, pickFirstMin, ← ih]
    cases sortKey l with
    | nil => rfl
    | cons b s => simp only [insertKey, List.head?_cons]; split <;> rfl

theorem find_sortKey (p : Entry → Bool) (l : List Entry) :
    (sortKey l).find? p = pickFirstMin (l.filter p) := by
  rw [← List.head?_filter, filter_sortKey, head?_sortKey]

theorem change_eq (P : List Entry) (now age : Rat) :
    change P now age = (sortKey P).find? (fun e => eligible e now age) := by
  unfold change
  cases P with
  | nil => simp [sortKey]
  | cons a l => simp

theorem truthy_some {x : Rat} : truthy (some x) = true ↔ x ≠ 0 := by simp [truthy]

theorem sideAged_eq (c : Option Rat) (t : Rat) : sideAged c t = true ↔ truthy c = true ∧ orZero c ≤ t := by
  rw [sideAged, Bool.and_eq_true, decide_eq_true_eq]

theorem sideAged_iff (c : Option Rat) (t : Rat) :
    sideAged c t = true ↔ ∃ x, c = some x ∧ x ≠ 0 ∧ x ≤ t := by
  rw [sideAged_eq]
  cases c with
  | none => simp [truthy]
  | some x => simp [truthy, orZero]

theorem eligible_iff (e : Entry) (now age : Rat) :
    eligible e now age = true ↔
      sideAged e.l.changed (now - age) = true ∨ sideAged e.r.changed (now - age) = true ∨ e.priority < 0 := by
  simp [eligible, or_assoc]

theorem eligible_iff_side (e : Entry) (now age : Rat) :
    eligible e now age = true ↔ (∃ s, sideAged (e.side s).changed (now - age) = true) ∨ e.priority < 0 := by
  rw [eligible_iff, ← or_assoc]
  refine or_congr_left ⟨fun h => h.elim (fun h => ⟨false, h⟩) (fun h => ⟨true, h⟩), fun ⟨s, h⟩ => ?_⟩
  cases s
  · exact .inl h
  · exact .inr h

theorem stamp_gt (last now : Rat) : last < stamp last now ∧ now ≤ stamp last now := by
  have h : last < last + 1/1000 := lt_add_of_pos_right _ (by norm_num)
  unfold stamp
  split
  · rename_i hle; exact ⟨h, hle.trans h.le⟩
  · rename_i hlt; exact ⟨not_le.1 hlt, le_refl _⟩

theorem shifted_aged {c q now age : Rat} {j k : Nat} (hj : j ≤ k) (hq : 0 ≤ q) (hpos : 0 < c)
    (hnow : c + k * q + age ≤ now) : c + j * q ≠ 0 ∧ c + j * q ≤ now - age := by
  have hjk : (j : Rat) * q ≤ k * q := mul_le_mul_of_nonneg_right (Nat.cast_le.2 hj) hq
  have hj0 : 0 ≤ (j : Rat) * q := mul_nonneg (Nat.cast_nonneg j) hq
  exact ⟨(add_pos_of_pos_of_nonneg hpos hj0).ne',
    le_sub_iff_add_le.2 ((add_le_add (add_le_add (le_refl c) hjk) (le_refl age)).trans hnow)⟩

theorem sideAged_mono {c : Option Rat} {t t' : Rat} (h : sideAged c t = true) (ht : t ≤ t') :
    sideAged c t' = true := by
  rw [sideAged_iff] at *
  obtain ⟨x, h1, h2, h3⟩ := h
  exact ⟨x, h1, h2, le_trans h3 ht⟩

@[simp] theorem side_setSide_same (e : Entry) (s : Bool) (x : Side) : (e.setSide s x).side s = x := by
  cases s <;> rfl

@[simp] theorem side_setSide_not (e : Entry) (s : Bool) (x : Side) : (e.setSide s x).side (!s) = e.side (!s) := by
  cases s <;> rfl

@[simp] theorem side_setSide_not' (e : Entry) (s : Bool) (x : Side) : (e.setSide (!s) x).side s = e.side s := by
  cases s <;> rfl

/-- a write to side `s` that keeps a field of it keeps that field on both sides -/
theorem side_setSide_congr {α : Type} (f : Side → α) (e : Entry) (s : Bool) (x : Side) (hx : f x = f (e.side s)) (t : Bool) :
    f ((e.setSide s x).side t) = f (e.side t) := by
  rcases Bool.eq_or_eq_not t s with rfl | rfl
  · rw [side_setSide_same, hx]
  · rw [side_setSide_not]

@[simp] theorem setSide_id (e : Entry) (s : Bool) (x : Side) : (e.setSide s x).id = e.id := by
  cases s <;> rfl

@[simp] theorem setSide_priority (e : Entry) (s : Bool) (x : Side) : (e.setSide s x).priority = e.priority := by
  cases s <;> rfl

theorem setSide_side (e : Entry) (s : Bool) : e.setSide s (e.side s) = e := by
  cases s <;> rfl

@[simp] theorem setChangedA_id (e : Entry) (s : Bool) (v : Option Rat) : (setChangedA e s v).1.id = e.id := by
  simp only [setChangedA]; split <;> simp

@[simp] theorem setChangedA_priority (e : Entry) (s : Bool) (v : Option Rat) :
    (setChangedA e s v).1.priority = e.priority := by
  simp only [setChangedA]; split <;> simp

@[simp] theorem setChangedA_acts (e : Entry) (s : Bool) (v : Option Rat) : (setChangedA e s v).2 = [hookKeep e s v] := rfl

theorem setChangedA_self (e : Entry) (s : Bool) (v : Option Rat) :
    (setChangedA e s v).1.side s = { e.side s with changed := v } := by
  simp only [setChangedA]; split <;> simp

/-- the other side: untouched, or (id-less, stale flag, entry leaves the changeset) its flag is zeroed: the direct
    `_changed = 0` write of state.py:798-801 -/
theorem setChangedA_other (e : Entry) (s : Bool) (v : Option Rat) :
    (setChangedA e s v).1.side (!s) = e.side (!s) ∨
    (hookKeep e s v = false ∧ truthy (e.side (!s)).changed = true ∧ truthyS (e.side (!s)).oid = false ∧
      (setChangedA e s v).1.side (!s) = { e.side (!s) with changed := some 0 }) := by
  simp only [setChangedA]
  split
  · rename_i h
    simp only [Bool.and_eq_true, Bool.not_eq_eq_eq_not, Bool.not_true] at h
    right
    refine ⟨h.1, h.2.1, h.2.2, ?_⟩
    simp
  · left; simp

theorem setChangedA_other_oid (e : Entry) (s : Bool) (v : Option Rat) (h : truthyS (e.side (!s)).oid = true) :
    (setChangedA e s v).1.side (!s) = e.side (!s) := by
  rcases setChangedA_other e s v with h1 | ⟨_, _, h3, _⟩
  · exact h1
  · rw [h] at h3; exact absurd h3 (by simp)

@[simp] theorem markA_id (last now : Rat) (e : Entry) (s : Bool) : (markA last now e s).1.id = e.id := by
  simp only [markA]; split <;> simp

theorem markA_changed (last now : Rat) (e : Entry) (s : Bool) :
    ((markA last now e s).1.side s).changed = some (stamp last now) := by
  simp only [markA, stamp]
  split <;> simp [setChangedA_self]

@[simp] theorem bumpA_id (p : Rat × Rat) (x : Entry × Acts) (s : Bool) : (bumpA p x s).1.id = x.1.id := by
  simp only [bumpA]; split <;> simp

@[simp] theorem bumpA_priority (p : Rat × Rat) (x : Entry × Acts) (s : Bool) : (bumpA p x s).1.priority = x.1.priority := by
  simp only [bumpA]; split <;> simp

/-- the `__setattr__` guard for an equal value is absorbed: the shift condition is false then, and the field write is void -/
theorem setPriorityA_eq (p : Rat × Rat) (e : Entry) (v : Rat) :
    setPriorityA p e v =
      ({ (if e.priority < v ∧ 0 < v then bumpA p (bumpA p (e, []) false) true else (e, [])).1 with priority := v },
       (if e.priority < v ∧ 0 < v then bumpA p (bumpA p (e, []) false) true else (e, [])).2) := by
  unfold setPriorityA
  by_cases h : (e.priority == v) = true
  · rw [if_pos h, if_neg (fun h' => h'.1.ne (eq_of_beq h)), ← eq_of_beq h]
  · rw [if_neg h]
    have hb : (decide (v > e.priority) && decide (v > 0)) = true ↔ e.priority < v ∧ 0 < v := by
      rw [Bool.and_eq_true, decide_eq_true_eq, decide_eq_true_eq]
    by_cases h' : e.priority < v ∧ 0 < v
    · rw [if_pos h', if_pos (hb.2 h')]
    · rw [if_neg h', if_neg (mt hb.1 h')]

theorem setPriorityA_priority (p : Rat × Rat) (e : Entry) (v : Rat) : (setPriorityA p e v).1.priority = v := by
  rw [setPriorityA_eq]

@[simp] theorem setPriorityA_id (p : Rat × Rat) (e : Entry) (v : Rat) : (setPriorityA p e v).1.id = e.id := by
  rw [setPriorityA_eq]
  show (ite _ _ _ : Entry × Acts).1.id = _
  split <;> simp

theorem setPriorityE_zero (p : Rat × Rat) (e : Entry) :
    setPriorityE p e 0 = { e with priority := 0 } := by
  rw [setPriorityE, setPriorityA_eq, if_neg (fun h => lt_irrefl _ h.2)]

theorem puntE_priority (p : Rat × Rat) (e : Entry) : (puntE p e).priority = e.priority + 1 :=
  setPriorityA_priority p e _

theorem puntE_id (p : Rat × Rat) (e : Entry) : (puntE p e).id = e.id := setPriorityA_id p e _

theorem puntK_priority (p : Rat × Rat) (k : Nat) (e : Entry) : (puntK p k e).priority = e.priority + k := by
  induction k generalizing e with
  | zero => simp [puntK]
  | succ k ih => simp only [puntK, ih, puntE_priority]; push_cast; ring

theorem puntK_id (p : Rat × Rat) (k : Nat) (e : Entry) : (puntK p k e).id = e.id := by
  induction k generalizing e with
  | zero => rfl
  | succ k ih => simp only [puntK, ih, puntE_id]

theorem side_priority (e : Entry) (v : Rat) (s : Bool) : ({ e with priority := v } : Entry).side s = e.side s := by
  cases s <;> rfl

theorem setPriorityA_side (p : Rat × Rat) (e : Entry) (v : Rat) (s : Bool) :
    (setPriorityA p e v).1.side s =
      if e.priority < v ∧ 0 < v then (bumpA p (bumpA p (e, []) false) true).1.side s else e.side s := by
  rw [setPriorityA_eq]
  split <;> exact side_priority _ _ _

theorem bumpA_self (p : Rat × Rat) (x : Entry × Acts) (s : Bool) :
    (bumpA p x s).1.side s =
      if truthy (x.1.side s).changed then
        { x.1.side s with changed := some (orZero (x.1.side s).changed + (if s then p.2 else p.1)) }
      else x.1.side s := by
  simp only [bumpA]
  split
  · exact setChangedA_self _ _ _
  · rfl

theorem bumpA_other (p : Rat × Rat) (x : Entry × Acts) (s : Bool) (ho : truthyS (x.1.side s).oid = true) :
    (bumpA p x (!s)).1.side s = x.1.side s := by
  simp only [bumpA]
  split
  · simpa using setChangedA_other_oid x.1 (!s) _ (by simpa using ho)
  · rfl

/-- of the two shifts of a rising priority only its own reaches a side that has an id -/
theorem bumpA_both (p : Rat × Rat) (e : Entry) (s : Bool) (ho : truthyS (e.side s).oid = true) :
    (bumpA p (bumpA p (e, []) false) true).1.side s = (bumpA p (e, []) s).1.side s := by
  cases s with
  | false =>
    refine bumpA_other p _ false ?_
    rw [bumpA_self]; split <;> exact ho
  | true =>
    have h := bumpA_other p (e, []) true ho
    rw [bumpA_self, bumpA_self]
    exact h ▸ rfl

theorem puntE_side (p : Rat × Rat) (e : Entry) (s : Bool) (c : Rat) (hc : (e.side s).changed = some c) (hpos : 0 < c)
    (ho : truthyS (e.side s).oid = true) :
    (puntE p e).side s =
      if 0 < e.priority + 1 then { e.side s with changed := some (c + (if s then p.2 else p.1)) } else e.side s := by
  have ht : truthy (some c) = true := truthy_some.2 hpos.ne'
  rw [puntE, setPriorityE, setPriorityA_side]
  by_cases h : 0 < e.priority + 1
  · rw [if_pos ⟨lt_add_one _, h⟩, if_pos h, bumpA_both p e s ho, bumpA_self, hc, if_pos ht]; rfl
  · rw [if_neg (fun h' => h h'.2), if_neg h]

theorem add_succ_mul (c q : Rat) (j : Nat) : c + q + j * q = c + ((j + 1 : Nat) : Rat) * q := by
  push_cast; ring

/-- `j ≤ k`, not `j = k`: a punt that leaves the priority at or below 0 does not shift (the `if` of `puntE_side`); `0 < c` and
    `0 ≤ punt_secs` keep the shifted stamp positive, hence truthy -/
theorem puntK_side (p : Rat × Rat) (s : Bool) (hp : 0 ≤ (if s then p.2 else p.1)) (k : Nat) (e : Entry) (c : Rat)
    (hc : (e.side s).changed = some c) (hpos : 0 < c) (ho : truthyS (e.side s).oid = true) :
    ∃ j : Nat, j ≤ k ∧ ((puntK p k e).side s).changed = some (c + j * (if s then p.2 else p.1)) := by
  induction k generalizing e c with
  | zero => exact ⟨0, le_refl _, by rw [puntK, hc, Nat.cast_zero, zero_mul, add_zero]⟩
  | succ k ih =>
    have h := puntE_side p e s c hc hpos ho
    split at h
    · obtain ⟨j, hj, hj'⟩ := ih (puntE p e) _ (by rw [h]) (add_pos_of_pos_of_nonneg hpos hp) (by rw [h]; exact ho)
      exact ⟨j + 1, Nat.succ_le_succ hj, by rw [puntK, hj', add_succ_mul]⟩
    · obtain ⟨j, hj, hj'⟩ := ih (puntE p e) c (by rw [h]; exact hc) hpos (by rw [h]; exact ho)
      exact ⟨j, Nat.le_succ_of_le hj, hj'⟩

theorem get?_id {st : St} {id : Nat} {e : Entry} (h : st.get? id = some e) : e.id = id := by
  simpa using List.find?_some h

theorem get?_mem {st : St} {id : Nat} {e : Entry} (h : st.get? id = some e) : e ∈ st.ents :=
  List.mem_of_find?_eq_some h

theorem find?_map_id (l : List Entry) (g : Entry → Entry) (hg : ∀ e, (g e).id = e.id) (j : Nat) :
    (l.map g).find? (·.id == j) = (l.find? (·.id == j)).map g := by
  induction l with
  | nil => rfl
  | cons a l ih =>
    simp only [List.map_cons, List.find?_cons, hg]
    cases (a.id == j) with
    | true => rfl
    | false => exact ih

theorem get?_put (st : St) (e' : Entry) (j : Nat) :
    (st.put e').get? j = if j = e'.id then (st.get? j).map (fun _ => e') else st.get? j := by
  refine (find?_map_id st.ents (fun x => if x.id == e'.id then e' else x) (fun x => ?_) j).trans ?_
  · split
    · rename_i h; exact (eq_of_beq h).symm
    · rfl
  · show Option.map _ (st.get? j) = _
    cases hx : st.get? j with
    | none => split <;> rfl
    | some x =>
      rw [Option.map_some, get?_id hx]
      by_cases hj : j = e'.id
      · rw [if_pos hj, if_pos (beq_iff_eq.2 hj)]; rfl
      · rw [if_neg hj, if_neg (fun h => hj (eq_of_beq h))]

@[simp] theorem get?_act (st : St) (id j : Nat) (a : Acts) : (st.act id a).get? j = st.get? j := rfl

theorem withE_none (st : St) (id : Nat) (f : Entry → Entry × Acts) (h : st.get? id = none) : st.withE id f = st := by
  simp only [St.withE, h]

theorem withE_some (st : St) (id : Nat) (f : Entry → Entry × Acts) {e : Entry} (h : st.get? id = some e) :
    st.withE id f = (st.put (f e).1).act id (f e).2 := by
  simp only [St.withE, h]

theorem withE_get? (st : St) (id j : Nat) (f : Entry → Entry × Acts) (hf : ∀ e, (f e).1.id = e.id) :
    (st.withE id f).get? j = if j = id then (st.get? id).map (fun e => (f e).1) else st.get? j := by
  cases h : st.get? id with
  | none =>
    rw [withE_none st id f h]
    split
    · rename_i hj; rw [hj]; exact h
    · rfl
  | some e =>
    rw [withE_some st id f h, get?_act, get?_put, hf, get?_id h]
    split
    · rename_i hj; rw [hj, h]; rfl
    · rfl

theorem withE_get?_same (st : St) (id : Nat) (f : Entry → Entry × Acts) (e : Entry)
    (h : st.get? id = some e) (hf : ∀ e, (f e).1.id = e.id) :
    (st.withE id f).get? id = some (f e).1 := by
  rw [withE_get? st id id f hf, if_pos rfl, h]; rfl

theorem withE_get?_other (st : St) (id j : Nat) (f : Entry → Entry × Acts)
    (hf : ∀ e, (f e).1.id = e.id) (hj : j ≠ id) :
    (st.withE id f).get? j = st.get? j := by
  rw [withE_get? st id j f hf, if_neg hj]

theorem withE_isSome (st : St) (id j : Nat) (f : Entry → Entry × Acts) (hf : ∀ e, (f e).1.id = e.id) :
    ((st.withE id f).get? j).isSome = (st.get? j).isSome := by
  rw [withE_get? st id j f hf]
  split
  · rename_i hj; rw [hj, Option.isSome_map]
  · rfl

/-- membership after the changeset actions `a`, when it was `m` before them -/
def lastAct (a : Acts) (m : Bool) : Bool := a.getLast?.getD m

@[simp] theorem lastAct_nil (m : Bool) : lastAct [] m = m := rfl
@[simp] theorem lastAct_single (b m : Bool) : lastAct [b] m = b := rfl

theorem lastAct_append (a b : Acts) (m : Bool) : lastAct (a ++ b) m = lastAct b (lastAct a m) := by
  simp only [lastAct, List.getLast?_append]
  cases b.getLast? <;> rfl

theorem mem_addId (p : List Nat) (id j : Nat) : j ∈ addId p id ↔ j ∈ p ∨ j = id :=
  mem_ite_snoc List.contains_iff_mem.1

theorem mem_discardId (p : List Nat) (id j : Nat) : j ∈ discardId p id ↔ j ∈ p ∧ j ≠ id := by
  simp [discardId]

theorem mem_act (st : St) (id j : Nat) (a : Acts) :
    j ∈ (st.act id a).pending ↔ if j = id then lastAct a (decide (id ∈ st.pending)) = true else j ∈ st.pending := by
  simp only [St.act]
  generalize st.pending = p
  induction a generalizing p with
  | nil => by_cases h : j = id <;> simp [h]
  | cons x a ih =>
    rw [List.foldl_cons, ih, show x :: a = [x] ++ a from rfl, lastAct_append, lastAct_single]
    by_cases h : j = id <;> cases x <;> simp [mem_addId, mem_discardId, h]

end CS.Sched
