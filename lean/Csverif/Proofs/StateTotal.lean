import Csverif.Proofs.StateSet
/-
C11: termination of the hook.  `sideSet cfg n` runs out of fuel (the model's `RecursionError`) only if `n` is smaller than
the number of entries that are not on the `_kids_moving` stack, plus 3: every nested `_update_kids` pushes one more entry, and an
entry on the stack is never moved again.  The `+ 3` is a sufficient margin, not claimed to be the least: an assignment that moves
no kids needs two levels (itself, and the `prior_ent[side].oid = None` or the `changed` bump it may call, which call nothing further),
and `hook_all` (StateSet.lean), which does the induction, only uses that at least two levels are left at every depth.
-/
namespace CS.State

def NR {α} (P : St → Prop) (m : M α) : Prop := ∀ st, P st → (m st).1 ≠ .error .recursion

theorem Tr.trivial {α} {P : St → Prop} (m : M α) : Tr P m (fun _ _ => True) (fun _ => True) :=
  fun _ _ => ⟨fun _ _ => True.intro, fun _ _ _ => True.intro⟩

namespace NR
variable {α β : Type} {P : St → Prop}

theorem pure {a : α} : NR P (Pure.pure a : M α) := by intro st _ h; simp at h

/-- the second statement runs from what the first is known to leave (`Tr`) -/
theorem bind {m : M α} {f : α → M β} {R : α → St → Prop} {E : St → Prop} (h0 : NR P m) (h1 : Tr P m R E)
    (h2 : ∀ a, NR (R a) (f a)) : NR P (m >>= f) := by
  intro st hp
  have h0' := h0 st hp
  have h1' := h1 st hp
  simp only [M.bind_apply]
  cases hm : m st with
  | mk r st' =>
    rw [hm] at h0' h1'
    cases r with
    | ok a => exact h2 a st' (h1'.1 a rfl)
    | error x => simpa using h0'

theorem assert {b : Bool} : NR P (assertM b) := by
  intro st _ h; rw [assertM_apply] at h; cases b <;> simp at h

theorem ite {c : Prop} [Decidable c] {a b : M α} (h : c → NR P a) (h' : ¬ c → NR P b) : NR P (if c then a else b) := by
  split
  · next hc => exact h hc
  · next hc => exact h' hc

end NR

def Total (cfg : Cfg) (n : Nat) : Prop :=
  ∀ e s fv st, Inv st → e < st.ents.length → e ∉ st.moving → budgetOf st.ents.length st.moving + 3 ≤ n →
    (sideSet cfg n e s fv st).1 ≠ .error .recursion

theorem total_all (cfg : Cfg) : ∀ n, Total cfg n := fun n e s fv st hi hlt hm hb hr =>
  Nat.not_lt.2 hb (((hook_all cfg n e s fv st hi hlt hm).2 _ hr).fuel rfl)

theorem sideSet_total (cfg : Cfg) (n : Nat) (e : Nat) (s : Sd) (fv : FV) (st : St) (hi : Inv st) (hlt : e < st.ents.length)
    (hm : st.moving = []) (hn : st.ents.length + 3 ≤ n) : (sideSet cfg n e s fv st).1 ≠ .error .recursion :=
  total_all cfg n e s fv st hi hlt (by rw [hm]; simp) (by have := budget_le st.ents.length st.moving; omega)

end CS.State
