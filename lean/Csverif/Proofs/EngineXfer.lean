import Csverif.Model.EngineXfer
import Mathlib.Tactic.SplitIfs
/-
Lemmas about the transfer leaves (Model/EngineXfer.lean).  The invariant is `FS.wf` on the temp directory: with it
`download_changed` returns True only over the bytes of the side's current hash, and the bytes found under `temp_file` are what
`upload_synced` / `create_synced` hand to the provider.
-/
namespace CS.Engine.Xfer
open CS.Hints (Ex OT Ign)

/-- a finished file under a KEYED name holds the bytes that were downloaded for that key's hash; RANDOM names in use are below the
    counter (fresh names are fresh) and hold tag 0, the tag of bytes downloaded for a side without hash (a random name is chosen
    only for such a side) -/
def fileOk (next : Nat) (f : File) : Prop :=
  f.part = false → match f.loc.name with
    | .keyed _ h => f.bytes = h
    | .rand n => n < next ∧ f.bytes = 0

/-- the temp directories hold only files this engine wrote -/
def FS.wf (fs : FS) : Prop := ∀ f ∈ fs.files, fileOk fs.nextRand f

theorem fileOk_mono {n m : Nat} (h : n ≤ m) {f : File} (hf : fileOk n f) : fileOk m f := by
  intro hp
  have := hf hp
  cases hn : f.loc.name with
  | keyed p hh => simpa [hn] using this
  | rand k => simp only [hn] at this ⊢; exact ⟨by omega, this.2⟩

theorem wf_filter (fs : FS) (p : File → Bool) (h : fs.wf) : ({ fs with files := fs.files.filter p } : FS).wf := by
  intro f hf
  exact h f (List.mem_filter.mp hf).1

theorem wf_unlink (fs : FS) (l : Loc) (part : Bool) (h : fs.wf) : (fs.unlink l part).wf := wf_filter fs _ h

theorem wf_write (fs : FS) (l : Loc) (part : Bool) (b : Tag) (h : fs.wf) (hb : fileOk fs.nextRand ⟨l, part, b⟩) :
    (fs.write l part b).wf := by
  intro f hf
  simp only [FS.write, List.mem_cons] at hf
  rcases hf with rfl | hf
  · exact hb
  · exact wf_unlink fs l part h f hf

theorem find_some (fs : FS) (l : Loc) (part : Bool) (b : Tag) (h : fs.find l part = some b) :
    ∃ f ∈ fs.files, f.loc = l ∧ f.part = part ∧ f.bytes = b := by
  unfold FS.find at h
  split at h
  · simp only [Option.map_eq_some_iff] at h
    obtain ⟨f, hf, hb⟩ := h
    have hm := List.mem_of_find?_eq_some hf
    have hp := List.find?_some hf
    simp only [File.is, Bool.and_eq_true, beq_iff_eq] at hp
    exact ⟨f, hm, hp.1, hp.2, hb⟩
  · cases h

@[simp] theorem write_dirExists (fs : FS) (l : Loc) (part : Bool) (b : Tag) (d : Dir) :
    (fs.write l part b).dirExists d = fs.dirExists d := by cases d <;> rfl

@[simp] theorem unlink_dirExists (fs : FS) (l : Loc) (part : Bool) (d : Dir) :
    (fs.unlink l part).dirExists d = fs.dirExists d := by cases d <;> rfl

theorem find_write_same (fs : FS) (l : Loc) (part : Bool) (b : Tag) (hd : fs.dirExists l.dir = true) :
    (fs.write l part b).find l part = some b := by
  unfold FS.find
  rw [write_dirExists, hd]
  simp [FS.write, File.is]

theorem find_keyed (fs : FS) (h : fs.wf) (l : Loc) (p hh : Tag) (b : Tag) (hn : l.name = .keyed p hh)
    (hf : fs.find l false = some b) : b = hh := by
  obtain ⟨f, hm, hl, hp, hb⟩ := find_some fs _ _ _ hf
  have := h f hm hp
  rw [hl, hn] at this
  rw [← hb]; exact this

theorem no_fresh_rand (fs : FS) (h : fs.wf) (d : Dir) : fs.find ⟨d, .rand fs.nextRand⟩ false = none := by
  cases hf : fs.find ⟨d, .rand fs.nextRand⟩ false with
  | none => rfl
  | some b =>
    obtain ⟨f, hm, hl, hp, _⟩ := find_some fs _ _ _ hf
    have := h f hm hp
    rw [hl] at this
    simp at this

theorem find_with_next (fs : FS) (n : Nat) (l : Loc) (part : Bool) :
    ({ fs with nextRand := n } : FS).find l part = fs.find l part := by
  unfold FS.find FS.dirExists
  cases l.dir <;> rfl

theorem wf_cleanTemp (fs : FS) (s : XSide) (h : fs.wf) : (cleanTemp fs s).wf := by
  unfold cleanTemp
  split
  · exact wf_unlink _ _ _ h
  · exact h

@[simp] theorem cleanTemp_next (fs : FS) (s : XSide) : (cleanTemp fs s).nextRand = fs.nextRand := by
  unfold cleanTemp; split <;> rfl

theorem newTemp_spec (fs : FS) (c : XSide) (name : Option Name) (hw : fs.wf) :
    (newTemp fs c name).1.wf ∧ (newTemp fs c name).1.curExists = true ∧
    (∃ l, (newTemp fs c name).2 = { c with temp := some l } ∧ l.dir = .cur ∧
      (match name with
        | some n => l.name = n
        | none => (newTemp fs c name).1.find l false = none ∧ ∃ n, l.name = .rand n ∧ n < (newTemp fs c name).1.nextRand)) := by
  have h1 := wf_cleanTemp fs c hw
  -- the directory is (re)created
  generalize hfs1 : (if !(cleanTemp fs c).curExists then
      ({ cleanTemp fs c with curExists := true, files := (cleanTemp fs c).files.filter (fun f => f.loc.dir != .cur) } : FS)
      else cleanTemp fs c) = fs1
  have h2 : fs1.wf ∧ fs1.curExists = true ∧ fs1.nextRand = fs.nextRand := by
    subst hfs1
    split_ifs with hc
    · exact ⟨wf_filter _ _ h1, rfl, by simp⟩
    · exact ⟨h1, by simpa using hc, by simp⟩
  unfold newTemp
  simp only [hfs1]
  cases name with
  | some n => exact ⟨h2.1, h2.2.1, ⟨.cur, n⟩, rfl, rfl, rfl⟩
  | none =>
    refine ⟨?_, h2.2.1, ⟨.cur, .rand fs1.nextRand⟩, rfl, rfl, ?_⟩
    · intro f hf
      exact fileOk_mono (Nat.le_succ _) (h2.1 f hf)
    · simp only []
      rw [find_with_next]
      exact ⟨no_fresh_rand fs1 h2.1 .cur, fs1.nextRand, rfl, Nat.lt_succ_self _⟩

theorem makeTempFile_spec (fs fs' : FS) (c c' : XSide) (hw : fs.wf) (hd : c.otype ≠ .dir)
    (h : makeTempFile fs c = .ok (fs', c')) :
    fs'.wf ∧ ∃ l, c' = { c with temp := some l } ∧ fs'.dirExists l.dir = true ∧
      ((∃ p hh, c.path = some p ∧ c.hash = some hh ∧ l.name = .keyed p hh) ∨
       (c.hash = none ∧ fs'.find l false = none ∧ ∃ n, l.name = .rand n ∧ n < fs'.nextRand)) := by
  revert h
  fun_cases makeTempFile fs c <;> intro h
  · exact absurd (by simpa using ‹(c.otype == OT.dir) = true›) hd
  · cases h
  · -- the name in `temp_file` is the wanted one and its directory exists: kept
    rename_i hv _ p _ _ _ hk
    cases h
    cases ht : c.temp with
    | none => simp +zetaDelta [ht] at hk
    | some l =>
      simp +zetaDelta only [ht, Bool.and_eq_true, beq_iff_eq] at hk
      exact ⟨hw, l, by rw [← ht], hk.2, .inl ⟨p, hv, ‹_›, ‹_›, hk.1⟩⟩
  · rename_i hv hh p hp _ _ _
    have sp := newTemp_spec fs c (some (.keyed p hv)) hw
    cases h
    obtain ⟨w, ce, l, hc, hl, hn⟩ := sp
    exact ⟨w, l, hc, by rw [hl]; exact ce, .inl ⟨p, hv, hp, hh, hn⟩⟩
  · have sp := newTemp_spec fs c none hw
    cases h
    obtain ⟨w, ce, l, hc, hl, hf⟩ := sp
    exact ⟨w, l, hc, by rw [hl]; exact ce, .inr ⟨‹_›, hf⟩⟩

@[simp] theorem setEx_fields (s : XSide) (v : Ex) :
    (s.setEx v).otype = s.otype ∧ (s.setEx v).hash = s.hash ∧ (s.setEx v).path = s.path ∧ (s.setEx v).syncHash = s.syncHash ∧
    (s.setEx v).changed = s.changed ∧ (s.setEx v).temp = s.temp ∧ (s.setEx v).oid = s.oid := by
  unfold XSide.setEx; split_ifs <;> simp

/-- the three shapes of the entry afterwards: untouched (`make_temp_file` raised), with a `temp_file`, with a `temp_file` and
    `exists = MISSING` (CloudFileNotFoundError) -/
theorem downloadChanged_cases (o : XOracle) (fs : FS) (e : XEntry) (hw : fs.wf) (hd : e.c.otype ≠ .dir) {d : XRes}
    (h : downloadChanged o fs e = d) :
    d.fs.wf ∧ (d.effs = [] ∨ d.effs = [.download]) ∧
    ((d.ent = e ∧ d.out ≠ .bool true) ∨
     ∃ l,
      (d.ent = { e with c := { e.c with temp := some l } } ∧
        (d.out = .bool true →
          d.fs.find l false = some (e.c.hash.getD 0) ∧
          (d.effs = [] → ∃ p hh, e.c.path = some p ∧ e.c.hash = some hh ∧ l.name = .keyed p hh))) ∨
      (d.ent = { e with c := ({ e.c with temp := some l } : XSide).setEx .missing } ∧ d.out ≠ .bool true)) := by
  subst h
  have sp := fun fs' c' => makeTempFile_spec fs fs' e.c c' hw hd
  fun_cases downloadChanged o fs e
  case case1 => exact ⟨hw, .inl rfl, .inl ⟨rfl, nofun⟩⟩  -- `make_temp_file` raised
  all_goals obtain ⟨w', l, rfl, hde, hname⟩ := sp _ _ ‹_›
  case case2 => exact ⟨w', .inl rfl, .inr ⟨l, .inl ⟨rfl, nofun⟩⟩⟩  -- no id: the assertion
  case case3 => cases ‹_ = none›  -- `temp_file` is None: not after `make_temp_file`
  all_goals
    obtain rfl : l = _ := Option.some.inj ‹_ = some _›
    have wp := wf_write _ l true 0 w' (by intro hp; cases hp)
  case case4 =>
    -- reused
    refine ⟨w', .inl rfl, .inr ⟨l, .inl ⟨rfl, fun _ => ?_⟩⟩⟩
    obtain ⟨b, hb⟩ := Option.isSome_iff_exists.mp ‹FS.has _ l false = true›
    rcases hname with ⟨p, hh, hp, hhh, hn⟩ | ⟨_, hfn, _⟩
    · exact ⟨by rw [hb, find_keyed _ w' l p hh b hn hb, hhh]; rfl, fun _ => ⟨p, hh, hp, hhh, hn⟩⟩
    · rw [hfn] at hb; cases hb
  case case5 => exact absurd ‹(!FS.dirExists _ _) = true› (by simp [hde])  -- no directory: not after `make_temp_file`
  case case6 =>
    -- downloaded
    refine ⟨wf_write _ _ _ _ (wf_unlink _ _ _ wp) ?_, .inr rfl, .inr ⟨l, .inl ⟨rfl, fun _ => ⟨?_, nofun⟩⟩⟩⟩
    · intro _
      rcases hname with ⟨p, hh, hp, hhh, hn⟩ | ⟨hnone, _, n, hn, hlt⟩
      · simp [hn, hhh]
      · simp only [hn, hnone, Option.getD_none]
        exact ⟨hlt, trivial⟩
    · exact find_write_same _ _ _ _ (by simpa +zetaDelta using hde)
  case case7 => exact ⟨wf_cleanTemp _ _ wp, .inr rfl, .inr ⟨l, .inl ⟨rfl, nofun⟩⟩⟩  -- FileNotFoundError
  case case9 => exact ⟨wp, .inr rfl, .inr ⟨l, .inr ⟨rfl, nofun⟩⟩⟩  -- CloudFileNotFoundError
  all_goals exact ⟨wp, .inr rfl, .inr ⟨l, .inl ⟨rfl, nofun⟩⟩⟩  -- the other exceptions: the `.tmp` file stays

/-- the two `return True` paths of `download_changed`: just downloaded, or reused (no provider call), and that only under the md5
    name of the current (path, hash) -/
theorem downloadChanged_true (o : XOracle) (fs : FS) (e : XEntry) (hw : fs.wf) (hd : e.c.otype ≠ .dir)
    (h : (downloadChanged o fs e).out = .bool true) :
    (downloadChanged o fs e).fs.wf ∧
    ∃ l, (downloadChanged o fs e).ent = { e with c := { e.c with temp := some l } } ∧
      (downloadChanged o fs e).fs.find l false = some (e.c.hash.getD 0) ∧
      ((downloadChanged o fs e).effs = [.download] ∨
       ((downloadChanged o fs e).effs = [] ∧ ∃ p hh, e.c.path = some p ∧ e.c.hash = some hh ∧ l.name = .keyed p hh)) := by
  obtain ⟨wf, heffs, ⟨_, hne⟩ | ⟨l, ⟨hent, htrue⟩ | ⟨_, hne⟩⟩⟩ := downloadChanged_cases o fs e hw hd rfl
  · exact absurd h hne
  · obtain ⟨hfind, hkeyed⟩ := htrue h
    exact ⟨wf, l, hent, hfind, heffs.symm.imp_right fun h0 => ⟨h0, hkeyed h0⟩⟩
  · exact absurd h hne

theorem downloadChanged_any (o : XOracle) (fs : FS) (e : XEntry) (hw : fs.wf) (hd : e.c.otype ≠ .dir) :
    (downloadChanged o fs e).fs.wf ∧
    ((downloadChanged o fs e).effs = [] ∨ (downloadChanged o fs e).effs = [.download]) ∧
    (downloadChanged o fs e).ent.c.otype = e.c.otype ∧ (downloadChanged o fs e).ent.c.hash = e.c.hash ∧
    (downloadChanged o fs e).ent.c.syncHash = e.c.syncHash ∧ (downloadChanged o fs e).ent.c.changed = e.c.changed ∧
    (downloadChanged o fs e).ent.c.path = e.c.path := by
  obtain ⟨wf, heffs, ⟨hent, _⟩ | ⟨l, ⟨hent, _⟩ | ⟨hent, _⟩⟩⟩ := downloadChanged_cases o fs e hw hd rfl
  all_goals
    refine ⟨wf, heffs, ?_⟩
    rw [hent]
    simp

theorem downloadChanged_out (o : XOracle) (fs : FS) (e : XEntry) :
    (∃ b, (downloadChanged o fs e).out = .bool b) ∨ (∃ x, (downloadChanged o fs e).out = .raised x) := by
  fun_cases downloadChanged o fs e
  all_goals first
    | exact .inl ⟨_, rfl⟩
    | exact .inr ⟨_, rfl⟩

theorem ofUpdate_fs (out : XOut) (fx : List XEff) (fs : FS) (fb : XEntry) (r : Except XExc XEntry) :
    (XRes.ofUpdate out fx fs fb r).fs = fs := by cases r <;> rfl

theorem ofUpdate_effs (out : XOut) (fx : List XEff) (fs : FS) (fb : XEntry) (r : Except XExc XEntry) :
    (XRes.ofUpdate out fx fs fb r).effs = fx := by cases r <;> rfl

theorem uploadSynced_bytes (o : XOracle) (fs : FS) (e : XEntry) (l : Loc) (b : Tag) (ht : e.c.temp = some l)
    (hf : fs.find l false = some b) :
    ∀ t, XEff.sent t ∈ (uploadSynced o fs e).effs → t = b := by
  unfold uploadSynced XRes.ofUpdate
  simp only [ht, hf]
  cases o.up <;> simp only
  all_goals (repeat' split)
  all_goals simp

theorem ofUpdate_fx (fx : List XEff) (r : Except XExc XEntry) : (Inner.ofUpdate fx r).fx = fx := by
  cases r <;> rfl

theorem recordCreate_fx (o : XOracle) (e : XEntry) (ih ip : Option Tag) (fx : List XEff) : (recordCreate o e ih ip fx).fx = fx := by
  unfold recordCreate
  cases ih with
  | none => rfl
  | some h =>
    simp only
    split_ifs
    · rfl
    · exact ofUpdate_fx _ _

theorem createInner_fx (o : XOracle) (fs : FS) (e : XEntry) (l : Loc) (b : Tag) (ht : e.c.temp = some l)
    (hf : fs.find l false = some b) :
    ∀ f ∈ (createInner o fs e).fx, f = .created b ∨ f = .hashData b ∨ f = .infoPath := by
  unfold createInner
  simp only [ht, hf]
  cases o.cr
  case ok => rw [recordCreate_fx]; simp
  case exists_ =>
    cases o.atPath with
    | none => simp [Inner.fx]
    | some hv =>
      simp only
      split_ifs
      · simp [Inner.fx]
      · rw [recordCreate_fx]; simp
  all_goals simp [Inner.fx]

theorem createSynced_bytes (o : XOracle) (fs : FS) (e : XEntry) (l : Loc) (b : Tag) (ht : e.c.temp = some l)
    (hf : fs.find l false = some b) :
    ∀ t, XEff.created t ∈ (createSynced o fs e).effs ∨ XEff.hashData t ∈ (createSynced o fs e).effs → t = b := by
  have hi : ∀ t, XEff.created t ∈ (createInner o fs e).fx ∨ XEff.hashData t ∈ (createInner o fs e).fx → t = b := fun t h => by
    rcases h with h | h <;> rcases createInner_fx o fs e l b ht hf _ h with h1 | h1 | h1 <;> injection h1
  fun_cases createSynced o fs e
  all_goals
    simp only [‹createInner o fs e = _›, Inner.fx] at hi
    exact fun t h => hi t (by simpa [ofUpdate_effs] using h)

theorem updateSynced_c (e e' : XEntry) (b : Bool) (p h : Option Tag) (hu : updateSynced e b p h = .ok e') : e'.c = e.c := by
  revert hu
  fun_cases updateSynced e b p h <;> intro hu <;> cases hu
  rfl

theorem updateSynced_error (e : XEntry) (b : Bool) (p h : Option Tag) (x : XExc) (hu : updateSynced e b p h = .error x) :
    x = .assertion := by
  revert hu
  fun_cases updateSynced e b p h <;> intro hu <;> cases hu
  rfl

theorem uploadSynced_ok (o : XOracle) (fs : FS) (e : XEntry) (l : Loc) (b : Tag) (ht : e.c.temp = some l)
    (hf : fs.find l false = some b) (hup : o.up = .ok) :
    (uploadSynced o fs e).effs = [.sent b] ∧
    ((uploadSynced o fs e).out = .bool true →
      (uploadSynced o fs e).ent.c.syncHash = e.c.hash ∧ (uploadSynced o fs e).ent.c.syncPath = e.c.path) := by
  unfold uploadSynced
  simp only [ht, hf, hup]
  cases hu : updateSynced _ e.s.oid _ none with
  | ok e' =>
    have hc := updateSynced_c _ _ _ _ _ hu
    exact ⟨rfl, fun _ => ⟨congrArg XSide.syncHash hc, congrArg XSide.syncPath hc⟩⟩
  | error x =>
    exact ⟨rfl, nofun⟩

@[simp] theorem setHash_oid (s : XSide) (v : Option Tag) : (s.setHash v).oid = s.oid := by
  unfold XSide.setHash; dsimp only; split_ifs <;> rfl

@[simp] theorem existsTrue_oid (s : XSide) : s.existsTrue.oid = s.oid := by
  unfold XSide.existsTrue; split_ifs <;> simp

theorem updateSynced_oid (e e' : XEntry) (p h : Option Tag) (hu : updateSynced e true p h = .ok e') : e'.s.oid = true := by
  revert hu
  fun_cases updateSynced e true p h <;> intro hu <;> cases hu
  cases h <;> simp +zetaDelta <;> split_ifs <;> simp

theorem ofUpdate_c (out : XOut) (fx : List XEff) (fs : FS) (fb : XEntry) (r : Except XExc XEntry)
    (h : ∀ e', r = .ok e' → e'.c = fb.c) : (XRes.ofUpdate out fx fs fb r).ent.c = fb.c := by
  cases r with
  | ok e' => exact h e' rfl
  | error x => rfl

theorem uploadSynced_c_otype (o : XOracle) (fs : FS) (e : XEntry) : (uploadSynced o fs e).ent.c.otype = e.c.otype := by
  fun_cases uploadSynced o fs e
  all_goals first
    | rfl
    | rw [ofUpdate_c _ _ _ _ _ (fun e' he => updateSynced_c _ e' _ _ _ he)]

theorem uploadSynced_fs (o : XOracle) (fs : FS) (e : XEntry) : (uploadSynced o fs e).fs = fs := by
  fun_cases uploadSynced o fs e
  all_goals first
    | rfl
    | exact ofUpdate_fs _ _ _ _ _

theorem createSynced_fs (o : XOracle) (fs : FS) (e : XEntry) : (createSynced o fs e).fs = fs := by
  fun_cases createSynced o fs e
  all_goals first
    | rfl
    | exact ofUpdate_fs _ _ _ _ _

theorem uploadSynced_out (o : XOracle) (fs : FS) (e : XEntry) (c : Ret) : (uploadSynced o fs e).out ≠ .code c := by
  fun_cases uploadSynced o fs e
  case case3 => cases updateSynced _ _ _ _ <;> nofun   -- the upload went through: True, or the assertion of `update_entry`
  all_goals nofun

theorem transferUpload_cases (o : XOracle) (fs : FS) (e : XEntry) :
    let d := downloadChanged o fs e
    let u := uploadSynced o d.fs d.ent
    (d.out ≠ .bool true ∧ (transferUpload o fs e).out ≠ .code .finished ∧ (transferUpload o fs e).ent = d.ent ∧
        (transferUpload o fs e).fs = d.fs ∧ (transferUpload o fs e).effs = d.effs) ∨
     (d.out = .bool true ∧ ((transferUpload o fs e).out = .code .finished → u.out = .bool true) ∧
        (transferUpload o fs e).ent = u.ent ∧ (transferUpload o fs e).fs = u.fs ∧
        (transferUpload o fs e).effs = d.effs ++ u.effs) := by
  dsimp only
  have hu := uploadSynced_out o (downloadChanged o fs e).fs (downloadChanged o fs e).ent .finished
  unfold transferUpload
  rcases downloadChanged_out o fs e with ⟨b, hb⟩ | ⟨x, hx⟩
  · cases b
    · exact .inl (by simp [hb])
    · refine .inr ⟨hb, ?_⟩
      simp only [hb]
      split <;> simp_all
  · exact .inl (by simp [hx])

theorem transferUpload_wf (o : XOracle) (fs : FS) (e : XEntry) (hw : fs.wf) (hd : e.c.otype ≠ .dir) :
    (transferUpload o fs e).fs.wf ∧ (transferUpload o fs e).ent.c.otype = e.c.otype := by
  obtain ⟨hwf, _, hotype, _⟩ := downloadChanged_any o fs e hw hd
  obtain ⟨_, _, hent, hfs, _⟩ | ⟨_, _, hent, hfs, _⟩ := transferUpload_cases o fs e
  · rw [hfs, hent]; exact ⟨hwf, hotype⟩
  · rw [hfs, hent, uploadSynced_fs, uploadSynced_c_otype]; exact ⟨hwf, hotype⟩

end CS.Engine.Xfer
