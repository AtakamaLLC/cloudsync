import Csverif.Proofs.SchedState
/-
What a call does to the state, as a relation: `Moves W cls skip st st'` — `st'` arises from `st` by a well-bracketed run of hooked
writes, none of them to an entry of `skip`.  `changePath` is such a run (`changePath_moves`: the one induction over the nesting
fuel and the kids list), and so is every call but `finished`.  Frame, changeset invariant and PriorityCurrent are then one
induction over the relation each, plus one table of what the property asks of the single writes (`Op.writesIn`).
-/
namespace CS.Sched

/-- `ent[s].path = p` as a bare field write: no hook fires (the priority hook of `_change_path` is a separate write) -/
abbrev rawPath (s : Bool) (p : String) : Entry → Entry × Acts := fun e => (e.setSide s { e.side s with path := some p }, [])

abbrev rawSyncPath (s : Bool) (p : String) : Entry → Entry × Acts :=
  fun e => (e.setSide s { e.side s with syncPath := some p }, [])

theorem pres_rawPath (s : Bool) (p : String) : Pres (rawPath s p) :=
  pres_sideField s (fun x => { x with path := some p }) (fun _ => rfl) (fun _ => rfl)

theorem pres_rawSyncPath (s : Bool) (p : String) : Pres (rawSyncPath s p) :=
  pres_sideField s (fun x => { x with syncPath := some p }) (fun _ => rfl) (fun _ => rfl)

/-- `W` is the class of entry-level writes allowed on their own.  A re-pathing of `id` is bracketed: its path is written, then
    — with `id` added to the entries left alone — anything of the same kind happens, then its priority is written from the
    class of the new path.  Between the two writes `id` need not satisfy an invariant that ties priority to path.
    `same` absorbs what touches neither table nor changeset (`_last_changed_time`, the `unmodelled` flag); the entry `e` that `repath`
    records is read by `Moves.pcx` only (the priority written at the end is the class of the path `e` was given). -/
inductive Moves (W : (Entry → Entry × Acts) → Prop) (cls : Cls) : List Nat → St → St → Prop
  | refl {skip st} : Moves W cls skip st st
  | write {skip st st1} (id : Nat) {f : Entry → Entry × Acts} : id ∉ skip → W f → Moves W cls skip st st1 →
      Moves W cls skip st (st1.withE id f)
  | same {skip st st1 st2} : Moves W cls skip st st1 → st2.ents = st1.ents → st2.pending = st1.pending → Moves W cls skip st st2
  | repath {skip st st1 st2} (id : Nat) (s : Bool) (path : String) (e : Entry) : id ∉ skip → path ≠ "" →
      st1.get? id = some e → Moves W cls skip st st1 →
      Moves W cls (id :: skip) (st1.withE id (rawPath s path)) st2 →
      Moves W cls skip st (st2.withE id (fun e => setPriorityA st2.punt e (cls s path)))

section
variable {W : (Entry → Entry × Acts) → Prop} {cls : Cls} {skip : List Nat}

theorem Moves.trans {a b c : St} (h1 : Moves W cls skip a b) (h2 : Moves W cls skip b c) : Moves W cls skip a c := by
  induction h2 with
  | refl => exact h1
  | write id hid hf _ ih => exact (ih h1).write id hid hf
  | same _ he hp ih => exact (ih h1).same he hp
  | repath id s path e hid hne he _ m2 ih1 _ => exact (ih1 h1).repath id s path e hid hne he m2

theorem Moves.foldl {α : Type} (g : St → α → St) (hg : ∀ a x, Moves W cls skip a (g a x)) :
    ∀ (l : List α) (st : St), Moves W cls skip st (l.foldl g st)
  | [], _ => .refl
  | x :: l, st => (hg st x).trans (Moves.foldl g hg l (g st x))

theorem Moves.frame {st st' : St} (hW : ∀ f, W f → ∀ e, (f e).1.id = e.id) (h : Moves W cls skip st st') {j : Nat}
    (hj : j ∈ skip) : st'.get? j = st.get? j := by
  induction h with
  | refl => rfl
  | write id hid hf _ ih => rw [withE_get?_other _ id j _ (hW _ hf) (fun e => hid (e ▸ hj)), ih hj]
  | same _ he _ ih => exact (congrArg (·.find? (·.id == j)) he).trans (ih hj)
  | repath id s path e hid _ _ _ _ ih1 ih2 =>
    have hji : j ≠ id := fun e => hid (e ▸ hj)
    rw [withE_get?_other _ id j _ (fun e => setPriorityA_id _ e _) hji, ih2 (List.mem_cons_of_mem _ hj),
      withE_get?_other _ id j _ (fun e => setSide_id e s _) hji, ih1 hj]

/-- the changeset invariant does not tie priority to path, so the bracket is two ordinary writes -/
theorem Moves.inv {st st' : St} (hW : ∀ f, W f → Pres f) (h : Moves W cls skip st st') (hi : Inv st) : Inv st' := by
  induction h with
  | refl => exact hi
  | write id _ hf _ ih => exact withE_inv _ id _ (hW _ hf) (ih hi)
  | same _ he hp ih => exact inv_same he hp (ih hi)
  | repath id s path e _ _ _ _ _ ih1 ih2 =>
    exact withE_inv _ id _ (pres_setPriorityA _ _) (ih2 (withE_inv _ id _ (pres_rawPath s path) (ih1 hi)))

theorem joinRel_ne (path rel : String) (h : path ≠ "") : joinRel path rel ≠ "" := by
  intro hab
  apply h
  have h1 : (path ++ rel).length = 0 := by
    have : joinRel path rel = path ++ rel := rfl
    rw [← this, hab]; rfl
  rw [String.length_append] at h1
  have : path.length = 0 := by omega
  exact String.length_eq_zero_iff.mp this

/-- `W` contains the single writes of a folder event besides the bracket: a kid's re-read id and moved synced path; making
    the entry a DIRECTORY with its id; and the closing `exists` / `mark_changed` writes, as any run of hooked writes to one
    side that writes no path -/
structure FolderWrites (W : (Entry → Entry × Acts) → Prop) : Prop where
  oid : ∀ s o, W (fun e => setOidA e s o)
  syncPath : ∀ s sp, W (rawSyncPath s sp)
  mkDir : ∀ s o, W (fun e => setOidA (e.setSide s { e.side s with dir := true }) s o)
  tail : ∀ s f, (∀ e, Wr (fun _ _ => False) s (e, []) (f e)) → W f

theorem folderWrites_pres : FolderWrites Pres where
  oid := pres_setOidA
  syncPath := pres_rawSyncPath
  mkDir := fun s o => pres_seq (pres_sideField s (fun x => { x with dir := true }) (fun _ => rfl) (fun _ => rfl)) (pres_setOidA s o)
  tail := fun _ _ h => pres_of_wr h

theorem folderWrites_id : FolderWrites (fun f => ∀ e, (f e).1.id = e.id) where
  oid := fun s o e => setOidA_id e s o
  syncPath := fun s _ e => setSide_id e s _
  mkDir := fun s o e => (setOidA_id _ s o).trans (setSide_id e s _)
  tail := fun _ _ h e => (h e).sideWrite.id

variable (hW : FolderWrites W)
include hW

/-- `mv` is the `_kids_moving` stack the code consults, `skip` any part of it -/
theorem kidStep_moves (recur : St → Nat → String → St) (oipS : Bool) (mv : List Nat) (hsub : ∀ j ∈ skip, j ∈ mv)
    (s : Bool) (pp path : String) (acc : St) (sub0 : Entry)
    (hrec : ∀ a i rel, i ∉ mv → Moves W cls skip a (recur a i (joinRel path rel))) :
    Moves W cls skip acc (kidStep recur oipS mv s pp path acc sub0) := by
  rw [kidStep]
  by_cases hskip : mv.contains sub0.id = true
  · rw [if_pos hskip]; exact .refl
  · rw [if_neg hskip]
    cases hg : acc.get? sub0.id with
    | none => exact .refl
    | some sub =>
      have hs : sub.id ∉ mv := get?_id hg ▸ by simpa using hskip
      have hs' : sub.id ∉ skip := fun h => hs (hsub _ h)
      dsimp only
      cases (sub.side s).path.bind (relUnder pp) with
      | none => exact .refl
      | some rel =>
        have ha : Moves W cls skip acc (if oipS then acc.withE sub.id (fun e => setOidA e s (joinRel path rel)) else acc) := by
          cases oipS
          · exact .refl
          · exact Moves.refl.write sub.id hs' (hW.oid s _)
        have hr := ha.trans (hrec _ sub.id rel hs)
        dsimp only
        cases (sub.side s).syncPath.bind (relUnder pp) with
        | none => exact hr
        | some srel => exact hr.write sub.id hs' (hW.syncPath s _)

/-- a write of the empty path is a plain write, not a bracket, and has to be allowed as such -/
theorem changePath_moves (oip : Bool × Bool) (fuel : Nat) :
    ∀ (mv skip : List Nat) (st : St) (id : Nat) (s : Bool) (path : String), (∀ j ∈ skip, j ∈ mv) → id ∉ skip →
      (path = "" → W (rawPath s path)) →
      Moves W cls skip st (changePath cls oip fuel mv st id s path) := by
  induction fuel with
  | zero => intro mv skip st id s path _ _ _; exact .same .refl rfl rfl
  | succ fuel ih =>
    intro mv skip st id s path hsub hid h0
    rw [changePath]
    cases hg : st.get? id with
    | none => exact .refl
    | some e =>
      dsimp only
      by_cases h1 : ((e.side s).path == some path) = true
      · rw [if_pos h1]; exact .refl
      · rw [if_neg h1]
        by_cases hp : (path == "") = true
        · rw [if_pos hp]; exact Moves.refl.write id hid (h0 (by simpa using hp))
        · rw [if_neg hp]
          have hne : path ≠ "" := by simpa using hp
          refine Moves.refl.repath id s path e hid hne hg ?_
          have hsub' : ∀ j ∈ id :: skip, j ∈ id :: mv := fun j hj =>
            (List.mem_cons.1 hj).elim (fun h => h ▸ List.mem_cons_self) (fun h => List.mem_cons_of_mem _ (hsub j h))
          cases (e.side s).path with
          | none => exact .refl
          | some pp =>
            dsimp only
            by_cases hd : (e.side s).dir = true
            · rw [if_pos hd]
              exact Moves.foldl _ (fun a x => kidStep_moves hW _ _ _ hsub' s pp path a x
                (fun a' i rel hi => ih (id :: mv) (id :: skip) a' i s _ hsub' (fun h => hi (hsub' _ h))
                  (fun h => absurd h (joinRel_ne path rel hne)))) _ _
            · rw [if_neg hd]; exact .refl

end

def Grown (st st0 : St) : Prop :=
  st0 = st ∨ ∃ d, st0 = { st with ents := st.ents ++ [({ id := st.ents.length, l := { dir := d }, r := { dir := d } } : Entry)] }

theorem inv_grown {st st0 : St} (hg : Grown st st0) (h : Inv st) : Inv st0 := by
  rcases hg with rfl | ⟨d, rfl⟩
  · exact h
  · exact inv_append st _ rfl (einv_fresh _ d) h

/-- `finished` is not a run of hooked writes: it discards without a hook -/
def Op.writesIn (W : (Entry → Entry × Acts) → Prop) (cls : Cls) : Op → Prop
  | .update s oid path prio now => ∀ p last, W (fun e => updateA p last now e s oid path prio)
  | .attach s _ oid path prio => ∀ p, W (fun e => seqA (setOidA e s oid) (fun e => setPathA p e s path prio))
  | .mark s _ now => ∀ last, W (fun e => markA last now e s)
  | .punt _ => ∀ p, W (fun e => setPriorityA p e (e.priority + 1))
  | .setprio _ v => ∀ p, W (fun e => setPriorityA p e v)
  | .clear s _ => W (fun e => setChangedA e s (some 0))
  | .setaged s _ => W (fun e => setChangedA e s (some 1))
  | .syncpath s _ p => W (rawSyncPath s p)
  | .finished _ => False
  | .fill orc now => ∀ p id, W (fun e => fillEntryA p now (orc id false) (orc id true) e)
  | .updateDir cls' _ s _ _ path _ => cls' = cls ∧ FolderWrites W ∧ (path = "" → W (rawPath s path))

theorem applyOp_moves {W : (Entry → Entry × Acts) → Prop} {cls : Cls} (dn : String → String) (st : St) (op : Op)
    (h : op.writesIn W cls) : ∃ st0, Grown st st0 ∧ Moves W cls [] st0 (applyOp dn st op) := by
  have one : ∀ (id : Nat) (f : Entry → Entry × Acts), W f → Moves W cls [] st (st.withE id f) :=
    fun id f hf => .write id List.not_mem_nil hf .refl
  cases op with
  | update s oid path prio now =>
    show ∃ st0, Grown st st0 ∧ Moves W cls [] st0 (opUpdate st s oid path prio now).1
    rw [opUpdate]
    cases lookupOid st s oid with
    | some e0 => exact ⟨st, .inl rfl, .same (one _ _ (h _ _)) rfl rfl⟩
    | none => exact ⟨_, .inr ⟨false, rfl⟩, .same (.write _ List.not_mem_nil (h _ _) .refl) rfl rfl⟩
  | attach s id oid path prio =>
    have hc : ∀ c : Bool, Moves W cls [] st (if c then { st with unmodelled := true } else st) := fun c => by
      cases c
      · exact .refl
      · exact .same .refl rfl rfl
    exact ⟨st, .inl rfl, .write id List.not_mem_nil (h _) (hc _)⟩
  | mark s id now =>
    refine ⟨st, .inl rfl, ?_⟩
    show Moves W cls [] st (markChanged st s id now)
    rw [markChanged]
    cases st.get? id with
    | none => exact .refl
    | some _ => exact .same (one _ _ (h _)) rfl rfl
  | punt id => exact ⟨st, .inl rfl, one _ _ (h _)⟩
  | setprio id v => exact ⟨st, .inl rfl, one _ _ (h _)⟩
  | clear s id => exact ⟨st, .inl rfl, one _ _ h⟩
  | setaged s id => exact ⟨st, .inl rfl, one _ _ h⟩
  | syncpath s id p => exact ⟨st, .inl rfl, one _ _ h⟩
  | finished id => exact h.elim
  | fill orc now =>
    have m := Moves.foldl (W := W) (cls := cls) (skip := [])
      (fun acc id => acc.withE id (fun e => fillEntryA acc.punt now (orc id false) (orc id true) e))
      (fun a x => .write x List.not_mem_nil (h a.punt x) .refl) st.pending st
    refine ⟨st, .inl rfl, ?_⟩
    show Moves W cls [] st (fillIn orc now st)
    rw [fillIn]
    split
    · exact .same m rfl rfl
    · exact m
  | updateDir cls' oip s oid prior path now =>
    obtain ⟨rfl, hW, h0⟩ := h
    have run : ∀ (st0 : St) (id fuel : Nat), Moves W cls' [] st0
        ((changePath cls' oip fuel [] (st0.withE id (fun e => setOidA (e.setSide s { e.side s with dir := true }) s oid))
          id s path).withE id (fun e =>
            let e3 := e.setSide s { e.side s with
              ex := if (e.side s).ex == .trashed || (e.side s).ex == .likelyTrashed then .likelyTrashed else .exists }
            if now != 0 then markA st.last now e3 s else (e3, []))) := fun st0 id fuel => by
      refine .write id List.not_mem_nil (hW.tail s _ fun e => ?_) ((Moves.refl.write id List.not_mem_nil (hW.mkDir s oid)).trans
        (changePath_moves hW oip fuel [] [] _ id s path (fun _ h => nomatch h) List.not_mem_nil h0))
      dsimp only
      split
      · exact (Wr.refl.ex _).seq (f := fun e => markA st.last now e s) (markA_wr _ _ _ _)
      · exact Wr.refl.ex _
    show ∃ st0, Grown st st0 ∧ Moves W cls' [] st0 (opUpdateDir cls' oip st s oid prior path now).1
    rw [opUpdateDir]
    cases dirTarget st s oid prior with
    | some e0 => exact ⟨st, .inl rfl, .same (run st e0.id _) rfl rfl⟩
    | none => exact ⟨_, .inr ⟨true, rfl⟩, .same (run _ _ _) rfl rfl⟩

theorem Op.writesIn_pres (op : Op) : (∃ id, op = .finished id) ∨ ∃ cls, op.writesIn Pres cls := by
  cases op with
  | update s oid path prio now => exact .inr ⟨fun _ _ => 0, fun p last => pres_updateA p last now s oid path prio⟩
  | attach s id oid path prio =>
    exact .inr ⟨fun _ _ => 0, fun p => pres_seq (pres_setOidA s oid) (pres_setPathA p s path prio)⟩
  | mark s id now => exact .inr ⟨fun _ _ => 0, fun last => pres_markA last now s⟩
  | punt id => exact .inr ⟨fun _ _ => 0, fun p e => pres_setPriorityA p _ e⟩
  | setprio id v => exact .inr ⟨fun _ _ => 0, fun p => pres_setPriorityA p v⟩
  | clear s id => exact .inr ⟨fun _ _ => 0, pres_setChangedA s _⟩
  | setaged s id => exact .inr ⟨fun _ _ => 0, pres_setChangedA s _⟩
  | syncpath s id p => exact .inr ⟨fun _ _ => 0, pres_rawSyncPath s p⟩
  | finished id => exact .inl ⟨id, rfl⟩
  | fill orc now => exact .inr ⟨fun _ _ => 0, fun p id => pres_fillEntryA p now _ _⟩
  | updateDir cls oip s oid prior path now =>
    exact .inr ⟨cls, rfl, folderWrites_pres, fun _ => pres_rawPath s path⟩

end CS.Sched
