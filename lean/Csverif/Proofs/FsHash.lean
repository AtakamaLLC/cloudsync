import Csverif.Model.FsHash
/- `fastInput`: the bytes `_fast_hash_data` digests (first and last 1024).  Up to 2048 bytes the two pieces tile the data
   exactly, so `fastInput bs = bs`.  `hashData` and a fresh `fastHashPath` return the digest of the whole data: up to 1024
   bytes because the quick hash covers it, above that because the code then digests everything itself. -/
namespace CS.FsHash

variable {B Hh : Type}

def fastInput (bs : List B) : List B :=
  bs.take 1024 ++ (if bs.length > 1024 then bs.drop (bs.length - min 1024 (bs.length - 1024)) else [])

theorem fastHashData_fst (D : List B → Hh) (bs : List B) : (fastHashData D bs).1 = D (fastInput bs) := rfl

theorem fastHashData_final (D : List B → Hh) (bs : List B) :
    (fastHashData D bs).2 = decide (bs.length ≤ 1024) := by
  simp only [fastHashData]
  by_cases h : bs.length > 1024
  · simp only [h, if_true]
    have : ¬ bs.length ≤ 1024 := by omega
    simp only [this, decide_false, List.isEmpty_eq_false_iff, ne_eq, List.drop_eq_nil_iff]
    omega
  · have : bs.length ≤ 1024 := by omega
    simp [h, this]

theorem fastInput_short (bs : List B) (h : bs.length ≤ 2048) : fastInput bs = bs := by
  unfold fastInput
  by_cases h1 : bs.length > 1024
  · have : bs.length - min 1024 (bs.length - 1024) = 1024 := by omega
    simp [h1, this]
  · have : bs.length ≤ 1024 := by omega
    simp [h1, List.take_of_length_le this]

theorem fastInput_length_long (bs : List B) (h : bs.length > 2048) : (fastInput bs).length = 2048 := by
  unfold fastInput
  have h1 : bs.length > 1024 := by omega
  simp only [h1, if_true, List.length_append, List.length_take, List.length_drop]
  omega

theorem quick_or_digest (D : List B → Hh) (bs : List B) :
    (if (fastHashData D bs).2 then (fastHashData D bs).1 else D bs) = D bs := by
  simp only [fastHashData_final, fastHashData_fst]
  by_cases h : bs.length ≤ 1024
  · simp [h, fastInput_short bs (by omega)]
  · simp [h]

theorem hashData_eq_digest (D : List B → Hh) (bs : List B) : hashData D bs = D bs := by
  rw [← quick_or_digest D bs, hashData]
  cases (fastHashData D bs).2 <;> rfl

theorem fastHashPath_fresh [DecidableEq Hh] (D : List B → Hh) (m : Nat) (bs : List B) :
    (fastHashPath D CacheEnt.fresh m bs).2 = D bs :=
  quick_or_digest D bs

end CS.FsHash
