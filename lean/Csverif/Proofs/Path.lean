import Csverif.Model.Path
/-
A path is read through its components `C c p` (alternate separators replaced, split at the separator,
empty fields dropped); `canon c.sep l` is the canonical string with components `l`, and `nrm_eq`,
`normalizePath_false_form`, `normalizePath_true_form` say that normalisation is `canon` of the (folded)
components.  The laws of `join`, `split`, `isSubpath` are then statements about component lists.
-/
namespace CS.Path

theorem map_eq_self {α} {g : α → α} {l : List α} (h : ∀ x ∈ l, g x = x) : l.map g = l := by
  simpa using List.map_congr_left (g := id) h

theorem concat_cases {α} {P : List α → Prop} (nil : P []) (concat : ∀ init a, P (init ++ [a])) (l : List α) :
    P l := by
  rcases List.eq_nil_or_concat l with rfl | ⟨init, a, rfl⟩
  · exact nil
  · exact List.concat_eq_append ▸ concat init a

theorem getLast?_ne_of_not_mem {α} {sep : α} {f : List α} (h : sep ∉ f) : f.getLast? ≠ some sep :=
  fun e => h (List.mem_of_getLast? e)

theorem head?_ne_of_not_mem {α} {sep : α} {f : List α} (h : sep ∉ f) : f.head? ≠ some sep :=
  fun e => h (List.mem_of_head? e)

theorem getLast?_append_cons_ne {α} {sep : α} {l : List α} (hl : l.getLast? ≠ some sep) (hne : l ≠ [])
    (p : List α) (x : α) : (p ++ x :: l).getLast? ≠ some sep := by
  obtain ⟨y, hy⟩ := Option.isSome_iff_exists.1 (List.getLast?_isSome.2 hne)
  rwa [List.append_cons, List.getLast?_append, hy, Option.some_or, ← hy]

theorem lstrip_eq_dropWhile (c : Char) (s : Str) : lstrip c s = s.dropWhile (· == c) := by
  induction s with
  | nil => rfl
  | cons x xs ih => simp only [lstrip, List.dropWhile_cons, ih]

theorem rstrip_eq_reverse (c : Char) (s : Str) : rstrip c s = (lstrip c s.reverse).reverse := by
  induction s with
  | nil => rfl
  | cons x xs ih =>
    simp only [rstrip, ih, lstrip_eq_dropWhile, List.reverse_cons, List.dropWhile_append, List.isEmpty_reverse]
    by_cases h : x = c <;> cases (List.dropWhile (· == c) xs.reverse) <;> simp [h]

theorem lstrip_spec (c : Char) (s : Str) : ∃ k, s = List.replicate k c ++ lstrip c s := by
  induction s with
  | nil => exact ⟨0, rfl⟩
  | cons x xs ih =>
    obtain ⟨k, hk⟩ := ih
    rw [lstrip]
    split
    · rename_i h
      exact ⟨k + 1, by rw [eq_of_beq h, List.replicate_succ, List.cons_append, ← hk]⟩
    · exact ⟨0, rfl⟩

theorem rstrip_spec (c : Char) (s : Str) : ∃ k, s = rstrip c s ++ List.replicate k c := by
  obtain ⟨k, hk⟩ := lstrip_spec c s.reverse
  exact ⟨k, by rw [rstrip_eq_reverse, ← List.reverse_replicate, ← List.reverse_append, ← hk, List.reverse_reverse]⟩

theorem lstrip_head? (c : Char) (s : Str) : (lstrip c s).head? ≠ some c := by
  intro h
  have := List.head?_dropWhile_not (· == c) s
  rw [← lstrip_eq_dropWhile, h] at this
  simp at this

theorem rstrip_getLast? (c : Char) (s : Str) : (rstrip c s).getLast? ≠ some c := by
  rw [rstrip_eq_reverse, List.getLast?_reverse]
  exact lstrip_head? c _

theorem lstrip_eq_self (c : Char) (s : Str) (h : s.head? ≠ some c) : lstrip c s = s := by
  rw [lstrip_eq_dropWhile, List.dropWhile_beq_eq_self_of_head?_ne h]

theorem rstrip_eq_self (c : Char) (s : Str) (h : s.getLast? ≠ some c) : rstrip c s = s := by
  rw [rstrip_eq_reverse, lstrip_eq_self c _ (by simpa using h), List.reverse_reverse]

theorem rstrip_idem (c : Char) (s : Str) : rstrip c (rstrip c s) = rstrip c s :=
  rstrip_eq_self c _ (rstrip_getLast? c s)

theorem rstrip_append_of_ne (c x : Char) (a t : Str) (hx : x ≠ c) :
    rstrip c (a ++ x :: t) = a ++ x :: rstrip c t := by
  induction a with
  | nil => simp [rstrip, hx]
  | cons y ys ih => simp [rstrip, ih]

theorem strip_head? (c : Char) (s : Str) : (strip c s).head? ≠ some c := by
  have h := lstrip_head? c s
  rw [strip]
  generalize lstrip c s = t at h ⊢
  cases t with
  | nil => exact h
  | cons x xs =>
    rw [rstrip]
    split
    · simp
    · exact h

theorem strip_eq_self (c : Char) (s : Str) (h1 : s.head? ≠ some c) (h2 : s.getLast? ≠ some c) :
    strip c s = s := by
  rw [strip, lstrip_eq_self c s h1, rstrip_eq_self c s h2]

def prependHead (pre : Str) : List Str → List Str
  | [] => [pre]
  | f :: fs => (pre ++ f) :: fs

def splitAll (sep : Char) : Str → List Str
  | [] => [[]]
  | x :: xs => if x == sep then [] :: splitAll sep xs else prependHead [x] (splitAll sep xs)

def ne (l : List Str) : List Str := l.filter (fun s => !s.isEmpty)

def comps (sep : Char) (s : Str) : List Str := ne (splitAll sep s)

theorem ne_append (a b : List Str) : ne (a ++ b) = ne a ++ ne b := List.filter_append ..
@[simp] theorem ne_nil : ne [] = [] := rfl
@[simp] theorem ne_cons_nil (l : List Str) : ne ([] :: l) = ne l := rfl
theorem ne_cons_of_ne {s : Str} (h : s ≠ []) (l : List Str) : ne (s :: l) = s :: ne l := by
  cases s with
  | nil => exact absurd rfl h
  | cons x xs => rfl
theorem ne_cons (a : Str) (l : List Str) : ne (a :: l) = ne [a] ++ ne l := ne_append [a] l

theorem splitAll_eq_splitOn (sep : Char) (s : Str) : splitAll sep s = s.splitOn sep := by
  induction s with
  | nil => rfl
  | cons x xs ih =>
    rw [splitAll, List.splitOn_cons_eq_if_modifyHead, ih]
    cases h : xs.splitOn sep with
    | nil => exact absurd h (List.splitOn_ne_nil sep xs)
    | cons f fs => rfl

theorem splitAll_cons_of_ne {sep x : Char} (hx : x ≠ sep) (xs : Str) :
    ∃ f fs, splitAll sep xs = f :: fs ∧ splitAll sep (x :: xs) = (x :: f) :: fs := by
  cases h : splitAll sep xs with
  | nil => exact absurd (splitAll_eq_splitOn sep xs ▸ h) (List.splitOn_ne_nil sep xs)
  | cons f fs => exact ⟨f, fs, rfl, by simp [splitAll, hx, h, prependHead]⟩

theorem comps_append_sep (sep : Char) (a b : Str) :
    comps sep (a ++ sep :: b) = comps sep a ++ comps sep b := by
  simp only [comps, splitAll_eq_splitOn, List.splitOn_append_cons_self, ne_append]

@[simp] theorem comps_nil (sep : Char) : comps sep [] = [] := rfl

@[simp] theorem comps_sep_cons (sep : Char) (s : Str) : comps sep (sep :: s) = comps sep s := by
  simp [comps, splitAll]

theorem comps_replicate_append (sep : Char) (k : Nat) (s : Str) :
    comps sep (List.replicate k sep ++ s) = comps sep s := by
  induction k with
  | zero => rfl
  | succ k ih => simp [List.replicate_succ, ih]

theorem comps_append_replicate (sep : Char) (k : Nat) (s : Str) :
    comps sep (s ++ List.replicate k sep) = comps sep s := by
  cases k with
  | zero => simp
  | succ k =>
    rw [List.replicate_succ, comps_append_sep, ← List.append_nil (List.replicate k sep),
      comps_replicate_append, comps_nil, List.append_nil]

theorem comps_rstrip (sep : Char) (s : Str) : comps sep (rstrip sep s) = comps sep s := by
  obtain ⟨k, hk⟩ := rstrip_spec sep s
  conv => rhs; rw [hk, comps_append_replicate]

theorem comps_lstrip (sep : Char) (s : Str) : comps sep (lstrip sep s) = comps sep s := by
  obtain ⟨k, hk⟩ := lstrip_spec sep s
  conv => rhs; rw [hk, comps_replicate_append]

theorem comps_strip (sep : Char) (s : Str) : comps sep (strip sep s) = comps sep s := by
  rw [strip, comps_rstrip, comps_lstrip]

theorem comps_of_not_mem (sep : Char) (s : Str) (h : sep ∉ s) (hs : s ≠ []) : comps sep s = [s] := by
  rw [comps, splitAll_eq_splitOn, List.splitOn_eq_singleton h, ne_cons_of_ne hs]; rfl

theorem mem_splitAll (sep : Char) (s : Str) : ∀ f ∈ splitAll sep s, sep ∉ f ∧ f ⊆ s := by
  induction s with
  | nil => simp [splitAll]
  | cons x xs ih =>
    have tl f (hf : f ∈ splitAll sep xs) : sep ∉ f ∧ f ⊆ x :: xs :=
      ⟨(ih f hf).1, List.subset_cons_of_subset _ (ih f hf).2⟩
    by_cases hx : x = sep
    · rw [splitAll, if_pos (beq_iff_eq.2 hx), List.forall_mem_cons]
      exact ⟨⟨List.not_mem_nil, List.nil_subset _⟩, tl⟩
    · obtain ⟨g, gs, h1, h2⟩ := splitAll_cons_of_ne hx xs
      rw [h1, List.forall_mem_cons] at tl ih
      rw [h2, List.forall_mem_cons]
      exact ⟨⟨by simp [ih.1.1, Ne.symm hx], List.cons_subset_cons _ ih.1.2⟩, tl.2⟩

theorem mem_comps {sep : Char} {s f : Str} (h : f ∈ comps sep s) : f ≠ [] ∧ sep ∉ f ∧ f ⊆ s := by
  rw [comps, ne, List.mem_filter] at h
  exact ⟨by simpa using h.2, mem_splitAll _ _ f h.1⟩

theorem comps_intercalate (sep : Char) (n : List Str) :
    comps sep (intercalate sep n) = n.flatMap (comps sep) := by
  induction n with
  | nil => rfl
  | cons p rest ih =>
    cases rest with
    | nil => simp [intercalate]
    | cons q rest => rw [intercalate, comps_append_sep, ih]; rfl

theorem intercalate_eq (sep : Char) (l : List Str) : intercalate sep l = [sep].intercalate l := by
  induction l with
  | nil => rfl
  | cons p rest ih =>
    cases rest with
    | nil => simp [intercalate, List.intercalate]
    | cons q rest => simp [intercalate, ih, List.intercalate]

theorem intercalate_splitAll (sep : Char) (s : Str) : intercalate sep (splitAll sep s) = s := by
  rw [intercalate_eq, splitAll_eq_splitOn, List.intercalate_splitOn]

def canon (sep : Char) (l : List Str) : Str := sep :: intercalate sep l

/-- `canon` without the special case of the root (`[]` gives the empty string): what further components are appended to -/
def stem (sep : Char) (l : List Str) : Str := l.flatMap (sep :: ·)

theorem canon_eq_stem {sep : Char} {l : List Str} (hl : l ≠ []) : canon sep l = stem sep l := by
  induction l with
  | nil => exact absurd rfl hl
  | cons p rest ih =>
    cases rest with
    | nil => simp [canon, intercalate, stem]
    | cons q rest => simpa [canon, intercalate, stem] using ih (List.cons_ne_nil _ _)

theorem canon_append (sep : Char) (a : List Str) {b : List Str} (hb : b ≠ []) :
    canon sep (a ++ b) = stem sep a ++ canon sep b := by
  rw [canon_eq_stem (by simp [hb]), canon_eq_stem hb, stem, List.flatMap_append]
  rfl

theorem length_le_stem (sep : Char) (l : List Str) : l.length ≤ (stem sep l).length := by
  induction l with
  | nil => exact Nat.le_refl _
  | cons f fs ih =>
    simp only [stem, List.flatMap_cons, List.length_append, List.length_cons] at ih ⊢
    omega

theorem mem_canon {sep x : Char} (hx : x ≠ sep) (l : List Str) : x ∈ canon sep l ↔ ∃ f ∈ l, x ∈ f := by
  cases l with
  | nil => simp [canon, intercalate, hx]
  | cons p rest => simp [canon_eq_stem (List.cons_ne_nil p rest), stem, hx]

def GoodComps (sep : Char) (l : List Str) : Prop := ∀ f ∈ l, f ≠ [] ∧ sep ∉ f

theorem goodComps_comps (sep : Char) (s : Str) : GoodComps sep (comps sep s) :=
  fun _ hf => ⟨(mem_comps hf).1, (mem_comps hf).2.1⟩

theorem ne_of_good {sep : Char} {l : List Str} (h : GoodComps sep l) : ne l = l :=
  List.filter_eq_self.2 fun f hf => by simpa using (h f hf).1

theorem comps_canon (sep : Char) (l : List Str) (h : GoodComps sep l) :
    comps sep (canon sep l) = l := by
  rw [canon, comps_sep_cons, comps_intercalate]
  induction l with
  | nil => rfl
  | cons f fs ih =>
    rw [List.flatMap_cons, comps_of_not_mem sep f (h f (.head _)).2 (h f (.head _)).1,
      ih fun g hg => h g (.tail _ hg)]
    rfl

theorem mem_intercalate {sep x : Char} {l : List Str} (h : x ∈ intercalate sep l) :
    x = sep ∨ ∃ f ∈ l, x ∈ f :=
  (Decidable.em (x = sep)).imp_right fun hx => (mem_canon hx l).1 (List.mem_cons_of_mem _ h)

theorem mem_comps_of_mem {sep x : Char} {s : Str} (hx : x ∈ s) (hne : x ≠ sep) : ∃ f ∈ comps sep s, x ∈ f := by
  rw [← intercalate_splitAll sep s] at hx
  obtain ⟨f, hf, hxf⟩ := (mem_intercalate hx).resolve_left hne
  exact ⟨f, List.mem_filter.2 ⟨hf, by simpa using List.ne_nil_of_mem hxf⟩, hxf⟩

/-- Props/C13.lean states its theorems with `Cfg.WF`, declared there with the same four fields (`Cfg.WF.ok` converts); the
    provider and cache layers use this one. -/
structure Cfg.Ok (c : Cfg) : Prop where
  alt_ne_sep : ∀ a, c.alt = some a → a ≠ c.sep
  lower_idem : ∀ x, c.lower (c.lower x) = c.lower x
  lower_sep  : ∀ x, c.lower x = c.sep ↔ x = c.sep
  noWin      : c.win = false

def LowerAltOk (c : Cfg) : Prop := ∀ a, c.alt = some a → ∀ x, c.lower x = a → x = a

theorem prependHead_map (g : Char → Char) (pre : Str) (l : List Str) :
    (prependHead pre l).map (List.map g) = prependHead (pre.map g) (l.map (List.map g)) := by
  cases l <;> simp [prependHead]

theorem splitAll_map (sep : Char) (g : Char → Char) (hg : ∀ x, g x = sep ↔ x = sep) (s : Str) :
    splitAll sep (s.map g) = (splitAll sep s).map (List.map g) := by
  induction s with
  | nil => rfl
  | cons x xs ih =>
    by_cases hx : x = sep
    · simp [splitAll, hx, (hg sep).2 rfl, ih]
    · simp [splitAll, hx, mt (hg x).1 hx, ih, prependHead_map]

theorem ne_map (g : Char → Char) (l : List Str) : ne (l.map (List.map g)) = (ne l).map (List.map g) := by
  simp [ne, List.filter_map, Function.comp_def]

theorem comps_map (sep : Char) (g : Char → Char) (hg : ∀ x, g x = sep ↔ x = sep) (s : Str) :
    comps sep (s.map g) = (comps sep s).map (List.map g) := by
  rw [comps, splitAll_map sep g hg, ne_map]; rfl

theorem stem_map (sep : Char) (g : Char → Char) (l : List Str) :
    (stem sep l).map g = stem (g sep) (l.map (List.map g)) := by
  simp [stem, List.map_flatMap, List.flatMap_map]

theorem canon_map (sep : Char) (g : Char → Char) (hg : g sep = sep) (l : List Str) :
    (canon sep l).map g = canon sep (l.map (List.map g)) := by
  cases l with
  | nil => simp [canon, intercalate, hg]
  | cons p rest =>
    rw [canon_eq_stem (List.cons_ne_nil _ _), stem_map, hg, List.map_cons, canon_eq_stem (List.cons_ne_nil _ _)]

def cfold (c : Cfg) (x : Char) : Char := if c.cs then x else c.lower x

def fold (c : Cfg) (s : Str) : Str := s.map (cfold c)

theorem fold_eq (c : Cfg) (s : Str) : (if c.cs then s else lowerStr c s) = fold c s := by
  unfold fold cfold lowerStr
  cases c.cs <;> simp

theorem cfold_sep {c : Cfg} (h : c.Ok) (x : Char) : cfold c x = c.sep ↔ x = c.sep := by
  unfold cfold; cases c.cs <;> simp [h.lower_sep]

theorem cfold_idem {c : Cfg} (h : c.Ok) (x : Char) : cfold c (cfold c x) = cfold c x := by
  unfold cfold; cases c.cs <;> simp [h.lower_idem]

theorem lower_sep_self {c : Cfg} (h : c.Ok) : c.lower c.sep = c.sep := (h.lower_sep _).2 rfl

@[simp] theorem fold_length (c : Cfg) (s : Str) : (fold c s).length = s.length := List.length_map ..

theorem fold_append (c : Cfg) (a b : Str) : fold c (a ++ b) = fold c a ++ fold c b := List.map_append ..
theorem fold_cons (c : Cfg) (x : Char) (b : Str) : fold c (x :: b) = cfold c x :: fold c b := rfl

theorem fold_eq_sep {c : Cfg} (h : c.Ok) {s : Str} (hs : fold c s = [c.sep]) : s = [c.sep] := by
  obtain ⟨x, rfl, hx⟩ := List.map_eq_singleton_iff.1 hs
  rw [(cfold_sep h x).1 hx]

theorem fold_idem {c : Cfg} (h : c.Ok) (s : Str) : fold c (fold c s) = fold c s := by
  simp [fold, cfold_idem h]

theorem fold_canon {c : Cfg} (h : c.Ok) (l : List Str) : fold c (canon c.sep l) = canon c.sep (l.map (fold c)) :=
  canon_map _ _ ((cfold_sep h _).2 rfl) l

theorem fold_stem {c : Cfg} (h : c.Ok) (l : List Str) : fold c (stem c.sep l) = stem c.sep (l.map (fold c)) := by
  rw [fold, stem_map, (cfold_sep h _).2 rfl]
  rfl

def replaceAlt (c : Cfg) (p : Str) : Str :=
  match c.alt with
  | some a => replaceChar a c.sep p
  | none => p

def AltFree (c : Cfg) (s : Str) : Prop := ∀ a, c.alt = some a → a ∉ s

def C (c : Cfg) (p : Str) : List Str := comps c.sep (replaceAlt c p)

theorem replaceAlt_eq_map (c : Cfg) (p : Str) :
    replaceAlt c p = p.map fun x => if c.alt = some x then c.sep else x := by
  unfold replaceAlt
  cases c.alt with
  | none => simp
  | some a => exact List.map_congr_left fun x _ => by simp [eq_comm (a := a)]

@[simp] theorem normSeps_nil (c : Cfg) : normSeps c [] = [] := rfl

@[simp] theorem replaceAlt_nil (c : Cfg) : replaceAlt c [] = [] := by simp [replaceAlt_eq_map]

theorem replaceAlt_append (c : Cfg) (a b : Str) :
    replaceAlt c (a ++ b) = replaceAlt c a ++ replaceAlt c b := by simp [replaceAlt_eq_map]

theorem replaceAlt_cons (c : Cfg) (x : Char) (s : Str) :
    replaceAlt c (x :: s) = (if c.alt = some x then c.sep else x) :: replaceAlt c s := by
  simp [replaceAlt_eq_map]

theorem replaceAlt_eq_nil {c : Cfg} {s : Str} : replaceAlt c s = [] ↔ s = [] := by
  simp [replaceAlt_eq_map]

theorem replaceAlt_of_altFree {c : Cfg} {s : Str} (h : AltFree c s) : replaceAlt c s = s := by
  rw [replaceAlt_eq_map]
  exact map_eq_self fun x hx => if_neg fun e => h x e hx

theorem mem_replaceAlt {c : Cfg} {p : Str} {x : Char} (hx : x ∈ replaceAlt c p) : x = c.sep ∨ x ∈ p := by
  rw [replaceAlt_eq_map, List.mem_map] at hx
  obtain ⟨y, hy, rfl⟩ := hx
  split
  · exact .inl rfl
  · exact .inr hy

theorem altFree_replaceAlt {c : Cfg} (h : c.Ok) (s : Str) : AltFree c (replaceAlt c s) := by
  intro a ha hm
  rw [replaceAlt_eq_map, List.mem_map] at hm
  obtain ⟨x, _, hx⟩ := hm
  split at hx
  · exact h.alt_ne_sep a ha hx.symm
  · exact absurd (hx ▸ ha) ‹_›

theorem AltFree.mono {c : Cfg} {s t : Str} (h : AltFree c s) (hs : t ⊆ s) : AltFree c t :=
  fun a ha hm => h a ha (hs hm)

theorem altFree_nil (c : Cfg) : AltFree c [] := fun _ _ => List.not_mem_nil

theorem altFree_iff {c : Cfg} {s : Str} : AltFree c s ↔ ∀ x ∈ s, c.alt ≠ some x :=
  ⟨fun h x hx e => h x e hx, fun h a ha hm => h a hm ha⟩

theorem altFree_append {c : Cfg} {s t : Str} : AltFree c (s ++ t) ↔ AltFree c s ∧ AltFree c t := by
  simp only [altFree_iff, List.forall_mem_append]

theorem altFree_cons {c : Cfg} {x : Char} {s : Str} :
    AltFree c (x :: s) ↔ c.alt ≠ some x ∧ AltFree c s := by
  simp only [altFree_iff, List.forall_mem_cons]

theorem altFree_sep {c : Cfg} (h : c.Ok) : c.alt ≠ some c.sep := fun e => h.alt_ne_sep _ e rfl

theorem altFree_of_comps {c : Cfg} (h : c.Ok) {s : Str} (hs : ∀ f ∈ comps c.sep s, AltFree c f) :
    AltFree c s := fun a ha hm =>
  have ⟨f, hf, hx⟩ := mem_comps_of_mem hm (h.alt_ne_sep a ha)
  hs f hf a ha hx

def Comps (c : Cfg) (l : List Str) : Prop := GoodComps c.sep l ∧ ∀ f ∈ l, AltFree c f

theorem comps_C' {c : Cfg} (h : c.Ok) (p : Str) : Comps c (C c p) :=
  ⟨goodComps_comps _ _, fun _ hf => (altFree_replaceAlt h p).mono (mem_comps hf).2.2⟩

theorem normSeps_eq (c : Cfg) (p : Str) :
    normSeps c p = if replaceAlt c p = [c.sep] then [c.sep] else rstrip c.sep (replaceAlt c p) := by
  cases p with
  | nil => simp [rstrip]
  | cons x xs =>
    simp only [normSeps, replaceAlt, List.isEmpty_cons, Bool.false_eq_true, if_false, beq_iff_eq]
    split <;> simp_all

theorem normSeps_shape (c : Cfg) (p : Str) :
    normSeps c p = [c.sep] ∨ (normSeps c p).getLast? ≠ some c.sep := by
  rw [normSeps_eq]
  split
  · exact .inl rfl
  · exact .inr (rstrip_getLast? _ _)

theorem normSeps_eq_self {c : Cfg} {s : Str} (ha : AltFree c s)
    (hs : s = [c.sep] ∨ s.getLast? ≠ some c.sep) : normSeps c s = s := by
  rw [normSeps_eq, replaceAlt_of_altFree ha]
  split
  · exact .symm ‹_›
  · exact rstrip_eq_self _ _ (hs.resolve_left ‹_›)

theorem comps_normSeps (c : Cfg) (p : Str) : comps c.sep (normSeps c p) = C c p := by
  rw [normSeps_eq, C]
  split
  · rw [‹replaceAlt c p = _›]
  · exact comps_rstrip _ _

theorem normSeps_altFree {c : Cfg} (h : c.Ok) (p : Str) : AltFree c (normSeps c p) :=
  altFree_of_comps h fun f hf => (comps_C' h p).2 f (comps_normSeps c p ▸ hf)

theorem normSeps_idem' {c : Cfg} (h : c.Ok) (p : Str) : normSeps c (normSeps c p) = normSeps c p :=
  normSeps_eq_self (normSeps_altFree h p) (normSeps_shape c p)

theorem stripList_cons (c : Cfg) (p : Str) (rest : List Str) :
    stripList c (p :: rest) = ne (rstrip c.sep p :: rest.map (strip c.sep)) := by
  rw [stripList, ne_cons]
  cases rstrip c.sep p <;> rfl

theorem join_def (c : Cfg) (hw : c.win = false) (ps : List Str) :
    join c ps = addLead c (intercalate c.sep (stripList c (normList c ps))) := by
  simp only [join, hw]
  cases stripList c (normList c ps) <;> rfl

theorem comps_addLead (c : Cfg) (j : Str) : comps c.sep (addLead c j) = comps c.sep j := by
  unfold addLead
  split
  · simp
  · split <;> simp

theorem flatMap_comps_ne (sep : Char) (l : List Str) :
    (ne l).flatMap (comps sep) = l.flatMap (comps sep) := by
  induction l with
  | nil => rfl
  | cons f fs ih =>
    cases f with
    | nil => exact ih
    | cons x xs => rw [ne_cons_of_ne (List.cons_ne_nil _ _), List.flatMap_cons, List.flatMap_cons, ih]

theorem flatMap_comps_stripList (c : Cfg) (l : List Str) :
    (stripList c l).flatMap (comps c.sep) = l.flatMap (comps c.sep) := by
  cases l with
  | nil => rfl
  | cons p rest => simp [stripList_cons, flatMap_comps_ne, List.flatMap_map, comps_rstrip, comps_strip]

theorem comps_join (c : Cfg) (hw : c.win = false) (ps : List Str) :
    comps c.sep (join c ps) = ps.flatMap (C c) := by
  rw [join_def c hw, comps_addLead, comps_intercalate, flatMap_comps_stripList, normList, ← ne,
    flatMap_comps_ne, List.flatMap_map]
  simp only [comps_normSeps]

/-- Outside a run of separators the accumulator is the unfinished first field; inside a run a fresh field starts, and the
    empty fields the two splitters place differently are dropped by `ne`. -/
theorem ne_reSplitRuns_go (sep : Char) (xs : Str) :
    (∀ cur, ne (reSplitRuns.go sep cur false xs) = ne (prependHead cur.reverse (splitAll sep xs))) ∧
    ne (reSplitRuns.go sep [] true xs) = ne (splitAll sep xs) := by
  induction xs with
  | nil => simp [reSplitRuns.go, splitAll, prependHead]
  | cons x xs ih =>
    by_cases hx : x = sep
    · subst hx
      simp only [reSplitRuns.go, splitAll, beq_self_eq_true, if_true, prependHead, List.append_nil,
        Bool.false_eq_true, if_false, ne_cons_nil, ih.2, and_true]
      exact fun cur => by rw [ne_cons, ih.2, ← ne_cons]
    · obtain ⟨f, fs, h1, h2⟩ := splitAll_cons_of_ne hx xs
      simp only [reSplitRuns.go, h2, beq_iff_eq, hx, if_false, ih.1, h1, prependHead]
      simp

theorem ne_reSplitRuns (sep : Char) (q : Str) : ne (reSplitRuns sep q) = comps sep q := by
  rw [reSplitRuns, (ne_reSplitRuns_go sep q).1 [], comps]
  cases splitAll sep q <;> rfl

theorem strip_of_not_mem {sep : Char} {f : Str} (h : sep ∉ f) : strip sep f = f :=
  strip_eq_self _ _ (head?_ne_of_not_mem h) (getLast?_ne_of_not_mem h)

theorem stripList_good (c : Cfg) (l : List Str) (h : GoodComps c.sep l) : stripList c l = l := by
  cases l with
  | nil => rfl
  | cons p rest =>
    rw [stripList_cons, rstrip_eq_self _ _ (getLast?_ne_of_not_mem (h p (.head _)).2),
      map_eq_self fun f hf => strip_of_not_mem (h f (.tail _ hf)).2, ne_of_good h]

theorem addLead_intercalate_good (c : Cfg) (l : List Str) (h : GoodComps c.sep l) :
    addLead c (intercalate c.sep l) = canon c.sep l := by
  match l, h with
  | [], _ => rfl
  | [] :: _, h => exact absurd rfl (h [] (.head _)).1
  | (x :: xs) :: rest, h =>
    have hx : x ≠ c.sep := fun e => (h _ (.head _)).2 (e ▸ .head _)
    cases rest <;> simp [intercalate, addLead, canon, hx]

theorem normSeps_of_sepFree {c : Cfg} {f : Str} (ha : AltFree c f) (hs : c.sep ∉ f) : normSeps c f = f :=
  normSeps_eq_self ha (.inr (getLast?_ne_of_not_mem hs))

theorem join_good {c : Cfg} (h : c.Ok) (l : List Str) (hg : GoodComps c.sep l)
    (ha : ∀ f ∈ l, AltFree c f) : join c l = canon c.sep l := by
  rw [join_def c h.noWin, normList, map_eq_self fun f hf => normSeps_of_sepFree (ha f hf) (hg f hf).2,
    ← ne, ne_of_good hg, stripList_good c l hg, addLead_intercalate_good c l hg]

theorem normList_ne (c : Cfg) (ps : List Str) : normList c (ne ps) = normList c ps := by
  induction ps with
  | nil => rfl
  | cons f fs ih =>
    cases f with
    | nil => exact ih
    | cons x xs =>
      rw [ne_cons_of_ne (List.cons_ne_nil _ _)]
      simp only [normList, List.map_cons, List.filter_cons] at ih ⊢
      rw [ih]

theorem join_ne (c : Cfg) (ps : List Str) : join c (ne ps) = join c ps := by
  simp only [join, normList_ne]

/-- the case-sensitive normal form -/
def nrm (c : Cfg) (p : Str) : Str := join c (reSplitRuns c.sep (normSeps c p))

theorem nrm_eq {c : Cfg} (h : c.Ok) (p : Str) : nrm c p = canon c.sep (C c p) := by
  rw [nrm, ← join_ne, ne_reSplitRuns, comps_normSeps]
  exact join_good h _ (comps_C' h p).1 (comps_C' h p).2

theorem normalizePath_false (c : Cfg) (p : Str) : normalizePath c p false = fold c (nrm c p) := by
  rw [← fold_eq]; simp only [normalizePath, nrm]; cases c.cs <;> rfl

theorem normalizePath_cs {c : Cfg} (hcs : c.cs = true) (p : Str) (fd : Bool) :
    normalizePath c p fd = nrm c p := by
  simp [normalizePath, nrm, hcs]

theorem normalizePath_true_def {c : Cfg} (hcs : c.cs = false) (p : Str) :
    normalizePath c p true = join c [lowerStr c (dirname c (nrm c p)), basename c (nrm c p)] := by
  simp [normalizePath, nrm, hcs]

theorem normalizePath_false_form {c : Cfg} (h : c.Ok) (p : Str) :
    normalizePath c p false = canon c.sep ((C c p).map (fold c)) := by
  rw [normalizePath_false, nrm_eq h, fold_canon h]

theorem C_of_altFree {c : Cfg} {s : Str} (h : AltFree c s) : C c s = comps c.sep s := by
  rw [C, replaceAlt_of_altFree h]

theorem C_normSeps {c : Cfg} (h : c.Ok) (p : Str) : C c (normSeps c p) = C c p := by
  rw [C_of_altFree (normSeps_altFree h p), comps_normSeps]

@[simp] theorem C_nil (c : Cfg) : C c [] = [] := by simp [C]

theorem C_append_sep {c : Cfg} (h : c.Ok) (a b : Str) : C c (a ++ c.sep :: b) = C c a ++ C c b := by
  simp only [C, replaceAlt_append, replaceAlt_cons, altFree_sep h, if_false, comps_append_sep]

theorem C_sep_cons {c : Cfg} (h : c.Ok) (b : Str) : C c (c.sep :: b) = C c b := by
  simpa using C_append_sep h [] b

theorem altFree_join {c : Cfg} (h : c.Ok) (ps : List Str) : AltFree c (join c ps) := by
  refine altFree_of_comps h fun f hf => ?_
  rw [comps_join c h.noWin] at hf
  obtain ⟨p, _, hfp⟩ := List.mem_flatMap.1 hf
  exact (comps_C' h p).2 f hfp

theorem C_join {c : Cfg} (h : c.Ok) (ps : List Str) : C c (join c ps) = ps.flatMap (C c) := by
  rw [C_of_altFree (altFree_join h ps), comps_join c h.noWin]

theorem pathsMatch_false_of {c : Cfg} (h : c.Ok) (a b : Str)
    (hab : (C c a).map (fold c) = (C c b).map (fold c)) :
    pathsMatch c (some a) (some b) false = true := by
  simp only [pathsMatch, normalizePath_false_form h, hab, beq_self_eq_true]

/-- the relative part as `join` sees it -/
def relPart (c : Cfg) (rel : Str) : Str := strip c.sep (normSeps c rel)

@[simp] theorem strip_nil (c : Char) : strip c [] = [] := rfl

theorem join_two {c : Cfg} (h : c.Ok) (f rel : Str) (hf : ∃ t, normSeps c f = c.sep :: t) :
    join c [f, rel] =
      if relPart c rel = [] then normSeps c f
      else rstrip c.sep (normSeps c f) ++ c.sep :: relPart c rel := by
  obtain ⟨t, hf⟩ := hf
  have hn : stripList c (normList c [f, rel]) = ne [rstrip c.sep (normSeps c f), relPart c rel] := by
    simp only [normList, List.map_cons, List.map_nil, hf, relPart]
    cases normSeps c rel <;> cases hF : rstrip c.sep (c.sep :: t) <;> simp [stripList_cons, hF, ne]
  have hF : rstrip c.sep (normSeps c f) = if t = [] then [] else normSeps c f := by
    split
    · simp [hf, ‹t = []›, rstrip]
    · exact rstrip_eq_self _ _ ((normSeps_shape c f).resolve_left fun e => ‹t ≠ []› (by simpa [hf] using e))
  have hh := strip_head? c.sep (normSeps c rel)
  rw [join_def c h.noWin, hn, hF, hf]
  by_cases ht : t = [] <;> cases hs : relPart c rel <;> simp_all [ne, intercalate, addLead, relPart]

theorem relPart_altFree {c : Cfg} (h : c.Ok) (rel : Str) : AltFree c (relPart c rel) :=
  altFree_of_comps h fun f hf => (comps_C' h rel).2 f (by rwa [relPart, comps_strip, comps_normSeps] at hf)

theorem C_relPart {c : Cfg} (h : c.Ok) (rel : Str) : C c (relPart c rel) = C c rel := by
  rw [C_of_altFree (relPart_altFree h rel), relPart, comps_strip, comps_normSeps]

/-- joining `isSubpath`'s answer `sep :: relPart c rel` back under the folder gives the same path as joining `rel` -/
theorem relPart_sep_cons {c : Cfg} (h : c.Ok) (rel : Str) :
    relPart c (c.sep :: relPart c rel) = relPart c rel := by
  have ha := altFree_cons.2 ⟨altFree_sep h, relPart_altFree h rel⟩
  have hh : (relPart c rel).head? ≠ some c.sep := strip_head? _ _
  have hl : (relPart c rel).getLast? ≠ some c.sep := rstrip_getLast? _ _
  generalize relPart c rel = r at *
  have hs : c.sep :: r = [c.sep] ∨ (c.sep :: r).getLast? ≠ some c.sep := by
    cases r with
    | nil => exact .inl rfl
    | cons x xs => exact .inr (getLast?_append_cons_ne hl (List.cons_ne_nil _ _) [] _)
  rw [relPart, normSeps_eq_self ha hs, strip, lstrip, if_pos (beq_self_eq_true _), ← strip,
    strip_eq_self _ _ hh hl]

theorem isPrefix_iff (a b : Str) : isPrefix a b = true ↔ a <+: b := by
  induction a generalizing b with
  | nil => simp [isPrefix]
  | cons x xs ih =>
    cases b with
    | nil => simp [isPrefix]
    | cons y ys => simp [isPrefix, ih, List.cons_prefix_cons]

theorem isSubpath_def (c : Cfg) (f t : Str) (strict : Bool) :
    isSubpath c f t strict =
      if f.isEmpty || t.isEmpty then .no else
      if fold c (normSeps c f) == fold c (normSeps c t) then (if strict then .no else .rel [c.sep])
      else if fold c (normSeps c f) == [c.sep] && isPrefix [c.sep] (fold c (normSeps c t)) then
        .rel (normSeps c t)
      else if (normSeps c t).length > (normSeps c f).length
          && (normSeps c t)[(normSeps c f).length]? == some c.sep then
        (if isPrefix (fold c (normSeps c f)) (fold c (normSeps c t)) then
          .rel ((normSeps c t).drop (normSeps c f).length) else .no)
      else .no := by
  unfold isSubpath; simp only [fold_eq]

/-- The three ways `isSubpath` answers `.rel r` for the separator-normalised folder `ff` and target `tf`. -/
inductive RelCase (c : Cfg) (ff tf : Str) (strict : Bool) (r : Str) : Prop
  | same (hs : strict = false) (he : fold c ff = fold c tf) (hr : r = [c.sep])
  | root (hne : fold c ff ≠ fold c tf) (he : fold c ff = [c.sep]) (w : Str) (hw : fold c tf = c.sep :: w) (hr : r = tf)
  | below (hne : fold c ff ≠ fold c tf) (u v : Str) (hp : tf = u ++ c.sep :: v) (he : fold c u = fold c ff)
      (hr : r = c.sep :: v)

theorem isSubpath_rel_inv {c : Cfg} {f t r : Str} {strict : Bool} (h : isSubpath c f t strict = .rel r) :
    RelCase c (normSeps c f) (normSeps c t) strict r := by
  rw [isSubpath_def] at h
  by_cases h0 : (f.isEmpty || t.isEmpty) = true
  · rw [if_pos h0] at h; cases h
  by_cases he : fold c (normSeps c f) = fold c (normSeps c t)
  · rw [if_neg h0, if_pos (beq_iff_eq.2 he)] at h
    cases strict <;> cases h
    exact .same rfl he rfl
  rw [if_neg h0, if_neg (mt eq_of_beq he)] at h
  split at h
  · rename_i hr
    cases h
    rw [Bool.and_eq_true, beq_iff_eq, isPrefix_iff] at hr
    exact .root he hr.1 _ (List.prefix_iff_eq_append.1 hr.2).symm rfl
  split at h
  · rename_i hl
    split at h
    · rename_i hp
      cases h
      rw [Bool.and_eq_true, decide_eq_true_eq, beq_iff_eq] at hl
      obtain ⟨hlt, hge⟩ := List.getElem?_eq_some_iff.1 hl.2
      rw [isPrefix_iff, List.prefix_iff_eq_take, fold_length] at hp
      have hd := List.drop_eq_getElem_cons hlt
      rw [hge] at hd
      exact .below he _ _ (by rw [← hd, List.take_append_drop]) (by rw [hp, fold, fold, List.map_take]) hd
    · cases h
  · cases h

theorem isSubpath_rel_ne_nil {c : Cfg} {f p r : Str} {strict : Bool}
    (h : isSubpath c f p strict = .rel r) : r ≠ [] := by
  rcases isSubpath_rel_inv h with ⟨_, _, rfl⟩ | ⟨_, _, w, hw, rfl⟩ | ⟨_, _, _, _, _, rfl⟩
  · nofun
  · intro e; rw [e] at hw; cases hw
  · nofun

theorem comps_fold {c : Cfg} (h : c.Ok) (s : Str) :
    comps c.sep (fold c s) = (comps c.sep s).map (fold c) :=
  comps_map c.sep (cfold c) (cfold_sep h) s

theorem isSubpath_rel_spec {c : Cfg} (h : c.Ok) {f p r : Str} {strict : Bool}
    (hr : isSubpath c f p strict = .rel r) :
    AltFree c r ∧ (C c f).map (fold c) ++ (comps c.sep r).map (fold c) = (C c p).map (fold c) := by
  rw [← comps_normSeps c f, ← comps_normSeps c p, ← comps_fold h (normSeps c f)]
  rcases isSubpath_rel_inv hr with ⟨_, he, rfl⟩ | ⟨_, he, _, _, rfl⟩ | ⟨_, u, v, hp, he, rfl⟩
  · rw [he, comps_fold h]
    exact ⟨altFree_cons.2 ⟨altFree_sep h, altFree_nil c⟩, by simp⟩
  · rw [he]
    exact ⟨normSeps_altFree h p, by simp⟩
  · have ha := normSeps_altFree h p
    rw [hp] at ha ⊢
    rw [← he, comps_fold h, comps_append_sep, comps_sep_cons, List.map_append]
    exact ⟨(altFree_append.1 ha).2, rfl⟩

/-- The folder enters stripped, so that the root (`rstrip` gives `[]`, `u = []`) needs no statement of its own; `r = []` is
    the "same path" answer, which `strict` suppresses. -/
theorem isSubpath_of_decomp {c : Cfg} (h : c.Ok) {f t u r : Str} {strict : Bool} (hf : f ≠ [])
    (ht : normSeps c t = u ++ c.sep :: r) (hu : fold c u = fold c (rstrip c.sep (normSeps c f)))
    (hr : r ≠ [] ∨ strict = false) : isSubpath c f t strict = .rel (c.sep :: r) := by
  have htne : t ≠ [] := fun e => by simp [e] at ht
  rw [isSubpath_def]
  rcases normSeps_shape c f with hs | hs
  · rw [hs] at hu ⊢
    obtain rfl : u = [] := by simpa [rstrip, fold] using hu
    rw [ht]
    cases r <;> simp_all [fold, (cfold_sep h _).2, isPrefix]
  · rw [rstrip_eq_self _ _ hs] at hu
    have hl : (normSeps c f).length = u.length := by simpa using (congrArg List.length hu).symm
    have h1 : fold c (normSeps c f) ≠ [c.sep] := fun e => by simp [fold_eq_sep h e] at hs
    have h2 x : isPrefix (fold c (normSeps c f)) (fold c (normSeps c f) ++ x) = true :=
      (isPrefix_iff _ _).2 (List.prefix_append _ _)
    -- `u` is as long as the folder (`hl`), so the index test `tf[ff.length]?` lands on the separator written in `ht`
    simp [hf, htne, ht, fold_append, fold_cons, hu, hl, h1, h2]

theorem isSubpath_join_gen {c : Cfg} (h : c.Ok) (f rel : Str) (hf : ∃ t, normSeps c f = c.sep :: t) :
    isSubpath c f (join c [f, rel]) false = .rel (c.sep :: relPart c rel) := by
  have hfne : f ≠ [] := fun e => by simp [e] at hf
  have hj := join_two h f rel hf
  obtain ⟨t, hf⟩ := hf
  by_cases hs : relPart c rel = []
  · rw [hs, if_pos rfl] at hj
    rw [hs, hj, isSubpath_def, normSeps_idem' h]
    simp [hfne, hf]
  · rw [if_neg hs] at hj
    refine isSubpath_of_decomp h hfne ?_ rfl (.inl hs)
    rw [← hj]
    refine normSeps_eq_self (altFree_join h _) (.inr ?_)
    rw [hj]
    exact getLast?_append_cons_ne (rstrip_getLast? _ _) hs _ _

theorem rfind_go_not_mem (ch : Char) (i : Nat) (best : Option Nat) (s : Str) (h : ch ∉ s) :
    rfind.go ch i best s = best := by
  induction s generalizing i best with
  | nil => rfl
  | cons x xs ih =>
    rw [List.mem_cons, not_or] at h
    rw [rfind.go, if_neg (by simpa using Ne.symm h.1), ih _ _ h.2]

theorem rfind_go_append (ch : Char) (i : Nat) (best : Option Nat) (pre a : Str) (h : ch ∉ a) :
    rfind.go ch i best (pre ++ ch :: a) = some (i + pre.length) := by
  induction pre generalizing i best with
  | nil => simp [rfind.go, rfind_go_not_mem _ _ _ _ h]
  | cons x xs ih => simp only [List.cons_append, rfind.go, ih, List.length_cons]; congr 1; omega

theorem last_occurrence (ch : Char) (s : Str) : ch ∉ s ∨ ∃ pre a, s = pre ++ ch :: a ∧ ch ∉ a := by
  by_cases h : ch ∈ s
  · obtain ⟨as, bs, e, hn⟩ := List.eq_append_cons_of_mem (List.mem_reverse.2 h)
    exact .inr ⟨bs.reverse, as.reverse, by simpa using congrArg List.reverse e, by simpa using hn⟩
  · exact .inl h

theorem split_of_not_mem (c : Cfg) (p : Str) (h : c.sep ∉ normSeps c p) : split c p = ([], normSeps c p) := by
  simp [split, rfind, rfind_go_not_mem _ _ _ _ h]

theorem split_of_decomp (c : Cfg) (p pre a : Str) (hq : normSeps c p = pre ++ c.sep :: a) (ha : c.sep ∉ a) :
    split c p = (if pre = [] then [c.sep] else pre, a) := by
  simp only [split, rfind, hq, rfind_go_append _ _ _ _ _ ha, Nat.zero_add]
  cases pre <;> simp

theorem split_C {c : Cfg} (h : c.Ok) (p : Str) : C c (split c p).1 ++ C c (split c p).2 = C c p := by
  rw [← C_normSeps h p]
  rcases last_occurrence c.sep (normSeps c p) with hs | ⟨pre, a, hq, ha⟩
  · simp [split_of_not_mem c p hs]
  · rw [split_of_decomp c p pre a hq ha, hq, C_append_sep h]
    split <;> simp [*, C_sep_cons h]

theorem basename_eq (c : Cfg) (p : Str) : basename c p = (C c p).getLast?.getD [] := by
  rw [basename, ← comps_normSeps]
  rcases last_occurrence c.sep (normSeps c p) with hs | ⟨pre, a, hq, ha⟩
  · rw [split_of_not_mem c p hs]
    by_cases hq : normSeps c p = []
    · simp [hq]
    · rw [comps_of_not_mem _ _ hs hq]; rfl
  · rw [split_of_decomp c p pre a hq ha, hq, comps_append_sep]
    by_cases ha0 : a = []
    · -- a trailing separator survives `normSeps` only in the root
      have hpre : pre = [] := by simpa [hq, ha0] using normSeps_shape c p
      simp [ha0, hpre]
    · simp [comps_of_not_mem _ _ ha ha0]

theorem Comps.append_iff {c : Cfg} {l m : List Str} : Comps c (l ++ m) ↔ Comps c l ∧ Comps c m := by
  rw [Comps, GoodComps, List.forall_mem_append, List.forall_mem_append, and_and_and_comm]
  rfl

theorem Comps.append {c : Cfg} {l m : List Str} (hl : Comps c l) (hm : Comps c m) : Comps c (l ++ m) :=
  Comps.append_iff.2 ⟨hl, hm⟩

theorem Comps.left {c : Cfg} {l m : List Str} (h : Comps c (l ++ m)) : Comps c l := (Comps.append_iff.1 h).1

theorem Comps.right {c : Cfg} {l m : List Str} (h : Comps c (l ++ m)) : Comps c m := (Comps.append_iff.1 h).2

theorem comps_nil' (c : Cfg) : Comps c [] := ⟨nofun, nofun⟩

theorem altFree_canon {c : Cfg} (h : c.Ok) {l : List Str} (hl : Comps c l) : AltFree c (canon c.sep l) :=
  altFree_of_comps h fun f hf => hl.2 f (comps_canon _ _ hl.1 ▸ hf)

theorem C_canon {c : Cfg} (h : c.Ok) {l : List Str} (hl : Comps c l) : C c (canon c.sep l) = l := by
  rw [C_of_altFree (altFree_canon h hl), comps_canon _ _ hl.1]

theorem getLast?_canon_ne {sep : Char} {l : List Str} (hl : GoodComps sep l) (hne : l ≠ []) :
    (canon sep l).getLast? ≠ some sep := by
  induction l using concat_cases with
  | nil => exact absurd rfl hne
  | concat init a =>
    have ha := hl a (by simp)
    rw [canon_append sep init (List.cons_ne_nil a [])]
    exact getLast?_append_cons_ne (getLast?_ne_of_not_mem ha.2) ha.1 _ _

theorem rstrip_canon_eq_stem {sep : Char} {l : List Str} (hl : GoodComps sep l) :
    rstrip sep (canon sep l) = stem sep l := by
  cases l with
  | nil => simp [canon, intercalate, rstrip, stem]
  | cons f fs =>
    rw [rstrip_eq_self _ _ (getLast?_canon_ne hl (List.cons_ne_nil _ _)), canon_eq_stem (List.cons_ne_nil _ _)]

theorem normSeps_canon {c : Cfg} (h : c.Ok) {l : List Str} (hl : Comps c l) :
    normSeps c (canon c.sep l) = canon c.sep l := by
  refine normSeps_eq_self (altFree_canon h hl) ?_
  cases l with
  | nil => exact .inl rfl
  | cons f fs => exact .inr (getLast?_canon_ne hl.1 (List.cons_ne_nil _ _))

theorem split_canon_nil {c : Cfg} (h : c.Ok) : split c (canon c.sep []) = ([c.sep], []) :=
  split_of_decomp c _ [] [] (normSeps_canon h (comps_nil' c)) nofun

theorem split_canon_concat {c : Cfg} (h : c.Ok) (init : List Str) (a : Str) (hl : Comps c (init ++ [a])) :
    split c (canon c.sep (init ++ [a])) = (canon c.sep init, a) := by
  rw [split_of_decomp c _ _ a ((normSeps_canon h hl).trans (canon_append _ _ (List.cons_ne_nil a [])))
    (hl.1 a (by simp)).2]
  cases init with
  | nil => rfl
  | cons p rest => rw [canon_eq_stem (List.cons_ne_nil p rest)]; rfl

theorem split_canon {c : Cfg} (h : c.Ok) {l : List Str} (hl : Comps c l) :
    split c (canon c.sep l) = (canon c.sep l.dropLast, l.getLast?.getD []) := by
  induction l using concat_cases with
  | nil => exact split_canon_nil h
  | concat init a => simp [split_canon_concat h init a hl]

theorem join_canon_concat {c : Cfg} (h : c.Ok) (init : List Str) (a : Str) (hl : Comps c (init ++ [a])) :
    join c [canon c.sep init, a] = canon c.sep (init ++ [a]) := by
  have ha := hl.1 a (by simp)
  have hra : relPart c a = a := by
    rw [relPart, normSeps_of_sepFree (hl.2 a (by simp)) ha.2, strip_of_not_mem ha.2]
  have hn := normSeps_canon h hl.left
  rw [join_two h _ a ⟨_, hn⟩, hra, if_neg ha.1, hn, rstrip_canon_eq_stem hl.left.1, canon_append _ _ (List.cons_ne_nil a [])]
  rfl

theorem join_canon_split {c : Cfg} (h : c.Ok) {l : List Str} (hl : Comps c l) :
    join c [canon c.sep l.dropLast, l.getLast?.getD []] = canon c.sep l := by
  induction l using concat_cases with
  | nil => exact (join_two h _ [] ⟨_, normSeps_canon h hl⟩).trans (normSeps_canon h hl)
  | concat init a => simpa using join_canon_concat h init a hl

theorem fold_eq_lowerStr {c : Cfg} (hcs : c.cs = false) : fold c = lowerStr c := by
  funext s; rw [← fold_eq, hcs]; rfl

theorem Comps.map {c : Cfg} {g : Char → Char} (hs : ∀ x, g x = c.sep ↔ x = c.sep)
    (ha : ∀ a, c.alt = some a → ∀ x, g x = a → x = a) {l : List Str} (hl : Comps c l) :
    Comps c (l.map (List.map g)) := by
  refine ⟨List.forall_mem_map.2 fun f hf => ⟨by simpa using (hl.1 f hf).1, fun hm => ?_⟩,
    List.forall_mem_map.2 fun f hf a haa hm => ?_⟩
  · obtain ⟨x, hx, hxs⟩ := List.mem_map.1 hm
    exact (hl.1 f hf).2 ((hs x).1 hxs ▸ hx)
  · obtain ⟨x, hx, hxa⟩ := List.mem_map.1 hm
    exact hl.2 f hf a haa (ha a haa x hxa ▸ hx)

theorem Comps.mapFold {c : Cfg} (h : c.Ok) (hla : c.cs = false → LowerAltOk c) {l : List Str}
    (hl : Comps c l) : Comps c (l.map (fold c)) := by
  refine hl.map (cfold_sep h) fun a ha x hx => ?_
  unfold cfold at hx
  split at hx
  · exact hx
  · exact hla (Bool.eq_false_iff.2 ‹_›) a ha x hx

theorem lowerStr_canon {c : Cfg} (h : c.Ok) (l : List Str) :
    lowerStr c (canon c.sep l) = canon c.sep (l.map (lowerStr c)) :=
  canon_map _ _ (lower_sep_self h) l

/-- components of `normalize_path(p, for_display=True)` on a case-insensitive provider (provider.py:545-546): everything but
    the leaf is case folded -/
def dispComps (c : Cfg) (l : List Str) : List Str :=
  l.dropLast.map (lowerStr c) ++ l.getLast?.toList

@[simp] theorem dispComps_nil (c : Cfg) : dispComps c [] = [] := rfl

@[simp] theorem dispComps_concat (c : Cfg) (init : List Str) (a : Str) :
    dispComps c (init ++ [a]) = init.map (lowerStr c) ++ [a] := by
  simp [dispComps]

theorem Comps.disp {c : Cfg} (h : c.Ok) (hla : LowerAltOk c) {l : List Str} (hl : Comps c l) :
    Comps c (dispComps c l) := by
  induction l using concat_cases with
  | nil => exact hl
  | concat init a =>
    rw [dispComps_concat]
    exact (hl.left.map h.lower_sep hla).append hl.right

theorem map_lowerStr_idem {c : Cfg} (h : c.Ok) (l : List Str) :
    (l.map (lowerStr c)).map (lowerStr c) = l.map (lowerStr c) := by
  simp [lowerStr, h.lower_idem]

theorem dispComps_idem {c : Cfg} (h : c.Ok) (l : List Str) : dispComps c (dispComps c l) = dispComps c l := by
  induction l using concat_cases with
  | nil => rfl
  | concat init a => rw [dispComps_concat, dispComps_concat, map_lowerStr_idem h]

theorem map_lowerStr_dispComps {c : Cfg} (h : c.Ok) (l : List Str) :
    (dispComps c l).map (lowerStr c) = l.map (lowerStr c) := by
  induction l using concat_cases with
  | nil => rfl
  | concat init a => rw [dispComps_concat, List.map_append, map_lowerStr_idem h, List.map_append]

theorem getLast?_dispComps (c : Cfg) (l : List Str) : (dispComps c l).getLast? = l.getLast? := by
  induction l using concat_cases with
  | nil => rfl
  | concat init a => simp

theorem dropLast_dispComps (c : Cfg) (l : List Str) :
    (dispComps c l).dropLast = l.dropLast.map (lowerStr c) := by
  induction l using concat_cases with
  | nil => rfl
  | concat init a => simp

theorem normalizePath_true_form {c : Cfg} (h : c.Ok) (hcs : c.cs = false) (hla : LowerAltOk c) (p : Str) :
    normalizePath c p true = canon c.sep (dispComps c (C c p)) := by
  have hl := comps_C' h p
  rw [normalizePath_true_def hcs, nrm_eq h, dirname, basename, split_canon h hl, lowerStr_canon h,
    ← dropLast_dispComps, ← getLast?_dispComps c, join_canon_split h (hl.disp h hla)]

theorem dirname_canon {c : Cfg} (h : c.Ok) {l : List Str} (hl : Comps c l) :
    dirname c (canon c.sep l) = canon c.sep l.dropLast := by
  rw [dirname, split_canon h hl]

theorem mem_nrm {c : Cfg} (h : c.Ok) {p : Str} {x : Char} (hx : x ∈ nrm c p) : x = c.sep ∨ x ∈ p := by
  rw [nrm_eq h, canon, List.mem_cons] at hx
  exact hx.elim .inl fun hm => (mem_intercalate hm).elim .inl fun ⟨_, hf, hxf⟩ =>
    mem_replaceAlt ((mem_comps hf).2.2 hxf)

theorem nrm_eq_cs (c : Cfg) (p : Str) : normalizePath { c with cs := true } p false = nrm c p :=
  normalizePath_cs (c := { c with cs := true }) rfl p false

theorem translate_eq_some {cF cT : Cfg} {rF rT p q : Str} :
    translate cF cT rF rT p = some q ↔ ∃ r, isSubpath cF rF p false = .rel r ∧ q = join cT [rT, r] := by
  unfold translate
  cases hr : isSubpath cF rF p false with
  | no => simp
  | rel r =>
    simp only [if_neg (mt List.isEmpty_iff.1 (isSubpath_rel_ne_nil hr))]
    exact ⟨fun e => ⟨r, rfl, (Option.some.inj e).symm⟩, fun ⟨_, e, hq⟩ => by cases e; rw [hq]⟩

theorem translate_eq_none {cF cT : Cfg} {rF rT p : Str} :
    translate cF cT rF rT p = none ↔ isSubpath cF rF p false = .no := by
  unfold translate
  cases hr : isSubpath cF rF p false with
  | no => simp
  | rel r => simp [isSubpath_rel_ne_nil hr]

theorem flattenArgs_append (l r : List JArg) : flattenArgs (l ++ r) = flattenArgs l ++ flattenArgs r := by
  induction l with
  | nil => simp [flattenArgs]
  | cons a as ih => simp [flattenArgs, ih]

theorem flattenArgs_strs (ps : List Str) : flattenArgs (ps.map JArg.str) = ps := by
  induction ps with
  | nil => rfl
  | cons p ps ih => simp [flattenArgs, JArg.flatten, ih]

/-- `55296 = 0xD800` is the first surrogate: every smaller number is a valid code point -/
theorem toNat_ofNat_small (n : Nat) (h : n < 55296) : (Char.ofNat n).toNat = n := by
  have hv : n.isValidChar := Or.inl h
  rw [Char.ofNat, dif_pos hv]
  simp [Char.ofNatAux, Char.toNat]

/-- the ranges of `simpleLower`: `65..90` is `A`-`Z`, `192..222` is `À`-`Þ`, `215` is `×` (which has no lower case) -/
theorem simpleLower_toNat (x : Char) :
    (simpleLower x).toNat =
      if (65 ≤ x.toNat ∧ x.toNat ≤ 90) ∨ (192 ≤ x.toNat ∧ x.toNat ≤ 222 ∧ x.toNat ≠ 215)
      then x.toNat + 32 else x.toNat := by
  unfold simpleLower
  simp only
  split
  · rw [toNat_ofNat_small _ (by omega)]
  · rfl

theorem simpleLower_idem (x : Char) : simpleLower (simpleLower x) = simpleLower x := by
  apply Char.toNat_inj.1
  have h1 := simpleLower_toNat x
  have h2 := simpleLower_toNat (simpleLower x)
  generalize (simpleLower (simpleLower x)).toNat = a at *
  generalize (simpleLower x).toNat = b at *
  generalize x.toNat = n at *
  split at h1 <;> split at h2 <;> omega

theorem simpleLower_eq_iff {y : Char} (hy : y.toNat < 65 ∨ 90 < y.toNat ∧ y.toNat < 97) (x : Char) :
    simpleLower x = y ↔ x = y := by
  rw [← Char.toNat_inj, ← Char.toNat_inj (c := x), simpleLower_toNat]
  split <;> omega

theorem mkCfg_alt {cs win alt : Bool} {a : Char} (h : (mkCfg cs win alt).alt = some a) : a = '\\' := by
  cases alt
  · cases h
  · exact (Option.some.inj h).symm

theorem mkCfg_ok (cs alt : Bool) : (mkCfg cs false alt).Ok where
  alt_ne_sep a ha := mkCfg_alt ha ▸ (by decide : '\\' ≠ '/')
  -- `simp only` first: unifying `(mkCfg ..).lower (..)` with `simpleLower (..)` directly is slow
  lower_idem := by simp only [mkCfg]; exact simpleLower_idem
  lower_sep := simpleLower_eq_iff (y := '/') (by decide)
  noWin := rfl

theorem mkCfg_lowerAltOk (cs win alt : Bool) : LowerAltOk (mkCfg cs win alt) := fun _ ha x hx =>
  mkCfg_alt ha ▸ (simpleLower_eq_iff (y := '\\') (by decide) x).1 (mkCfg_alt ha ▸ hx)

end CS.Path
