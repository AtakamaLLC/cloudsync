import Csverif.Model.MockFS
import Csverif.Proofs.Assoc
/- Facts about the mock's primitives, for the simulation proofs (Mock*.lean) and Props/C16.lean: the dict as a finite map,
   rendering of the id counter, and that every operation only appends to the event log. -/
namespace CS.MockFS
open CS.Path
open CS.Tree (Kind Err)

theorem dget_nil (k : Str) : dget [] k = none := rfl

theorem dget_cons (e : Str × Nat) (d : List (Str × Nat)) (k : Str) :
    dget (e :: d) k = if e.1 = k then some e.2 else dget d k := Assoc.get_cons e d k

theorem dget_ddel (d : List (Str × Nat)) (k k' : Str) :
    dget (ddel d k) k' = if k' = k then none else dget d k' := Assoc.get_del d k k'

theorem dget_map_upd (d : List (Str × Nat)) (k : Str) (v : Nat) (k' : Str) :
    dget (d.map (updEntry k v)) k' = if k' = k then (dget d k).map (fun _ => v) else dget d k' := by
  induction d with
  | nil => split <;> rfl
  | cons e d ih =>
    rw [List.map_cons, dget_cons, ih, dget_cons, dget_cons]
    by_cases he : e.1 = k
    · have hu : updEntry k v e = (k, v) := by simp [updEntry, he]
      rw [hu]
      by_cases hk : k' = k
      · simp [hk, he]
      · rw [if_neg hk, if_neg hk, if_neg (fun h => hk h.symm), if_neg (fun h => hk (h.symm.trans he))]
    · have hu : updEntry k v e = e := by simp [updEntry, he]
      rw [hu]
      by_cases hk : k' = k
      · subst hk; simp [he]
      · simp [hk]

theorem dget_dset (d : List (Str × Nat)) (k : Str) (v : Nat) (k' : Str) :
    dget (dset d k v) k' = if k' = k then some v else dget d k' := by
  unfold dset
  split
  · rename_i hs
    rw [dget_map_upd]
    split
    · obtain ⟨x, hx⟩ := Option.isSome_iff_exists.1 hs
      rw [hx]; rfl
    · rfl
  · rename_i hs
    have hn : Assoc.get d k = none := Option.not_isSome_iff_eq_none.1 hs
    show Assoc.get (d ++ [(k, v)]) k' = if k' = k then some v else Assoc.get d k'
    rw [Assoc.get_append, Assoc.get_cons]
    by_cases hk : k' = k
    · rw [hk, hn, if_pos rfl, if_pos rfl]; rfl
    · rw [if_neg hk, if_neg (fun h => hk h.symm)]; cases Assoc.get d k' <;> rfl

theorem mem_of_dget {d : List (Str × Nat)} {k : Str} {h : Nat} (hg : dget d k = some h) : (k, h) ∈ d :=
  Assoc.mem_of_get hg

theorem dget_of_mem {d : List (Str × Nat)} (hn : (d.map (·.1)).Nodup) {k : Str} {h : Nat}
    (hm : (k, h) ∈ d) : dget d k = some h := Assoc.get_of_mem hn hm

theorem keys_ddel (d : List (Str × Nat)) (k : Str) : ((ddel d k).map (·.1)).Nodup ∨ True := Or.inr trivial

theorem nodup_ddel {d : List (Str × Nat)} (hn : (d.map (·.1)).Nodup) (k : Str) :
    ((ddel d k).map (·.1)).Nodup := Assoc.nodup_del hn k

theorem nodup_dset {d : List (Str × Nat)} (hn : (d.map (·.1)).Nodup) (k : Str) (v : Nat) :
    ((dset d k v).map (·.1)).Nodup := by
  unfold dset
  split
  · have : (d.map (updEntry k v)).map (·.1) = d.map (·.1) := by
      rw [List.map_map]
      apply List.map_congr_left
      intro e _
      simp only [Function.comp, updEntry]
      split
      · rename_i he; exact (eq_of_beq he).symm
      · rfl
    rw [this]; exact hn
  · rename_i hs
    rw [List.map_append, List.nodup_append]
    refine ⟨hn, by simp, ?_⟩
    intro a ha b hb
    simp only [List.map_cons, List.map_nil, List.mem_singleton] at hb
    subst hb
    rintro rfl
    obtain ⟨e, he, rfl⟩ := List.mem_map.1 ha
    rw [dget_of_mem hn (k := e.1) (h := e.2) he] at hs
    exact hs rfl

/- Id-style ids are the counter rendered in decimal (`newObj`).  The rendering is injective, so the next id is fresh, and
   never starts with '/', so id keys and path keys cannot collide. -/
theorem idStr_toList (n : Nat) : (toString n).toList = Nat.toDigits 10 n := by
  simp

theorem idStr_injective {a b : Nat} (h : (toString a).toList = (toString b).toList) : a = b := by
  rw [idStr_toList, idStr_toList] at h
  have ha := Nat.ofDigitChars_toDigits (b := 10) (n := a) (by omega) (by omega)
  have hb := Nat.ofDigitChars_toDigits (b := 10) (n := b) (by omega) (by omega)
  rw [h] at ha
  omega

theorem idStr_head (n : Nat) : (toString n).toList.head? ≠ some '/' := by
  rw [idStr_toList]
  intro h
  have hm : '/' ∈ Nat.toDigits 10 n := by
    cases hd : Nat.toDigits 10 n with
    | nil => rw [hd] at h; simp at h
    | cons x xs => rw [hd] at h; simp at h; subst h; simp
  have := Nat.isDigit_of_mem_toDigits (b := 10) (by omega) (by omega) hm
  revert this; decide

variable {C H : Type}

theorem registerEvent_events (s : St C) (a : Action) (o : Obj C) (p : Option Str) :
    (registerEvent s a o p).events = s.events ++
      [{ action := a, oid := o.oid, kind := o.kind, path := o.path, prior := p, trashed := !o.live }] := rfl

theorem store_events (c : Cfg) (s : St C) (h : Nat) (o : Obj C) : (store c s h o).events = s.events := rfl
theorem store_heap (c : Cfg) (s : St C) (h : Nat) (o : Obj C) : (store c s h o).heap = s.heap := rfl
theorem store_cursor (c : Cfg) (s : St C) (h : Nat) (o : Obj C) : (store c s h o).cursor = s.cursor := rfl
theorem store_nextId (c : Cfg) (s : St C) (h : Nat) (o : Obj C) : (store c s h o).nextId = s.nextId := rfl

theorem unstore_events {c : Cfg} {s s1 : St C} {o : Obj C} (h : unstore c s o = some s1) : s1.events = s.events := by
  dsimp only [unstore] at h
  split at h
  · cases h
  · cases h; rfl

theorem unstore_heap {c : Cfg} {s s1 : St C} {o : Obj C} (h : unstore c s o = some s1) : s1.heap = s.heap := by
  dsimp only [unstore] at h
  split at h
  · cases h
  · cases h; rfl

theorem renameSingle_events (c : Cfg) (fl : Flavour) (s : St C) (h : Nat) (dest : Str) (ev : Bool) :
    ∃ l, (renameSingle c fl s h dest ev).1.events = s.events ++ l ∧ (ev = false → l = []) := by
  cases hh : s.heap[h]? with
  | none => exact ⟨[], by simp [renameSingle, hh], fun _ => rfl⟩
  | some o =>
    cases hu : unstore c s o with
    | none => exact ⟨[], by simp [renameSingle, hh, hu], fun _ => rfl⟩
    | some s1 =>
      simp only [renameSingle, hh, hu]
      cases ev
      · exact ⟨[], by simp [store_events, unstore_events hu], fun _ => rfl⟩
      · exact ⟨[_], by simp only [if_true, registerEvent_events, store_events, unstore_events hu]; rfl, fun e => nomatch e⟩

theorem renameSingle_ext (c : Cfg) (fl : Flavour) (s : St C) (h : Nat) (dest : Str) (ev : Bool) :
    s.events <+: (renameSingle c fl s h dest ev).1.events := by
  obtain ⟨l, hl, _⟩ := renameSingle_events c fl s h dest ev
  exact ⟨l, hl.symm⟩

theorem renameSingle_noevent (c : Cfg) (fl : Flavour) (s : St C) (h : Nat) (dest : Str) :
    (renameSingle c fl s h dest false).1.events = s.events := by
  obtain ⟨l, hl, hn⟩ := renameSingle_events c fl s h dest false
  rw [hl, hn rfl, List.append_nil]

/-- one iteration of the loop in `renameChildren`: the body of its `fun`, copied, so that `renameChildren_eq` is `rfl` -/
def childStep (c : Cfg) (fl : Flavour) (op np : Str) (acc : St C × Option Err) (h : Nat) : St C × Option Err :=
  match acc with
  | (s, some e) => (s, some e)
  | (s, none) =>
    match s.heap[h]? with
    | none => (s, none)
    | some o =>
      if (isSubpath c op o.path true).truthy then
        match replacePath c o.path op np with
        | .error _ => (s, some .other)
        | .ok np' => renameSingle c fl s h np' false
      else (s, none)

theorem renameChildren_eq (c : Cfg) (fl : Flavour) (s : St C) (op np : Str) :
    renameChildren c fl s op np = (fsObjects s).eraseDups.foldl (childStep c fl op np) (s, none) := rfl

theorem childStep_events (c : Cfg) (fl : Flavour) (op np : Str) (acc : St C × Option Err) (h : Nat) :
    (childStep c fl op np acc h).1.events = acc.1.events := by
  obtain ⟨s0, e0⟩ := acc
  cases e0 with
  | some e => rfl
  | none =>
    cases hh : s0.heap[h]? with
    | none => simp only [childStep, hh]
    | some o =>
      simp only [childStep, hh]
      split
      · split
        · rfl
        · exact renameSingle_noevent _ _ _ _ _
      · rfl

theorem foldl_childStep_events (c : Cfg) (fl : Flavour) (op np : Str) (l : List Nat) (acc : St C × Option Err) :
    (l.foldl (childStep c fl op np) acc).1.events = acc.1.events := by
  induction l generalizing acc with
  | nil => rfl
  | cons x xs ih => rw [List.foldl_cons, ih, childStep_events]

theorem renameChildren_events (c : Cfg) (fl : Flavour) (s : St C) (op np : Str) :
    (renameChildren c fl s op np).1.events = s.events := by
  rw [renameChildren_eq, foldl_childStep_events]

theorem delete_live {c : Cfg} {hcfg : HashCfg C H} {s : St C} {oid : Str} {h : Nat} {o : Obj C}
    (hg : getObj s oid = some (h, o)) (hl : o.live = true) (hb : o.kind = .dir → dirBlocked c hcfg s o.oid = none) :
    delete c hcfg s oid =
      (registerEvent { s with heap := s.heap.set h { o with live := false } } .delete { o with live := false } none, .unit) := by
  simp only [delete, hg, hl, Bool.not_true, Bool.false_eq_true, if_false]
  cases hk : o.kind with
  | file => rfl
  | dir => simp only [beq_self_eq_true, if_true, hb hk]

theorem delete_ext (c : Cfg) (hcfg : HashCfg C H) (s : St C) (oid : Str) :
    s.events <+: (delete c hcfg s oid).1.events := by
  cases hg : getObj s oid with
  | none => simp only [delete, hg]; exact List.prefix_refl _
  | some ho =>
    obtain ⟨h, o⟩ := ho
    simp only [delete, hg]
    split
    · exact List.prefix_refl _
    · split
      · exact List.prefix_refl _
      · exact List.prefix_append _ _

theorem allocStore_events (c : Cfg) (fl : Flavour) (s : St C) (p : Str) (k : Kind) (x : Option C) :
    (allocStore c fl s p k x).1.events = s.events := rfl

theorem resolveConflict_ext (c : Cfg) (hcfg : HashCfg C H) (s : St C) (o : Obj C) (cf : Option (Nat × Obj C)) :
    s.events <+: (resolveConflict c hcfg s o cf).1.events := by
  cases cf with
  | none => exact List.prefix_refl _
  | some hco =>
    obtain ⟨ch, co⟩ := hco
    simp only [resolveConflict]
    split
    · split
      · exact List.prefix_refl _
      · split
        · split
          · exact List.prefix_refl _
          · have := delete_ext c hcfg s co.oid
            split
            · rename_i s' e heq; rw [heq] at this; exact this
            · rename_i s' r heq; rw [heq] at this; exact this
        · exact List.prefix_refl _
    · exact List.prefix_refl _

theorem renameMove_ext (c : Cfg) (fl : Flavour) (s : St C) (h : Nat) (o : Obj C) (p : Str) :
    s.events <+: (renameMove c fl s h o p).1.events := by
  simp only [renameMove]
  split
  · exact renameSingle_ext _ _ _ _ _ _
  · have hrc := renameChildren_events c fl s o.path p
    split
    · rename_i s' e heq
      rw [heq] at hrc; simp only at hrc; rw [hrc]; exact List.prefix_refl _
    · rename_i s' heq
      rw [heq] at hrc; simp only at hrc
      have := renameSingle_ext c fl s' h p true
      rw [hrc] at this; exact this

theorem rename_ext (c : Cfg) (fl : Flavour) (hcfg : HashCfg C H) (s : St C) (oid p : Str) :
    s.events <+: (rename c fl hcfg s oid p).1.events := by
  cases hg : getObj s oid with
  | none => simp only [rename, hg]; exact List.prefix_refl _
  | some ho =>
    obtain ⟨h, o⟩ := ho
    simp only [rename, hg]
    split
    · exact List.prefix_refl _
    · split
      · exact List.prefix_refl _
      · have h1 := resolveConflict_ext c hcfg s o (conflictOf c s oid p)
        split
        · rename_i s1 e heq; rw [heq] at h1; exact h1
        · rename_i s1 heq
          rw [heq] at h1
          simp only at h1 ⊢
          split
          · exact h1
          · have h2 := renameMove_ext c fl s1 h ((s1.heap[h]?).getD o) p
            split
            · rename_i s2 e heq2; rw [heq2] at h2; exact h1.trans h2
            · rename_i s2 heq2; rw [heq2] at h2; exact h1.trans h2

theorem step_ext (c : Cfg) (fl : Flavour) (hcfg : HashCfg C H) (s : St C) (op : Op C) :
    s.events <+: (step c fl hcfg s op).1.events := by
  cases op with
  | create p d =>
    simp only [step, create]
    split
    · exact List.prefix_refl _
    · split
      · exact List.prefix_refl _
      · split
        · exact List.prefix_refl _
        · exact List.prefix_append _ _
  | mkdir p =>
    simp only [step, mkdir]
    split
    · exact List.prefix_refl _
    · split
      · exact List.prefix_refl _
      · split
        · split <;> exact List.prefix_refl _
        · exact List.prefix_append _ _
  | upload o d =>
    cases hg : getObj s o with
    | none => simp only [step, upload, hg]; exact List.prefix_refl _
    | some ho =>
      obtain ⟨h, ob⟩ := ho
      simp only [step, upload, hg]
      split
      · exact List.prefix_refl _
      · split
        · exact List.prefix_refl _
        · exact List.prefix_append _ _
  | download o =>
    cases hg : getObj s o with
    | none => simp only [step, download, hg]; exact List.prefix_refl _
    | some ho =>
      obtain ⟨h, ob⟩ := ho
      simp only [step, download, hg]
      split
      · exact List.prefix_refl _
      · split <;> exact List.prefix_refl _
  | rename o p => exact rename_ext c fl hcfg s o p
  | delete o => exact delete_ext c hcfg s o
  | events => exact List.prefix_refl _
  | setCursor v => cases v <;> exact List.prefix_refl _
  | _ => exact List.prefix_refl _

end CS.MockFS
