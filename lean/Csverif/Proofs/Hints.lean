import Csverif.Model.Hints
/-
Equations for Model/Hints.lean, used by Props/C14.lean.  Every statement group of `update_entry` (`a…`), `touch`, and of the
provider-answered branch of `unconditionally_get_latest` (`k…`) is a record update, or a setter applied to a computed value.
`exists` is written through `setEx` only; the statement groups that decide it are `setEx` of a function of the old value
(`exRule`, `goneRule`, `idlessRule`), and `setEx_ex`, `setEx_setEx`, `setEx_idem` hold in every state, CORRUPT included.
-/
namespace CS.Hints

section setters
variable (s : Side) (v : Ex) (h : Option Hash)

@[simp] theorem setEx_fields : (setEx s v).oid = s.oid ∧ (setEx s v).path = s.path ∧ (setEx s v).hash = s.hash ∧
    (setEx s v).otype = s.otype ∧ (setEx s v).changed = s.changed ∧ (setEx s v).lastGotten = s.lastGotten ∧
    (setEx s v).ign = s.ign := by
  unfold setEx; (repeat' split) <;> simp

@[simp] theorem uncorrupt_fields : (uncorrupt s).oid = s.oid ∧ (uncorrupt s).path = s.path ∧ (uncorrupt s).hash = s.hash ∧
    (uncorrupt s).otype = s.otype ∧ (uncorrupt s).changed = s.changed ∧ (uncorrupt s).lastGotten = s.lastGotten ∧
    (uncorrupt s).ign = s.ign := by
  unfold uncorrupt; split <;> simp

@[simp] theorem uncorrupt_hash : (uncorrupt s).hash = s.hash := by simp

@[simp] theorem setHash_fields : (setHash s h).oid = s.oid ∧ (setHash s h).path = s.path ∧ (setHash s h).hash = h ∧
    (setHash s h).otype = s.otype ∧ (setHash s h).changed = s.changed ∧ (setHash s h).lastGotten = s.lastGotten ∧
    (setHash s h).ign = s.ign := by
  unfold setHash; simp only []; split <;> simp

@[simp] theorem setHash_self : setHash s s.hash = s := by simp [setHash]

end setters

/-- the LIKELY_TRASHED rule of `update_entry` (state.py 1014-1021) on the value of `exists` -/
def exRule (b : Option Bool) (x : Ex) : Ex :=
  if (x = .trashed ∨ x = .likely) ∧ b ≠ some false then .likely else translate b

theorem aOid_none {e : Event} (ip : Bool) (s : Side) (ho : e.oid = none) : aOid ip s e = s := by unfold aOid; rw [ho]

theorem aOid_some {e : Event} {o : Oid} (ip : Bool) (s : Side) (ho : e.oid = some o) :
    aOid ip s e = { (if s.ign.isDiscarded && ip && truthy e.path then fresh e.otype else s) with oid := some o } := by
  unfold aOid; rw [ho]

section stages
variable (norm : Path → Path) (s : Side) (e : Event) (t now : Nat) (info : Info) (T : Truth) (o : Oid)

@[simp] theorem aType_eq : aType s e = { s with otype := e.otype } := by
  unfold aType; split
  · rfl
  · rename_i h; rw [Decidable.not_not.mp h]

@[simp] theorem aPath_eq : aPath norm s e = { s with path := (e.path.map norm).or s.path } := by
  unfold aPath
  cases e.path with
  | none => rfl
  | some p =>
    simp only []; split
    · rfl
    · rename_i h; simp [Decidable.not_not.mp h]

@[simp] theorem aHash_eq : aHash s e = setHash s (e.hash.or s.hash) := by
  unfold aHash
  cases e.hash with
  | none => simp
  | some h =>
    simp only []; split
    · rfl
    · rename_i h'; simp at h'; simp [h']

@[simp] theorem aEx_eq : aEx s e = setEx s (exRule e.ex s.ex) := by
  unfold aEx exRule; split <;> rfl

@[simp] theorem aChanged_eq : aChanged s e t = { s with changed := t, lastGotten := if e.accurate then t else s.lastGotten } := by
  unfold aChanged; cases e.accurate <;> rfl

@[simp] theorem touch_eq : touch s now = { s with changed := if s.ign = .no ∧ s.changed = 0 then now else s.changed } := by
  unfold touch; split <;> rfl

@[simp] theorem kFile_eq : kFile T o s = setHash s (if s.otype = .file ∧ s.hash = none then T.hashOid o else s.hash) := by
  unfold kFile
  split
  · split <;> simp [*]
  · simp [*]

@[simp] theorem kHash_eq : kHash info now s =
    { setHash s info.hash with changed := if s.hash ≠ info.hash ∧ s.ign = .no ∧ s.changed = 0 then now else s.changed } := by
  unfold kHash; split
  · rename_i h; simp [h]
  · rename_i h; simp at h; simp [← h]

@[simp] theorem kPath_eq : kPath norm info now s =
    { s with path := some (norm info.path),
             changed := if s.path ≠ some (norm info.path) ∧ s.ign = .no ∧ s.changed = 0 then now else s.changed } := by
  unfold kPath; split
  · rename_i h; simp [h]
  · rename_i h; simp at h; simp [← h]

attribute [simp] kType

theorem aType_path : (aType s e).path = s.path := by simp
theorem aType_hash : (aType s e).hash = s.hash := by simp
theorem aType_saved : (aType s e).saved = s.saved := by simp
theorem aType_changed : (aType s e).changed = s.changed := by simp
theorem aPath_hash : (aPath norm s e).hash = s.hash := by simp
theorem aPath_saved : (aPath norm s e).saved = s.saved := by simp
theorem aPath_changed : (aPath norm s e).changed = s.changed := by simp
theorem aHash_changed : (aHash s e).changed = s.changed := by simp
theorem aEx_changed : (aEx s e).changed = s.changed := by simp
theorem aChanged_saved : (aChanged s e t).saved = s.saved := by simp
theorem kHash_path : (kHash info now s).path = s.path := by simp
theorem kHash_otype : (kHash info now s).otype = s.otype := by simp
theorem kHash_lastGotten : (kHash info now s).lastGotten = s.lastGotten := by simp
theorem kHash_ign : (kHash info now s).ign = s.ign := by simp
theorem kType_path : (kType info s).path = s.path := by simp
theorem kType_changed : (kType info s).changed = s.changed := by simp
theorem kType_lastGotten : (kType info s).lastGotten = s.lastGotten := by simp
theorem kType_ign : (kType info s).ign = s.ign := by simp
theorem kType_saved : (kType info s).saved = (setEx s .present).saved := by simp
theorem kFile_path : (kFile T o s).path = s.path := by simp
theorem kFile_changed : (kFile T o s).changed = s.changed := by simp
theorem kFile_lastGotten : (kFile T o s).lastGotten = s.lastGotten := by simp
theorem kFile_ign : (kFile T o s).ign = s.ign := by simp
theorem kPath_lastGotten : (kPath norm info now s).lastGotten = s.lastGotten := by simp
theorem kPath_ign : (kPath norm info now s).ign = s.ign := by simp

end stages

theorem setEx_ex (s : Side) (v : Ex) : (setEx s v).ex = if s.ex = .corrupt then .corrupt else v := by
  unfold setEx
  by_cases hs : s.ex = .corrupt <;> by_cases hv : v = .corrupt <;> simp [hs, hv]

/-- in the CORRUPT state both writes go to `_saved_exists`.  With `w` CORRUPT the saved value would be `v` on the left and
    `s.ex` on the right; with `v` CORRUPT the second write would no longer reach `exists` -/
theorem setEx_setEx (s : Side) (v w : Ex) (hv : v ≠ .corrupt) (hw : w ≠ .corrupt) : setEx (setEx s v) w = setEx s w := by
  unfold setEx
  by_cases hs : s.ex = .corrupt <;> simp [hs, hv, hw]

theorem setEx_self (s : Side) : setEx s s.ex = s := by
  unfold setEx
  rw [if_neg (fun h => h.2 h.1), if_neg (fun h => h.1 h.2)]

theorem setEx_idem (f : Ex → Ex) (hf : ∀ x, f x ≠ .corrupt) (hi : ∀ x, f (f x) = f x) (s : Side) :
    setEx (setEx s (f s.ex)) (f (setEx s (f s.ex)).ex) = setEx s (f s.ex) := by
  rw [setEx_setEx _ _ _ (hf _) (hf _), setEx_ex]
  split
  · rename_i h; rw [h]
  · rw [hi]

theorem setEx_ex_cases (s : Side) (v : Ex) : (setEx s v).ex = v ∨ (setEx s v).ex = .corrupt := by
  rw [setEx_ex]
  split
  · exact .inr rfl
  · exact .inl rfl

theorem translate_ne_corrupt (b : Option Bool) : translate b ≠ .corrupt := by
  rcases b with _ | _ | _ <;> simp [translate]

theorem exRule_ne_corrupt (b : Option Bool) (x : Ex) : exRule b x ≠ .corrupt := by
  unfold exRule; split
  · decide
  · exact translate_ne_corrupt b

theorem exRule_idem (b : Option Bool) (x : Ex) : exRule b (exRule b x) = exRule b x := by
  rcases b with _ | _ | _ <;> cases x <;> rfl

/-- the tombstone `unconditionally_get_no_info` leaves (state.py 1360-1379) as a function of `exists` -/
def goneRule (ip : Bool) (x : Ex) : Ex :=
  if ip then (if x = .trashed ∨ x = .likely then .trashed else .missing) else .trashed

/-- the three `if`s of the Python run in sequence and each reads what the one before wrote; together they are one assignment -/
theorem noInfo_eq (ip : Bool) (s : Side) : noInfo ip s = setEx s (goneRule ip s.ex) := by
  have ht : s.ex = .trashed → setEx s .trashed = s := fun h => h ▸ setEx_self s
  unfold noInfo
  cases ip <;> cases h : s.ex <;> simp [h, setEx_ex, goneRule, ht]

theorem goneRule_cases (ip : Bool) (x : Ex) : goneRule ip x = .trashed ∨ goneRule ip x = .missing := by
  unfold goneRule
  split
  · split
    · exact .inl rfl
    · exact .inr rfl
  · exact .inl rfl

/-- never MISSING, for both id styles: the LIKELY_TRASHED test runs before the `!= TRASHED` one -/
theorem goneRule_tomb (ip : Bool) (x : Ex) (h : x = .trashed ∨ x = .likely) : goneRule ip x = .trashed := by
  unfold goneRule; rw [if_pos h]; exact ite_self _

theorem goneRule_ne_corrupt (ip : Bool) (x : Ex) : goneRule ip x ≠ .corrupt := by
  rcases goneRule_cases ip x with h | h <;> rw [h] <;> decide

theorem goneRule_idem (ip : Bool) (x : Ex) : goneRule ip (goneRule ip x) = goneRule ip x := by
  cases ip <;> cases x <;> rfl

section branches
variable (ip : Bool) (norm : Path → Path) (T : Truth)

theorem getLatest_known (now : Nat) (o : Oid) (info : Info) (s : Side) (ho : s.oid = some o) (hT : T.info o = some info) :
    getLatest ip norm T now s = known norm T now o info s := by
  unfold getLatest; rw [ho]; simp only [hT]

theorem getLatest_vanished (now : Nat) (o : Oid) (s : Side) (ho : s.oid = some o) (hT : T.info o = none) :
    getLatest ip norm T now s = noInfo ip s := by
  unfold getLatest; rw [ho]; simp only [hT]

/-- the `oid is None` branch of `unconditionally_get_latest` on the value of `exists` -/
def idlessRule (x : Ex) : Ex := if x ≠ .trashed ∧ x ≠ .missing then .unknown else x

theorem idlessRule_ne_corrupt (x : Ex) : idlessRule x ≠ .corrupt := by cases x <;> decide

theorem idlessRule_idem (x : Ex) : idlessRule (idlessRule x) = idlessRule x := by cases x <;> rfl

theorem getLatest_idless (now : Nat) (s : Side) (ho : s.oid = none) :
    getLatest ip norm T now s = setEx s (idlessRule s.ex) := by
  unfold getLatest idlessRule; rw [ho]; simp only []
  split
  · rfl
  · exact (setEx_self s).symm

end branches

theorem setEx_of_ne (s : Side) (v : Ex) (hs : s.ex ≠ .corrupt) (hv : v ≠ .corrupt) :
    setEx s v = { s with ex := v } := by
  unfold setEx; simp [hs, hv]

theorem setHash_of_ne (s : Side) (h : Option Hash) (hs : s.ex ≠ .corrupt) :
    setHash s h = { s with hash := h } := by
  unfold setHash; simp [hs]

theorem setHash_ex_of_ne (s : Side) (h : Option Hash) (hs : s.ex ≠ .corrupt) : (setHash s h).ex = s.ex := by
  rw [setHash_of_ne s h hs]

theorem uncorrupt_ne (s : Side) (h : s.ex ≠ .corrupt) : uncorrupt s = s := by unfold uncorrupt; simp [h]

theorem aHash_ex_of_ne (s : Side) (e : Event) (h : s.ex ≠ .corrupt) : (aHash s e).ex = s.ex := by
  rw [aHash_eq, setHash_ex_of_ne _ _ h]

theorem aHash_saved_of_ne (s : Side) (e : Event) (h : s.ex ≠ .corrupt) : (aHash s e).saved = s.saved := by
  rw [aHash_eq, setHash_of_ne _ _ h]

theorem aEx_ne (s : Side) (e : Event) (h : s.ex ≠ .corrupt) : (aEx s e).ex ≠ .corrupt := by
  rw [aEx_eq, setEx_ex, if_neg h]; exact exRule_ne_corrupt _ _

theorem kHash_ex_of_ne (info : Info) (now : Nat) (s : Side) (h : s.ex ≠ .corrupt) : (kHash info now s).ex = s.ex := by
  rw [kHash_eq]; exact setHash_ex_of_ne _ _ h

theorem kFile_ex_of_ne (T : Truth) (o : Oid) (s : Side) (h : s.ex ≠ .corrupt) : (kFile T o s).ex = s.ex := by
  rw [kFile_eq, setHash_ex_of_ne _ _ h]

end CS.Hints
