import Csverif.Model.Spec.Crash
/- The effect-log checker of Model/Spec/Crash.lean: its guards as propositions, what `run` accepts, what an effect adds; and
   `create_synced` (`createSynced` over `createSyncedInner`) as one table, from which Props/C07.lean reads its decision theorems. -/
namespace CS.Spec.Crash

theorem covered_iff (x : SideSt) (c : Nat) :
    x.covered c = true ↔ ∀ i, i ≤ c → i ≤ x.base ∨ i ∈ x.handled := by
  simp only [SideSt.covered, List.all_eq_true, List.mem_range, Bool.or_eq_true, decide_eq_true_eq,
    List.contains_iff_mem, Nat.lt_succ_iff]

theorem claimOk_iff (x : SideSt) (o : Option Nat) : x.claimOk o = true ↔ ∀ t, o = some t → t ∈ x.puts := by
  cases o with
  | none => simp [SideSt.claimOk]
  | some u => simp [SideSt.claimOk]

theorem cursorOkB_iff (x : SideSt) : x.cursorOkB = true ↔ x.CursorOk := by
  unfold SideSt.cursorOkB SideSt.CursorOk
  cases hw : x.walked <;> cases hc : x.cursor <;> simp [covered_iff]

theorem consistentB_iff (st : St) : consistentB st = true ↔ Consistent st := by
  simp only [consistentB, Bool.and_eq_true, List.all_eq_true, cursorOkB_iff, claimOk_iff, Consistent,
    Row.Reflected, and_assoc]

instance (st : St) : Decidable (Consistent st) := decidable_of_iff _ (consistentB_iff st)

@[simp] theorem side_false (st : St) : st.side false = st.l := rfl
@[simp] theorem side_true (st : St) : st.side true = st.r := rfl

@[simp] theorem setSide_rows (st : St) (s : Side) (x : SideSt) : (st.setSide s x).rows = st.rows := by
  cases s <;> rfl

@[simp] theorem setSide_next (st : St) (s : Side) (x : SideSt) : (st.setSide s x).next = st.next := by
  cases s <;> rfl

theorem side_setSide (st : St) (s s' : Side) (x : SideSt) :
    (st.setSide s' x).side s = if s = s' then x else st.side s := by
  cases s <;> cases s' <;> rfl

theorem consistent_iff_sides (st : St) :
    Consistent st ↔ (∀ row ∈ st.rows, (∀ t, row.cl = some t → t ∈ (st.side false).puts) ∧
        (∀ t, row.cr = some t → t ∈ (st.side true).puts)) ∧ ∀ s, (st.side s).CursorOk := by
  simp only [Consistent, Row.Reflected, side_false, side_true, Bool.forall_bool]

theorem violation_rowCreate (st : St) (eid : Nat) (cl cr : Option Nat) :
    violation st (.rowCreate eid cl cr) = none ↔
      st.hasRow eid = false ∧ st.l.claimOk cl = true ∧ st.r.claimOk cr = true := by
  cases h1 : st.hasRow eid <;> cases h2 : st.l.claimOk cl <;> cases h3 : st.r.claimOk cr <;>
    simp [violation, h1, h2, h3]

theorem violation_rowUpdate (st : St) (eid : Nat) (cl cr : Option Nat) :
    violation st (.rowUpdate eid cl cr) = none ↔
      st.hasRow eid = true ∧ st.l.claimOk cl = true ∧ st.r.claimOk cr = true := by
  cases h1 : st.hasRow eid <;> cases h2 : st.l.claimOk cl <;> cases h3 : st.r.claimOk cr <;>
    simp [violation, h1, h2, h3]

theorem violation_cursorWrite (st : St) (s : Side) (c : Nat) :
    violation st (.cursorWrite s c) = none ↔ ((st.side s).walked = true → (st.side s).covered c = true) := by
  cases h1 : (st.side s).walked <;> cases h2 : (st.side s).covered c <;> simp [violation, h1, h2]

theorem violation_eventApplied (st : St) (s : Side) (i eid : Nat) :
    violation st (.eventApplied s i (some eid)) = none ↔ st.hasRow eid = true := by
  cases h1 : st.hasRow eid <;> simp [violation, h1]

theorem step_ok_iff (st st' : St) (e : Eff) : step st e = .ok st' ↔ violation st e = none ∧ st' = effect st e := by
  unfold step
  cases h : violation st e with
  | none => simp [eq_comm]
  | some m => simp

theorem stepN_ok_iff (st st' : St) (x : NEff) :
    stepN st x = .ok st' ↔ x.n = st.next ∧ violation st x.e = none ∧ st' = { effect st x.e with next := st.next + 1 } := by
  unfold stepN step
  by_cases hn : x.n = st.next <;> cases hv : violation st x.e <;> simp [hn]
  exact eq_comm

theorem run_nil (st : St) : run st [] = .ok st := rfl

theorem run_cons_ok_iff (st st' : St) (x : NEff) (xs : Log) :
    run st (x :: xs) = .ok st' ↔ ∃ s1, stepN st x = .ok s1 ∧ run s1 xs = .ok st' := by
  simp only [run]
  cases h : stepN st x with
  | error m => simp
  | ok s1 => simp

theorem run_cons_ok (st st' : St) (x : NEff) (xs : Log) (h : run st (x :: xs) = .ok st') :
    x.n = st.next ∧ violation st x.e = none ∧ run { effect st x.e with next := st.next + 1 } xs = .ok st' := by
  obtain ⟨s1, h1, h2⟩ := (run_cons_ok_iff _ _ _ _).1 h
  obtain ⟨hn, hv, rfl⟩ := (stepN_ok_iff _ _ _).1 h1
  exact ⟨hn, hv, h2⟩

theorem run_append_ok_iff (st st' : St) (a b : Log) :
    run st (a ++ b) = .ok st' ↔ ∃ s1, run st a = .ok s1 ∧ run s1 b = .ok st' := by
  induction a generalizing st with
  | nil => simp [run_nil]
  | cons x xs ih =>
    simp only [List.cons_append, run_cons_ok_iff, ih]
    constructor
    · rintro ⟨s1, h1, s2, h2, h3⟩; exact ⟨s2, ⟨s1, h1, h2⟩, h3⟩
    · rintro ⟨s2, ⟨s1, h1, h2⟩, h3⟩; exact ⟨s1, h1, s2, h2, h3⟩

theorem check_iff (log : Log) : check log = true ↔ ∃ st, run St.init log = .ok st := by
  unfold check
  cases h : run St.init log with
  | error m => simp
  | ok st => simp

/-- an accepted log, cut in front of one of its effects: the effect is accepted in the state the prefix leaves -/
theorem check_cut (pre post : Log) (x : NEff) (h : check (pre ++ x :: post) = true) :
    ∃ st, run St.init pre = .ok st ∧ x.n = st.next ∧ violation st x.e = none := by
  obtain ⟨_, hst⟩ := (check_iff _).1 h
  obtain ⟨st, h1, h2⟩ := (run_append_ok_iff _ _ _ _).1 hst
  exact ⟨st, h1, (run_cons_ok _ _ _ _ h2).1, (run_cons_ok _ _ _ _ h2).2.1⟩

theorem run_next (st st' : St) (log : Log) (h : run st log = .ok st') : st'.next = st.next + log.length := by
  induction log generalizing st with
  | nil => cases h; rfl
  | cons x xs ih => rw [ih _ (run_cons_ok _ _ _ _ h).2.2, List.length_cons]; exact Nat.add_right_comm ..

theorem effect_puts_iff (st : St) (e : Eff) (s : Side) (t : Nat) :
    t ∈ ((effect st e).side s).puts ↔ t ∈ (st.side s).puts ∨ ∃ eng, e = .providerWrite s eng (some t) := by
  cases e with
  | providerWrite s' eng put =>
    cases put <;> by_cases hs : s = s' <;> simp [effect, side_setSide, hs, eq_comm, or_comm]
  | rowCreate | rowUpdate | rowDelete => cases s <;> simp [effect, St.side]
  | otherWrite => simp [effect]
  | cursorWrite s' | walkWrite s' | eventApplied s' => by_cases hs : s = s' <;> simp [effect, side_setSide, hs]

theorem effect_handled_iff (st : St) (e : Eff) (s : Side) (i : Nat) :
    i ∈ ((effect st e).side s).handled ↔ i ∈ (st.side s).handled ∨ ∃ r, e = .eventApplied s i r := by
  cases e with
  | eventApplied s' j r => by_cases hs : s = s' <;> simp [effect, side_setSide, hs, eq_comm, or_comm]
  | rowCreate | rowUpdate | rowDelete => cases s <;> simp [effect, St.side]
  | otherWrite => simp [effect]
  | cursorWrite s' | walkWrite s' | providerWrite s' => by_cases hs : s = s' <;> simp [effect, side_setSide, hs]

theorem effect_puts_mono (st : St) (e : Eff) (s : Side) (t : Nat) (h : t ∈ (st.side s).puts) :
    t ∈ ((effect st e).side s).puts :=
  (effect_puts_iff st e s t).2 (Or.inl h)

/-- a list kept per side that effects only add to (`puts`, `handled`) holds what it held at first and what the effects of the run added -/
theorem run_mem_iff (f : SideSt → List Nat) (added : Eff → Side → Nat → Prop)
    (hf : ∀ st e s t, t ∈ f ((effect st e).side s) ↔ t ∈ f (st.side s) ∨ added e s t)
    (st0 st : St) (pre : Log) (h : run st0 pre = .ok st) (s : Side) (t : Nat) :
    t ∈ f (st.side s) ↔ t ∈ f (st0.side s) ∨ ∃ y ∈ pre, added y.e s t := by
  induction pre generalizing st0 with
  | nil => cases h; simp
  | cons x xs ih =>
    rw [ih _ (run_cons_ok _ _ _ _ h).2.2,
      show ({ effect st0 x.e with next := st0.next + 1 } : St).side s = (effect st0 x.e).side s by cases s <;> rfl, hf]
    simp only [List.mem_cons, exists_eq_or_imp, or_assoc]

/-- `create_synced` over `_create_synced` (manager.py) as one table: the provider created the object; or it said "exists" and the
    object at the path is looked at (same content: adopted as if created; other content: punted, with a peer guess once the priority is
    positive; no object: punted or set aside); or another error, and nothing is recorded and nothing guessed -/
theorem createSynced_eq (cr : CreateRes) (ip : Option Info) (tempHash tp : Nat) (priority : Int) :
    createSynced cr ip tempHash tp priority =
      match cr, ip with
      | .ok oid hash path, _ => ⟨.finished, some (record ⟨oid, hash, path⟩ tp), none, false⟩
      | .existsErr, some i =>
        if tempHash = i.hash then ⟨.finished, some (record i tp), none, false⟩
        else ⟨.punt, none, if priority > 0 then some (i.oid, i.hash) else none, false⟩
      | .existsErr, none => if priority > 1 then ⟨.finished, none, none, true⟩ else ⟨.punt, none, none, false⟩
      | .notFoundErr, _ => ⟨if priority > 5 then .raised else .punt, none, none, false⟩
      | .nameErr, _ => ⟨.finished, none, none, true⟩
      | .otherErr, _ => ⟨.raised, none, none, false⟩ := by
  cases cr with
  | existsErr =>
    cases ip with
    | none =>
      by_cases h0 : priority > 0 <;> by_cases h1 : priority > 1 <;> simp [createSynced, createSyncedInner, h0, h1]
      -- left over: `priority > 1` without `priority > 0`, which cannot be
      omega
    | some i => by_cases hh : tempHash = i.hash <;> by_cases h0 : priority > 0 <;> simp [createSynced, createSyncedInner, hh, h0]
  | notFoundErr => by_cases h : priority > 5 <;> simp [createSynced, createSyncedInner, h]
  | _ => rfl

end CS.Spec.Crash
