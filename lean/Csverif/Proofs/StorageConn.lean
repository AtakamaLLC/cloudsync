import Csverif.Model.Storage
/- The connection level of Model/Storage.lean (`namespace Conn`), for Props/C09.lean: under a configuration in which every
   connection is in autocommit mode, the states the object can be in are `good c l` (the committed table and the lock bit),
   and on them `exec`, `reconnect` and `attempt` are computed outright. -/
namespace CS.Storage
namespace Conn
variable {V : Type}

/-- the configuration under which every connection the object can ever use is in autocommit mode -/
def Good (cfg : Cfg) : Prop := cfg.initAuto = true ∧ cfg.reconnAuto = true

def CInv (s : St V) : Prop := s.auto = true ∧ s.dirty = false ∧ s.view = s.committed

def good (c : Sqlite.Table V) (l : Bool) : St V := { committed := c, view := c, auto := true, dirty := false, locked := l }

theorem cinv_good (c : Sqlite.Table V) (l : Bool) : CInv (good c l) := ⟨rfl, rfl, rfl⟩

theorem CInv.eq_good {s : St V} (h : CInv s) : s = good s.committed s.locked := by
  obtain ⟨c, v, a, d, l⟩ := s
  obtain ⟨rfl, rfl, rfl⟩ : a = true ∧ d = false ∧ v = c := h
  rfl

/-- whether a call is acknowledged: a reopen always (its arm comes first, as in `Conn.step`); any other call unless the
    faults outlast the one retry, a write finds the file locked, or the fetch of a read fails -/
def acks (l : Bool) (o : Op V) (n : Nat) (ff : Bool) : Bool :=
  match o with
  | .reopen => true
  | _ => decide (n ≤ 1 ∧ (l && isWrite o) = false) && !(ff && usesFetch o)

theorem step_nonwrite (t : Sqlite.Table V) (o : Op V) (h : isWrite o = false) : (Sqlite.step t o).1 = t := by
  cases o with
  | create => simp [isWrite] at h
  | update => simp [isWrite] at h
  | delete => simp [isWrite] at h
  | read => rfl
  | readAll tg => cases tg <;> rfl
  | reopen => rfl

theorem exec_good (c : Sqlite.Table V) (l : Bool) (o : Op V) :
    exec (good c l) o = (good (Sqlite.step c o).1 l, (Sqlite.step c o).2) := by
  unfold exec
  cases hw : isWrite o
  · rw [step_nonwrite c o hw]; rfl
  · rfl

theorem reconnect_good (cfg : Cfg) (hc : Good cfg) (c : Sqlite.Table V) (l : Bool) : reconnect cfg (good c l) = good c l := by
  simp [reconnect, good, hc.2]

/-- `__db_execute` under a good configuration: the statement runs exactly once on the committed table (and is committed at
    once), unless the faults outlast the one retry or a write finds the file locked: then nothing has happened -/
theorem attempt_good (cfg : Cfg) (hc : Good cfg) (c : Sqlite.Table V) (l : Bool) (o : Op V) (n : Nat) :
    attempt cfg (good c l) o n =
      if n ≤ 1 ∧ (l && isWrite o) = false then (good (Sqlite.step c o).1 l, some (Sqlite.step c o).2) else (good c l, none) := by
  unfold attempt
  rw [reconnect_good cfg hc, exec_good]
  change (if n = 0 ∧ (l && isWrite o) = false then _ else if n ≤ 1 ∧ (l && isWrite o) = false then _ else _) = _
  by_cases h0 : n = 0
  · subst h0; split <;> simp_all
  · simp [h0]

theorem step_call (cfg : Cfg) (s : St V) {o : Op V} (ho : o ≠ .reopen) (n : Nat) (ff : Bool) :
    step cfg s (.call o n ff) =
      (match (attempt cfg s o n).2 with
       | none => ((attempt cfg s o n).1, .operationalError)
       | some r => if ff && usesFetch o then ((attempt cfg s o n).1, .operationalError) else ((attempt cfg s o n).1, .ok r)) := by
  cases o <;> first | rfl | exact absurd rfl ho

theorem acks_eq {o : Op V} (ho : o ≠ .reopen) (l : Bool) (n : Nat) (ff : Bool) :
    acks l o n ff = (decide (n ≤ 1 ∧ (l && isWrite o) = false) && !(ff && usesFetch o)) := by
  cases o <;> first | rfl | exact absurd rfl ho

/-- a call under a good configuration, computed: it is acknowledged with the result and the effect of the single-table model
    on the committed table, or `OperationalError` reaches the caller and nothing has happened (a fetch fault only hits reads,
    which change nothing) -/
theorem call_good (cfg : Cfg) (hc : Good cfg) (s : St V) (h : CInv s) (o : Op V) (n : Nat) (ff : Bool) :
    step cfg s (.call o n ff) =
      if acks s.locked o n ff then (good (Sqlite.step s.committed o).1 s.locked, .ok (Sqlite.step s.committed o).2)
      else (s, .operationalError) := by
  obtain ⟨c, l, rfl⟩ : ∃ c l, s = good c l := ⟨_, _, h.eq_good⟩
  change _ = if acks l o n ff then (good (Sqlite.step c o).1 l, CRes.ok (Sqlite.step c o).2) else _
  by_cases ho : o = .reopen
  · subst ho
    -- the reopened object's connection is the one `__init__` configures, or a replacement if the set-up hit a fault
    have ha : (if n = 0 then cfg.initAuto else cfg.reconnAuto) = true := by
      split
      · exact hc.1
      · exact hc.2
    simp [step, acks, good, ha, Sqlite.step]
  · rw [step_call cfg _ ho, attempt_good cfg hc, acks_eq ho]
    by_cases h1 : n ≤ 1 ∧ (l && isWrite o) = false
    · rw [if_pos h1, decide_eq_true h1, Bool.true_and]
      cases hf : (ff && usesFetch o)
      · rfl
      · have hw : isWrite o = false := by cases o <;> simp_all [usesFetch, isWrite]
        show (good (Sqlite.step c o).1 l, CRes.operationalError) = (good c l, _)
        rw [step_nonwrite c o hw]
    · rw [if_neg h1, decide_eq_false h1]
      rfl

end Conn
end CS.Storage
