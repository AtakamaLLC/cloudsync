import Csverif.Proofs.StateHook
/-
C11: a frame principle for the whole model.  Every operation writes the state through a handful of primitives only: the two writes
of each index, the push and pop of `_kids_moving` around `_update_kids`, and writes that touch neither the indexes nor that stack.
A reflexive and transitive relation between the state before and the state after that holds across each of these (`Walk`)
therefore holds across every operation, on every outcome (`keeps_step`); the `keeps_*` proofs follow the model line by line, one
`W.bind` per statement of the `do` block.  Instances: the `_kids_moving` stack (fix C) is left as it was found (`Mov`), and the
dictionary keys stay pairwise different (`Kp`, StateKeys.lean).
-/
namespace CS.State

def Keeps (R : St → St → Prop) {α} (m : M α) : Prop := ∀ st, R st (m st).2

theorem Ho.with_keeps {α} {st : St} {m : M α} {Q : α → St → Prop} {E : Exc → St → Prop} {R : St → St → Prop}
    (h : Ho st m Q E) (hk : Keeps R m) : Ho st m (fun a st' => Q a st' ∧ R st st') (fun x st' => E x st' ∧ R st st') :=
  ⟨fun a ha => ⟨h.1 a ha, hk st⟩, fun x hx => ⟨h.2 x hx, hk st⟩⟩

structure Walk (R : St → St → Prop) : Prop where
  refl : ∀ st, R st st
  trans : ∀ {a b c}, R a b → R b c → R a c
  eraseOid : ∀ st s k, R st (st.setOids s (AL.erase (st.oids s) k))
  setOid : ∀ st s k i, R st (st.setOids s (AL.set (st.oids s) k i))
  popPathSlot : ∀ st s p k, R st (st.popPathSlot s p k)
  setPathSlot : ∀ st s p k i, R st (st.setPathSlot s p k i)
  other : ∀ {st st' : St}, st'.ixL = st.ixL → st'.ixR = st.ixR → st'.moving = st.moving → R st st'
  pushPop : ∀ {st st' : St} {e}, R { st with moving := e :: st.moving } st' → R st { st' with moving := st'.moving.tail }

section
variable {R : St → St → Prop} (W : Walk R) {α β : Type}
include W

theorem Walk.pure (a : α) : Keeps R (Pure.pure a : M α) := fun st => W.refl st
theorem Walk.bind {m : M α} {f : α → M β} (h1 : Keeps R m) (h2 : ∀ a, Keeps R (f a)) : Keeps R (m >>= f) := by
  intro st
  simp only [M.bind_apply]
  have := h1 st
  cases hm : m st with
  | mk r st' =>
    rw [hm] at this
    cases r with
    | ok a => exact W.trans this (h2 a st')
    | error x => exact this
theorem Walk.getSt : Keeps R getSt := fun st => W.refl st
omit W in
theorem Walk.modify {f : St → St} (h : ∀ st, R st (f st)) : Keeps R (modifySt f) := h
theorem Walk.throw (x : Exc) : Keeps R (throwE x : M α) := fun st => W.refl st
theorem Walk.assert (b : Bool) : Keeps R (assertM b) := by intro st; rw [assertM_apply]; split <;> exact W.refl st
theorem Walk.when {c : Bool} {m : M Unit} (h : Keeps R m) : Keeps R (whenM c m) := by
  unfold whenM; cases c
  · exact W.pure ()
  · exact h
omit W in
theorem Walk.ite {c : Prop} [Decidable c] {a b : M α} (h : Keeps R a) (h' : Keeps R b) : Keeps R (if c then a else b) := by
  split <;> assumption

theorem walk_unindex (st s r p) : R st (unindex st s r p) := by
  unfold unindex
  dsimp only
  split
  · exact W.trans (W.eraseOid ..) (W.popPathSlot ..)
  · exact W.eraseOid ..

theorem walk_indexOid (st e s k) : R st (indexOid st e s k) := by
  unfold indexOid
  dsimp only
  have h1 : R st ((st.modSide e s fun x => { x with oid := k }).setOids s (AL.set (st.oids s) k e)) := by
    refine W.trans (W.other (st' := st.modSide e s fun x => { x with oid := k }) rfl rfl rfl) ?_
    rw [← oids_modSide st e s (fun x => { x with oid := k }) s]
    exact W.setOid ..
  split
  · exact W.trans h1 (W.setPathSlot ..)
  · exact h1

theorem walk_oidCsRule (st e s k) : R st (oidCsRule st e s k) := by
  unfold oidCsRule
  split <;> split <;> first | exact W.refl st | exact W.other rfl rfl rfl

theorem walk_ignoredState (st e v) : R st (ignoredState st e v) := by
  unfold ignoredState
  split
  · exact W.refl st
  · dsimp only; split <;> exact W.other rfl rfl rfl

theorem walk_existsState (st e s v) : R st (existsState st e s v) := by
  unfold existsState
  dsimp only
  split
  · exact W.other rfl rfl rfl
  · split <;> exact W.other rfl rfl rfl

theorem walk_hashState (st e s v) : R st (hashState st e s v) := by
  unfold hashState
  dsimp only
  split <;> exact W.other rfl rfl rfl

variable {setF : SetF} (h : ∀ e s fv, Keeps R (setF e s fv))
include h

theorem keeps_removeOne (s e r) : Keeps R (removeOne setF s e r) := by
  unfold removeOne
  refine W.bind W.getSt (fun st => ?_)
  split
  · exact W.pure _
  · exact W.bind (Walk.modify (fun _ => walk_unindex W ..)) (fun _ => W.when (h _ _ _))

theorem keeps_changeOid (s e oid) : Keeps R (changeOid setF s e oid) := by
  unfold changeOid
  refine W.bind W.getSt (fun st => ?_)
  refine W.bind (keeps_removeOne W h _ _ _) (fun _ => ?_)
  refine W.bind (W.when (keeps_removeOne W h _ _ _)) (fun _ => ?_)
  refine W.bind (W.when ?_) (fun _ => Walk.modify (fun _ => walk_oidCsRule W ..))
  exact W.bind (Walk.modify (fun _ => walk_indexOid W ..)) (fun _ => W.bind W.getSt (fun _ => W.assert _))

theorem keeps_bumpChanged (cfg e s) : Keeps R (bumpChanged setF cfg e s) := by
  unfold bumpChanged
  refine W.bind W.getSt (fun st => ?_)
  split
  · exact W.when (h _ _ _)
  · exact W.pure _

theorem keeps_setPriority (cfg e v) : Keeps R (setPriority setF cfg e v) := by
  unfold setPriority
  refine W.bind W.getSt (fun st => W.when ?_)
  exact W.bind (W.when (W.bind (keeps_bumpChanged W h _ _ _) (fun _ => keeps_bumpChanged W h _ _ _)))
    (fun _ => Walk.modify (fun _ => W.other rfl rfl rfl))

theorem keeps_fixSyncPath (cfg s sub prior path) : Keeps R (fixSyncPath setF cfg s sub prior path) := by
  unfold fixSyncPath
  refine W.bind W.getSt (fun st => ?_)
  split
  · split
    · exact h _ _ _
    · exact W.pure _
  · exact W.pure _

theorem keeps_moveKid (cfg s sub prior path rel) : Keeps R (moveKid setF cfg s sub prior path rel) := by
  unfold moveKid
  dsimp only
  refine W.bind (W.when ?_) (fun _ => W.bind (h _ _ _) (fun _ => keeps_fixSyncPath W h _ _ _ _ _))
  split
  · exact h _ _ _
  · exact W.pure _

theorem keeps_kidsLoop (cfg s prior path) : ∀ l, Keeps R (kidsLoop setF cfg s prior path l)
  | [] => W.pure _
  | sub :: rest => by
    unfold kidsLoop
    refine W.bind W.getSt (fun st => ?_)
    split
    · exact keeps_kidsLoop cfg s prior path rest
    · split
      · exact keeps_kidsLoop cfg s prior path rest
      · exact W.bind (keeps_moveKid W h _ _ _ _ _ _) (fun _ => keeps_kidsLoop cfg s prior path rest)

theorem keeps_updateKids (cfg s e prior path) : Keeps R (updateKids setF cfg s e prior path) := by
  intro st
  unfold updateKids
  rw [finallyM_apply]
  simp only [M.bind_apply, modifySt_apply]
  apply W.pushPop (e := e)
  unfold updateKidsOf
  refine W.bind W.getSt (fun st => ?_) _
  split
  · exact W.pure _
  · exact W.when (keeps_kidsLoop W h _ _ _ _ _)

theorem keeps_changePath (cfg s e path) : Keeps R (changePath setF cfg s e path) := by
  unfold changePath
  refine W.bind W.getSt (fun st => W.bind (W.assert _) (fun _ => ?_))
  dsimp only
  apply Walk.ite (W.pure _)
  refine W.bind (Walk.modify (fun st => ?_)) (fun _ => ?_)
  · split
    · exact W.popPathSlot ..
    · exact W.refl _
  have ho : ∀ pth, Keeps R (oustPathOwner s e pth) := by
    intro pth
    unfold oustPathOwner
    refine W.bind W.getSt (fun st => ?_)
    split
    · exact W.bind (W.assert _) (fun _ => Walk.modify (fun _ => W.other rfl rfl rfl))
    · exact W.pure _
  split
  · refine W.bind (ho _) (fun _ => W.bind (Walk.modify (fun st => W.trans (W.setPathSlot ..) (W.other rfl rfl rfl))) (fun _ => ?_))
    exact W.bind (keeps_updateKids W h _ _ _ _ _) (fun _ => keeps_setPriority W h _ _ _)
  · exact W.pure _

theorem keeps_updatedSide (cfg e s fv) : Keeps R (updatedSide setF cfg e s fv) := by
  unfold updatedSide
  refine W.bind ?_ (fun _ => Walk.modify (fun _ => W.other rfl rfl rfl))
  split
  · exact keeps_changePath W h _ _ _ _
  · exact keeps_changeOid W h _ _ _
  · unfold changedRule
    refine W.bind W.getSt (fun st => ?_)
    dsimp only
    exact Walk.ite (Walk.modify (fun _ => W.other rfl rfl rfl)) (Walk.modify (fun st => by split <;> exact W.other rfl rfl rfl))
  · exact W.pure _

theorem keeps_sideSetBody (cfg e s fv) : Keeps R (sideSetBody setF cfg e s fv) := by
  have hu : ∀ fv (f : Side → Side), Keeps R (updatedSide setF cfg e s fv >>= fun _ => modifySt fun st => st.modSide e s f) :=
    fun fv f => W.bind (keeps_updatedSide W h cfg e s fv) (fun _ => Walk.modify (fun _ => W.other rfl rfl rfl))
  cases fv
  case exists_ v => exact Walk.modify (fun _ => walk_existsState W ..)
  case hash v => exact Walk.modify (fun _ => walk_hashState W ..)
  case path v => exact hu _ _
  case oid v => exact hu _ _
  case changed v => exact hu _ _
  all_goals exact Walk.modify (fun _ => W.other rfl rfl rfl)

omit h
theorem keeps_sideSet (cfg : Cfg) : ∀ n e s fv, Keeps R (sideSet cfg n e s fv)
  | 0, _, _, _ => W.throw _
  | n + 1, e, s, fv => keeps_sideSetBody W (keeps_sideSet cfg n) cfg e s fv

variable (cfg : Cfg) (fuel : Nat)

theorem keeps_markChanged (s e) : Keeps R (markChanged cfg fuel s e) := by
  have hs := keeps_sideSet W cfg fuel
  unfold markChanged
  refine W.bind W.getSt (fun _ => W.bind (hs _ _ _) (fun _ => W.bind ?_ (fun _ => Walk.modify (fun st => ?_))))
  · unfold bumpPastLast
    refine W.bind W.getSt (fun st => ?_)
    split
    · exact W.when (hs _ _ _)
    · exact W.pure _
  · split
    · exact W.other rfl rfl rfl
    · exact W.refl _

theorem keeps_clearSide (e s) : Keeps R (clearSide cfg fuel e s) := by
  have hs := keeps_sideSet W cfg fuel e s
  exact W.bind (hs _) fun _ => W.bind (hs _) fun _ => W.bind (hs _) fun _ => W.bind (hs _) fun _ => W.bind (hs _) fun _ =>
    W.bind (hs _) fun _ => W.bind (hs _) fun _ => W.bind (hs _) fun _ => hs _

theorem keeps_newEntry (ot) : Keeps R (newEntry ot) := fun _ => W.other rfl rfl rfl

theorem keeps_setItem (dst side src srcSide) : Keeps R (setItem cfg fuel dst side src srcSide) := by
  have hs := keeps_sideSet W cfg fuel
  have hu := keeps_updatedSide W hs cfg dst side
  have hooks : ∀ v', Keeps R (setItemHooks cfg fuel dst side v') := by
    intro v'
    unfold setItemHooks
    dsimp only
    refine W.bind ?_ (fun _ => hu _)
    split <;> exact W.bind (hu _) (fun _ => hu _)
  unfold setItem
  refine W.bind W.getSt fun _ => W.bind (hs _ _ _) fun _ => W.bind (hs _ _ _) fun _ => W.bind W.getSt fun _ =>
    W.bind (W.assert _) fun _ => W.bind (hooks _) fun _ => Walk.modify fun _ => W.other rfl rfl rfl

theorem keeps_split (e) : Keeps R (split cfg fuel e) := by
  have ha : ∀ (b : St → Bool) {β} {f : M β}, Keeps R f → Keeps R (getSt >>= fun st => assertM (b st) >>= fun _ => f) :=
    fun b _ _ hf => W.bind W.getSt fun _ => W.bind (W.assert _) fun _ => hf
  have hmk := keeps_markChanged W cfg fuel
  have hs := keeps_sideSet W cfg fuel
  unfold split
  refine W.bind W.getSt fun _ => W.bind (keeps_newEntry W _) fun rep => ha _ <| W.bind (keeps_setItem W cfg fuel _ _ _ _) fun _ => ha _ <|
    W.bind W.getSt fun _ => W.bind (W.assert _) fun _ => W.bind (W.assert _) fun _ => W.bind (keeps_clearSide W cfg fuel _ _) fun _ => ha _ <|
    ha _ <| W.bind (hmk _ _) fun _ => W.bind (hmk _ _) fun _ => ha _ <| W.bind (hs _ _ _) fun _ => W.bind (hs _ _ _) fun _ => ha _ <| W.pure _

theorem keeps_updateEntry (ent s a) : Keeps R (updateEntry cfg fuel ent s a) := by
  have hs := fun e fv => keeps_sideSet W cfg fuel e s fv
  have hrd : Keeps R (replaceDiscarded cfg ent s a) := by
    unfold replaceDiscarded
    refine W.bind W.getSt (fun _ => ?_)
    split
    · exact Walk.ite (keeps_newEntry W _) (W.pure _)
    · exact W.pure _
  have hnk : Keeps R (notKnownCheck a) := by
    unfold notKnownCheck
    split
    · split
      · exact W.assert _
      · exact W.pure _
      · exact W.throw _
    · exact W.pure _
  have hmk : ∀ e, Keeps R (markIfChanged cfg fuel e s a) := by
    intro e
    unfold markIfChanged
    split
    · exact W.when (W.bind W.getSt fun _ => W.bind (W.assert _) fun _ => W.bind (keeps_markChanged W cfg fuel _ _) fun _ =>
        W.when (Walk.modify fun _ => W.other rfl rfl rfl))
    · exact W.pure _
  unfold updateEntry
  refine W.bind hrd fun e => W.bind (W.when (hs _ _)) fun _ => W.bind W.getSt fun _ => W.bind (W.when (hs _ _)) fun _ =>
    W.bind (W.when (hs _ _)) fun _ => W.bind (W.when (hs _ _)) fun _ => W.bind hnk fun _ => W.bind W.getSt fun _ => ?_
  dsimp only
  exact W.bind (W.when (hs _ _)) fun _ => W.bind W.getSt fun _ => W.bind (W.when (hs _ _)) fun _ => W.bind W.getSt fun _ =>
    W.bind (hs _ _) fun _ => hmk e

theorem keeps_setIgnored (e v) : Keeps R (setIgnored e v) := Walk.modify (fun _ => walk_ignoredState W ..)

theorem keeps_unignoreAll : ∀ (l : List Nat) (acc : Option Nat), Keeps R (unignoreAll l acc)
  | [], _ => W.pure _
  | i :: t, _ => by
    unfold unignoreAll
    exact W.bind W.getSt fun _ => W.bind (W.assert _) fun _ => W.bind (keeps_setIgnored W _ _) fun _ => keeps_unignoreAll t _

theorem keeps_update (s ot a prior) : Keeps R (update cfg fuel s ot a prior) := by
  have hre : ∀ ent pe, Keeps R (reusePrior s ent pe) := by
    intro ent pe
    unfold reusePrior
    exact W.bind W.getSt fun _ => Walk.ite (W.bind (keeps_setIgnored W _ _) fun _ => W.pure _) (W.pure _)
  have hmp : ∀ ent pe?, Keeps R (mergePrior cfg fuel s a ent pe?) := by
    intro ent pe?
    have hun := fun st : St => keeps_unignoreAll W (st.lookupPath s a.path true) ent
    unfold mergePrior
    refine W.bind W.getSt (fun st => ?_)
    split
    · refine Walk.ite (Walk.ite (W.bind ?_ fun _ => W.pure _) (W.pure _)) (Walk.ite (hun st) (W.pure _))
      split
      · exact W.when (keeps_setItem W cfg fuel _ _ _ _)
      · exact W.pure _
    · exact Walk.ite (hun st) (W.pure _)
  have hch : Keeps R (chooseEntry cfg fuel s ot a prior) := by
    unfold chooseEntry
    refine W.bind W.getSt (fun st => ?_)
    dsimp only
    refine W.bind (Walk.ite (W.bind ?_ fun _ => hmp _ _) (W.pure _)) (fun ent => ?_)
    · split
      · exact hre _ _
      · exact W.pure _
    · split
      · exact W.pure _
      · exact keeps_newEntry W _
  unfold update
  exact W.bind hch fun e => W.bind W.getSt fun _ => keeps_updateEntry W cfg fuel _ _ _

theorem keeps_forgetOid (s k) : Keeps R (forgetOid s k) := by
  unfold forgetOid
  refine W.bind W.getSt (fun st => ?_)
  split
  · exact W.pure _
  · exact Walk.modify fun st => W.trans (W.trans (W.eraseOid ..) (W.popPathSlot ..)) (W.other rfl rfl rfl)

/-- every operation but `reload`, which builds a new state -/
theorem keeps_step (op : Op) (hne : op ≠ .reload) : Keeps R (step cfg fuel op) := by
  have hs := keeps_sideSet W cfg fuel
  unfold step
  refine W.bind W.getSt (fun st => ?_)
  dsimp only
  apply Walk.ite (W.throw _)
  cases op with
  | tick ms => exact Walk.modify (fun _ => W.other rfl rfl rfl)
  | setSide e s fv => exact hs _ _ _
  | setIgnored e v => exact keeps_setIgnored W _ _
  | setPriority e v => exact keeps_setPriority W hs _ _ _
  | punt e => exact keeps_setPriority W hs _ _ _
  | unignore e r => exact W.bind (W.assert _) (fun _ => keeps_setIgnored W _ _)
  | update s ot a prior => exact keeps_update W cfg fuel _ _ _ _
  | updateEntry e s a => exact keeps_updateEntry W cfg fuel _ _ _
  | split e => exact W.bind (keeps_split W cfg fuel _) (fun _ => W.pure _)
  | setItem d sd s ss => exact keeps_setItem W cfg fuel _ _ _ _
  | forget s k => exact keeps_forgetOid W _ _
  | clear e s => exact keeps_clearSide W cfg fuel _ _
  | mark e s => exact keeps_markChanged W cfg fuel _ _
  | commit => exact Walk.modify (fun _ => W.other rfl rfl rfl)
  | reload => exact absurd rfl hne

end

def Mov {α} (m : M α) : Prop := ∀ st, (m st).2.moving = st.moving

section movproj
variable (st : St)
@[simp] theorem moving_setIx (s : Sd) (x) : (st.setIx s x).moving = st.moving := by cases s <;> rfl
@[simp] theorem moving_setOids (s : Sd) (o) : (st.setOids s o).moving = st.moving := by simp [St.setOids]
@[simp] theorem moving_setPaths (s : Sd) (o) : (st.setPaths s o).moving = st.moving := by simp [St.setPaths]
@[simp] theorem moving_modEnt (i : Nat) (f) : (st.modEnt i f).moving = st.moving := rfl
@[simp] theorem moving_modSide (i : Nat) (s : Sd) (f) : (st.modSide i s f).moving = st.moving := rfl
@[simp] theorem moving_csAdd (i : Nat) : (st.csAdd i).moving = st.moving := rfl
@[simp] theorem moving_csDiscard (i : Nat) : (st.csDiscard i).moving = st.moving := rfl
@[simp] theorem moving_dirtyAdd (i : Nat) : (st.dirtyAdd i).moving = st.moving := rfl
@[simp] theorem moving_popPathSlot (s : Sd) (p k) : (st.popPathSlot s p k).moving = st.moving := by
  unfold St.popPathSlot; split
  · rfl
  · dsimp only; split <;> simp
@[simp] theorem moving_setPathSlot (s : Sd) (p k) (i : Nat) : (st.setPathSlot s p k i).moving = st.moving := by simp [St.setPathSlot]
end movproj

theorem movWalk : Walk (fun st st' => st'.moving = st.moving) where
  refl _ := rfl
  trans h1 h2 := h2.trans h1
  eraseOid _ _ _ := moving_setOids ..
  setOid _ _ _ _ := moving_setOids ..
  popPathSlot _ _ _ _ := moving_popPathSlot ..
  setPathSlot _ _ _ _ _ := moving_setPathSlot ..
  other _ _ h := h
  pushPop h := by simp only [h, List.tail_cons]

theorem sideSet_moving (cfg : Cfg) (n : Nat) (e : Nat) (s : Sd) (fv : FV) (st : St) :
    (sideSet cfg n e s fv st).2.moving = st.moving := keeps_sideSet movWalk cfg n e s fv st

theorem mov_step (cfg : Cfg) (fuel : Nat) (op : Op) (h : op ≠ .reload) : Mov (step cfg fuel op) := keeps_step movWalk cfg fuel op h

end CS.State
