import Csverif.Model.Durable
/- The invariant behind durable coverage (`DC`, Model/Durable.lean; Props/C06Durable.lean concludes from it).  `DC` alone is not
   kept by the steps: writing the marker or the cursor needs that whatever is not stored yet is still in the dirty set, which the
   discipline `ok` requires to be empty at that moment.  `Aux` adds exactly that. -/
namespace CS.Durable

/-- what is in memory only is in the dirty set (or the walk is known to be incomplete) -/
def Aux (s : St) : Prop :=
  (∀ e ∈ s.found, e ∈ s.stored ∨ e ∈ s.dirty ∨ s.walkOk = false) ∧
  (∀ i ∈ s.seen, Ent.ev i ∈ s.stored ∨ Ent.ev i ∈ s.dirty)

theorem init_inv : DC {} ∧ Aux {} :=
  ⟨⟨nofun, nofun⟩, nofun, nofun⟩

theorem step_inv (s : St) (a : Step) (hok : ok s a = true) (h : DC s ∧ Aux s) : DC (step s a) ∧ Aux (step s a) := by
  obtain ⟨⟨hmark, hcur⟩, hfound, hseen⟩ := h
  cases a with
  | walkBegin => exact ⟨⟨fun _ => nofun, hcur⟩, nofun, hseen⟩
  | walkRecord k =>
    have hm : s.marker = false := by simpa [ok] using hok
    refine ⟨⟨(fun h => nomatch hm.symm.trans h), hcur⟩, fun e he => ?_, fun i hi => (hseen i hi).imp_right (List.mem_cons_of_mem _)⟩
    rcases List.mem_cons.1 he with rfl | he
    · exact Or.inr (Or.inl List.mem_cons_self)
    · exact (hfound e he).imp_right (Or.imp_left (List.mem_cons_of_mem _))
  | commit =>
    exact ⟨⟨fun hm e he => List.mem_append_right _ (hmark hm e he), fun p hp i hi hle => List.mem_append_right _ (hcur p hp i hi hle)⟩,
      fun e he => (hfound e he).elim (fun h => Or.inl (List.mem_append_right _ h)) fun h =>
        h.elim (fun h => Or.inl (List.mem_append_left _ h)) fun h => Or.inr (Or.inr h),
      fun i hi => Or.inl ((hseen i hi).elim (List.mem_append_right _) (List.mem_append_left _))⟩
  | writeMarker =>
    -- nothing is dirty and the walk lost nothing: all it found is stored
    obtain ⟨hd, hw⟩ : s.dirty = [] ∧ s.walkOk = true := by simpa [ok] using hok
    exact ⟨⟨fun _ e he => (hfound e he).elim id fun h => h.elim (fun h => nomatch hd ▸ h) (fun h => nomatch hw.symm.trans h), hcur⟩,
      hfound, hseen⟩
  | dropMarker => exact ⟨⟨nofun, hcur⟩, hfound, hseen⟩
  | writeCursor p =>
    have hd : s.dirty = [] := by simpa [ok] using hok
    exact ⟨⟨hmark, fun _ _ i hi _ => (hseen i hi).elim id (fun h => nomatch hd ▸ h)⟩, hfound, hseen⟩
  | processEvent i =>
    -- `i` is recorded only if it lies beyond the stored cursor, so the cursor does not vouch for it
    have hs : ∀ j ∈ (step s (.processEvent i)).seen, j ∈ s.seen ∨ (j = i ∧ below s.cursor i = false) := by
      intro j hj
      simp only [step] at hj
      split at hj
      · exact Or.inl hj
      · rename_i hb
        exact (List.mem_cons.1 hj).elim (fun e => Or.inr ⟨e, Bool.eq_false_iff.2 hb⟩) Or.inl
    refine ⟨⟨hmark, fun p hp j hj hle => ?_⟩, fun e he => (hfound e he).imp_right (Or.imp_left (List.mem_cons_of_mem _)),
      fun j hj => ?_⟩
    · rcases hs j hj with h | ⟨rfl, hb⟩
      · exact hcur p hp j h hle
      · rw [show s.cursor = some p from hp] at hb
        exact absurd hle (by simpa [below] using hb)
    · rcases hs j hj with h | ⟨rfl, -⟩
      · exact (hseen j h).imp_right (List.mem_cons_of_mem _)
      · exact Or.inr List.mem_cons_self
  | fault => exact ⟨⟨hmark, hcur⟩, hfound, hseen⟩
  | restart =>
    -- memory is dropped: what is not stored is forgotten by the ghosts too
    refine ⟨⟨hmark, fun p hp i hi hle => hcur p hp i (List.mem_filter.1 hi).1 hle⟩, fun e he => ?_,
      fun i hi => Or.inl (List.contains_iff_mem.1 (List.mem_filter.1 hi).2)⟩
    by_cases hs : e ∈ s.stored
    · exact Or.inl hs
    · exact Or.inr (Or.inr (by
        simp only [step, Bool.and_eq_false_iff, List.all_eq_false]
        exact Or.inr ⟨e, he, by simpa using hs⟩))
  | extCursorLost => exact ⟨⟨hmark, nofun⟩, hfound, hseen⟩
  | extMarkerLost => exact ⟨⟨nofun, hcur⟩, hfound, hseen⟩
  | forget => exact init_inv

theorem disciplined_prefix (s : St) (a b : List Step) (h : Disciplined s (a ++ b)) : Disciplined s a := by
  induction a generalizing s with
  | nil => trivial
  | cons x xs ih => exact ⟨h.1, ih _ h.2⟩

theorem run_inv (s : St) (steps : List Step) (hd : Disciplined s steps) (h : DC s ∧ Aux s) :
    DC (run s steps) ∧ Aux (run s steps) := by
  induction steps generalizing s with
  | nil => exact h
  | cons a as ih => exact ih (step s a) hd.2 (step_inv s a hd.1 h)

end CS.Durable
