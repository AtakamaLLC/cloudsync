import Csverif.Proofs.MockPath
import Csverif.Proofs.TreeLemmas
/- The invariant `Inv` of the mock's object table and the simulation relation `Rel` with the reference tree; under `Inv`,
   `Rel` says that the tree's entries are exactly the live heap cells (`Rel.mem_iff`, `rel_of_mem_iff`). -/
namespace CS.MockFS
open CS.Path
open CS.Tree (Kind Err)
variable {C H : Type}

/-- what is *live* under a dict key (a path key or an id): `getObj`, then the `live` test -/
def pv (s : St C) (k : Str) : Option (Nat × Obj C) :=
  match getObj s k with
  | some (h, o) => if o.live then some (h, o) else none
  | none => none

theorem infoPath_eq (c : Cfg) (s : St C) (p : Str) : infoPath c s p = pv s (norm c p) := rfl

theorem liveObj_eq (s : St C) (oid : Str) : liveObj s oid = (pv s oid).map (·.2) := by
  unfold liveObj pv
  cases getObj s oid with
  | none => rfl
  | some ho =>
    obtain ⟨h, o⟩ := ho
    simp only
    split <;> rfl

theorem getObj_some {s : St C} {k : Str} {h : Nat} {o : Obj C} :
    getObj s k = some (h, o) ↔ dget s.dict k = some h ∧ s.heap[h]? = some o := by
  unfold getObj
  cases dget s.dict k with
  | none => simp
  | some h' =>
    simp only [Option.map_eq_some_iff, Prod.mk.injEq, Option.some.injEq]
    constructor
    · rintro ⟨o', h1, rfl, rfl⟩; exact ⟨rfl, h1⟩
    · rintro ⟨rfl, h1⟩; exact ⟨o, h1, rfl, rfl⟩

theorem pv_some {s : St C} {k : Str} {h : Nat} {o : Obj C} :
    pv s k = some (h, o) ↔ dget s.dict k = some h ∧ s.heap[h]? = some o ∧ o.live = true := by
  rw [← and_assoc, ← getObj_some]
  unfold pv
  cases getObj s k with
  | none => simp
  | some ho =>
    obtain ⟨h', o'⟩ := ho
    by_cases hl : o'.live = true
    · simp only [hl, if_true, Option.some.injEq, Prod.mk.injEq]
      constructor
      · rintro ⟨rfl, rfl⟩; exact ⟨⟨rfl, rfl⟩, hl⟩
      · exact fun e => e.1
    · simp only [hl, if_false, Option.some.injEq, Prod.mk.injEq, reduceCtorEq, false_iff]
      rintro ⟨⟨rfl, rfl⟩, h2⟩; exact hl h2

theorem pv_of_getObj {s : St C} {k : Str} {h : Nat} {o : Obj C} (hg : getObj s k = some (h, o)) :
    pv s k = if o.live then some (h, o) else none := by
  unfold pv; rw [hg]

theorem pv_of_getObj_none {s : St C} {k : Str} (hg : getObj s k = none) : pv s k = none := by
  unfold pv; rw [hg]

/-- the calls that take an id match on `getObj` and then test `live`; `pv` is the two in one -/
theorem pv_cases (s : St C) (k : Str) :
    (pv s k = none ∧ (getObj s k = none ∨ ∃ h o, getObj s k = some (h, o) ∧ o.live = false)) ∨
    ∃ h o, pv s k = some (h, o) ∧ getObj s k = some (h, o) ∧ s.heap[h]? = some o ∧ o.live = true := by
  cases hg : getObj s k with
  | none => exact .inl ⟨pv_of_getObj_none hg, .inl rfl⟩
  | some ho =>
    cases hl : ho.2.live with
    | false => exact .inl ⟨by rw [pv_of_getObj hg, hl]; rfl, .inr ⟨ho.1, ho.2, rfl, hl⟩⟩
    | true => exact .inr ⟨ho.1, ho.2, by rw [pv_of_getObj hg, hl]; rfl, rfl, (getObj_some.1 hg).2, hl⟩

def nodeOf (c : Cfg) (o : Obj C) : Tree.Node C := { kind := o.kind, content := o.contents, disp := Path.C c o.path }

def tcfg (c : Cfg) (fl : Flavour) : Tree.Cfg :=
  { cs := c.cs, lower := c.lower, badName := fun n => fl.forbidden.any (fun ch => n.contains ch), nameFirst := true }

theorem tfold_eq (c : Cfg) (fl : Flavour) (l : List Str) : Tree.fold (tcfg c fl) l = foldL c l := by
  unfold Tree.fold foldL
  congr 1
  funext n
  unfold Tree.foldName fold cfold tcfg
  cases c.cs <;> simp

/-- the path configuration the mock proofs assume.  On top of C13's `Cfg.Ok`: the separator is '/' (`COk`), and lower-casing
    sends nothing new onto the alternative separator.  True of every mock flavour (`mkCfg_COk2`). -/
structure COk2 (c : Cfg) : Prop extends COk c where
  lowerAlt : ∀ a, c.alt = some a → ∀ x, c.lower x = a → x = a

/-- a path argument in the form the contract quantifies over: separator, then non-empty
    separator-free names joined by single separators (for path-style providers also case-folded:
    see the open findings `mock-path-ci-recreate-hits-tombstone`, `mock-path-ci-listdir-twice`) -/
def Clean (c : Cfg) (fl : Flavour) (p : Str) : Prop :=
  ∃ l, Comps c l ∧ p = canon c.sep l ∧ (fl.oip = true → foldL c l = l)

/-- The object table of mock.py: `_objects` files one object under its normalised path and under its oid.
    * `nodup`, `valsLt`: the dict is a map into the heap.
    * `pathKey`, `idKeyOid` (id style), `pathKeysHead` (path style): a key that points at a cell is that cell's own path key or
      id.  This holds of tombstones too, because `_delete` keeps the keys.
    * `filed`, `oidFiled`: `store` files an object under both keys (mock.py:53-56).  Only for live cells: a later `create` at the
      same path takes a tombstone's path key away.
    * `clean`, and the shape of ids: `pathOid` (path style: the id is the path); `idHead`, `idAll`, `idKeys`, `oidUnique` (id style:
      `nextId` stands in for `id()`, so ids are renderings of smaller counters and distinct). -/
structure Inv (c : Cfg) (fl : Flavour) (s : St C) : Prop where
  nodup   : (s.dict.map (·.1)).Nodup
  valsLt  : ∀ (k : Str) (h : Nat), dget s.dict k = some h → h < s.heap.length
  clean   : ∀ (h : Nat) (o : Obj C), s.heap[h]? = some o → Clean c fl o.path
  pathKey : ∀ (k : Str) (h : Nat) (o : Obj C), k.head? = some '/' → dget s.dict k = some h → s.heap[h]? = some o → norm c o.path = k
  filed   : ∀ (h : Nat) (o : Obj C), s.heap[h]? = some o → o.live = true → dget s.dict (norm c o.path) = some h
  oidFiled : ∀ (h : Nat) (o : Obj C), s.heap[h]? = some o → o.live = true → dget s.dict o.oid = some h
  pathOid : fl.oip = true → ∀ (h : Nat) (o : Obj C), s.heap[h]? = some o → o.oid = o.path
  idHead  : fl.oip = false → ∀ (h : Nat) (o : Obj C), s.heap[h]? = some o → o.oid.head? ≠ some '/'
  idKeys  : fl.oip = false → ∀ (k : Str) (h : Nat), dget s.dict k = some h → k.head? ≠ some '/' →
              ∃ n, n < s.nextId ∧ k = (toString n).toList
  pathKeysHead : fl.oip = true → ∀ (k : Str) (h : Nat), dget s.dict k = some h → k.head? = some '/'
  idKeyOid : fl.oip = false → ∀ (k : Str) (h : Nat) (o : Obj C), k.head? ≠ some '/' → dget s.dict k = some h →
              s.heap[h]? = some o → o.oid = k
  idAll   : fl.oip = false → ∀ (h : Nat) (o : Obj C), s.heap[h]? = some o → ∃ n, n < s.nextId ∧ o.oid = (toString n).toList
  oidUnique : fl.oip = false → ∀ (h h' : Nat) (o o' : Obj C), s.heap[h]? = some o → s.heap[h']? = some o' →
              o.oid = o'.oid → h = h'

/-- simulation relation: the live part of the path view is the tree.  `keys` is a clause of its own because `get` only looks
    at component lists, so an entry under another key would go unseen. -/
structure Rel (c : Cfg) (s : St C) (t : Tree.T C) : Prop where
  get    : ∀ k, Comps c k → Tree.get t k = (pv s (canon c.sep k)).map (fun ho => nodeOf c ho.2)
  keys   : ∀ e ∈ t, Comps c e.1
  tnodup : (t.map (·.1)).Nodup

theorem getObj_heap_append {c : Cfg} {fl : Flavour} {s : St C} (hi : Inv c fl s) (o : Obj C) (n : Nat) (k : Str) :
    getObj { s with heap := s.heap ++ [o], nextId := n } k = getObj s k := by
  unfold getObj
  cases hd : dget s.dict k with
  | none => rfl
  | some h => simp only; rw [List.getElem?_append_left (hi.valsLt k h hd)]

theorem getObj_events (s : St C) (ev : List MEv) (k : Str) : getObj { s with events := ev } k = getObj s k := rfl

theorem pv_registerEvent (s : St C) (a : Action) (o : Obj C) (p : Option Str) (k : Str) :
    pv (registerEvent s a o p) k = pv s k := rfl

theorem getObj_heap_set (s : St C) (h0 : Nat) (o' : Obj C) (k : Str) (hlt : h0 < s.heap.length) :
    getObj { s with heap := s.heap.set h0 o' } k =
      match dget s.dict k with
      | none => none
      | some h => if h = h0 then some (h0, o') else (s.heap[h]?).map (fun o => (h, o)) := by
  unfold getObj
  cases hd : dget s.dict k with
  | none => rfl
  | some h =>
    simp only [List.getElem?_set]
    by_cases he : h = h0
    · subst he; simp [hlt]
    · have : ¬ h0 = h := fun e => he e.symm
      simp [he, this]

theorem clean_C {c : Cfg} (hc : COk2 c) {fl : Flavour} {p : Str} (h : Clean c fl p) :
    Comps c (Path.C c p) ∧ p = canon c.sep (Path.C c p) ∧ (fl.oip = true → foldL c (Path.C c p) = Path.C c p) := by
  obtain ⟨l, hl, rfl, hf⟩ := h
  rw [C_canon hc.ok hl]
  exact ⟨hl, rfl, hf⟩

theorem comps_foldL_ok {c : Cfg} (hc : COk2 c) {l : List Str} (hl : Comps c l) : Comps c (foldL c l) :=
  hl.mapFold hc.ok fun _ => hc.lowerAlt

/- The key an object is filed under in the dict (`norm c p`) and the key it has in the tree (`foldL c (Path.C c p)`) determine
   each other, for every string `p`: cleanness of `p` plays no part in it. -/
theorem norm_eq {c : Cfg} (hc : COk2 c) (p : Str) : norm c p = canon c.sep (foldL c (Path.C c p)) :=
  normalizePath_false_form hc.ok p

theorem comps_key {c : Cfg} (hc : COk2 c) (p : Str) : Comps c (foldL c (Path.C c p)) :=
  comps_foldL_ok hc (comps_C' hc.ok p)

theorem norm_eq_iff {c : Cfg} (hc : COk2 c) {p q : Str} :
    norm c p = norm c q ↔ foldL c (Path.C c p) = foldL c (Path.C c q) := by
  rw [norm_eq hc, norm_eq hc]
  exact ⟨canon_inj (comps_key hc p).1 (comps_key hc q).1, congrArg _⟩

theorem foldL_idem {c : Cfg} (hc : COk2 c) (l : List Str) : foldL c (foldL c l) = foldL c l := by
  unfold foldL fold
  simp only [List.map_map]
  congr 1
  funext s
  simp only [Function.comp, List.map_map]
  congr 1
  funext x
  exact cfold_idem hc.ok x

theorem pv_canon_iff {c : Cfg} (hc : COk2 c) {fl : Flavour} {s : St C} (hi : Inv c fl s) {k : List Str} (hk : Comps c k)
    {h : Nat} {o : Obj C} :
    pv s (canon c.sep k) = some (h, o) ↔ s.heap[h]? = some o ∧ o.live = true ∧ foldL c (Path.C c o.path) = k := by
  rw [pv_some]
  constructor
  · rintro ⟨h1, h2, h3⟩
    refine ⟨h2, h3, ?_⟩
    have := hi.pathKey _ h o (head_canon _ _ ▸ (by rw [hc.sep])) h1 h2
    rw [norm_eq hc] at this
    exact canon_inj (comps_key hc _).1 hk.1 this
  · rintro ⟨h1, h2, h3⟩
    refine ⟨?_, h1, h2⟩
    have := hi.filed h o h1 h2
    rw [norm_eq hc, h3] at this
    exact this

theorem pv_norm_iff {c : Cfg} (hc : COk2 c) {fl : Flavour} {s : St C} (hi : Inv c fl s) {p : Str} {h : Nat} {o : Obj C} :
    pv s (norm c p) = some (h, o) ↔
      s.heap[h]? = some o ∧ o.live = true ∧ foldL c (Path.C c o.path) = foldL c (Path.C c p) := by
  rw [norm_eq hc]
  exact pv_canon_iff hc hi (comps_key hc p)

theorem Rel.mem_iff {c : Cfg} (hc : COk2 c) {fl : Flavour} {s : St C} {t : Tree.T C} (hi : Inv c fl s) (hr : Rel c s t)
    {k : List Str} {n : Tree.Node C} :
    (k, n) ∈ t ↔ ∃ (j : Nat) (ob : Obj C), s.heap[j]? = some ob ∧ ob.live = true ∧ foldL c (Path.C c ob.path) = k ∧ nodeOf c ob = n := by
  constructor
  · intro hm
    have hk := hr.keys _ hm
    have hg := Tree.get_of_mem hr.tnodup hm
    rw [hr.get k hk] at hg
    cases hp : pv s (canon c.sep k) with
    | none => rw [hp] at hg; cases hg
    | some jo =>
      rw [hp] at hg
      obtain ⟨h1, h2, h3⟩ := (pv_canon_iff hc hi hk).1 hp
      exact ⟨jo.1, jo.2, h1, h2, h3, Option.some.inj hg⟩
  · rintro ⟨j, ob, h1, h2, rfl, rfl⟩
    have hk := comps_key hc ob.path
    apply Tree.mem_of_get
    rw [hr.get _ hk, (pv_canon_iff hc hi hk).2 ⟨h1, h2, rfl⟩]; rfl

theorem rel_of_mem_iff {c : Cfg} (hc : COk2 c) {fl : Flavour} {s : St C} {t : Tree.T C} (hi : Inv c fl s)
    (hnd : (t.map (·.1)).Nodup)
    (h : ∀ k n, (k, n) ∈ t ↔
      ∃ (j : Nat) (ob : Obj C), s.heap[j]? = some ob ∧ ob.live = true ∧ foldL c (Path.C c ob.path) = k ∧ nodeOf c ob = n) :
    Rel c s t := by
  refine ⟨fun k hk => ?_, fun e he => ?_, hnd⟩
  · cases hp : pv s (canon c.sep k) with
    | some jo =>
      obtain ⟨h1, h2, h3⟩ := (pv_canon_iff hc hi hk).1 hp
      exact Tree.get_of_mem hnd ((h _ _).2 ⟨_, _, h1, h2, h3, rfl⟩)
    | none =>
      cases hg : Tree.get t k with
      | none => rfl
      | some n =>
        obtain ⟨j, ob, h1, h2, h3, _⟩ := (h _ _).1 (Tree.mem_of_get hg)
        rw [(pv_canon_iff hc hi hk).2 ⟨h1, h2, h3⟩] at hp; cases hp
  · obtain ⟨j, ob, h1, _, h3, _⟩ := (h e.1 e.2).1 he
    exact h3 ▸ comps_key hc ob.path

end CS.MockFS
