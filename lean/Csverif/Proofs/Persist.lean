import Csverif.Model.Codec
import Csverif.Proofs.Assoc
/- For Props/C08.lean: a frame calculus for the hook code of Model/Codec.lean (`CS.Persist`).  `LeX` says what a piece of hook
   code may change, `Pres` that it keeps to that; `Hooked` adds the one postcondition needed. -/
namespace CS.Persist
open CS.Codec CS.Storage

/-- entry `i` may differ from its stored row: it is waiting in the dirty set, or it was changed on
    a path that reaches no dirty mark (ghost) -/
def Covered (st : St) (i : Nat) : Prop := i ∈ st.dirty ∨ i ∈ st.silent

/-- What hook code may do to the state.  `x` is the entry whose own hook is still running (it may
    be written before its dirty mark).  Storage, storage ids and the number of entries are untouched;
    an entry whose content changes is covered. -/
structure LeX (x : Option Nat) (a b : St) : Prop where
  store : b.store = a.store
  len : b.ents.length = a.ents.length
  cov : ∀ i : Nat, Covered a i → Covered b i
  ents : ∀ i : Nat, b.ents[i]? = a.ents[i]? ∨ Covered b i ∨ x = some i
  sid : ∀ i : Nat, (b.ents[i]?).map Entry.storageId = (a.ents[i]?).map Entry.storageId

theorem LeX.refl (x : Option Nat) (a : St) : LeX x a a :=
  ⟨rfl, rfl, fun _ h => h, fun _ => Or.inl rfl, fun _ => rfl⟩

theorem LeX.trans {x : Option Nat} {a b c : St} (h1 : LeX x a b) (h2 : LeX x b c) : LeX x a c where
  store := h2.store.trans h1.store
  len := h2.len.trans h1.len
  cov := fun i h => h2.cov i (h1.cov i h)
  ents := fun i => by
    rcases h2.ents i with h | h | h
    · rcases h1.ents i with g | g | g
      · exact Or.inl (h.trans g)
      · exact Or.inr (Or.inl (h2.cov i g))
      · exact Or.inr (Or.inr g)
    · exact Or.inr (Or.inl h)
    · exact Or.inr (Or.inr h)
  sid := fun i => (h2.sid i).trans (h1.sid i)

theorem LeX.same {x : Option Nat} {a b : St} (hs : b.store = a.store) (he : b.ents = a.ents) (hd : b.dirty = a.dirty)
    (hl : b.silent = a.silent) : LeX x a b :=
  ⟨hs, by rw [he], fun _ h => by unfold Covered at *; rwa [hd, hl], fun _ => Or.inl (by rw [he]), fun _ => by rw [he]⟩

theorem LeX.mono {x y : Option Nat} {a b : St} (h : LeX x a b) (hx : ∀ i, x = some i → Covered b i ∨ y = some i) : LeX y a b :=
  ⟨h.store, h.len, h.cov, fun i => (h.ents i).imp_right fun g => g.elim .inl (hx i), h.sid⟩

theorem LeX.weaken {x : Option Nat} {a b : St} (h : LeX none a b) : LeX x a b := h.mono nofun

theorem LeX.close {i : Nat} {a b : St} (h : LeX (some i) a b) (hc : Covered b i) : LeX none a b :=
  h.mono fun _ e => .inl (Option.some.inj e ▸ hc)

/-- `m` keeps the frame from every start state, whatever its outcome -/
structure Pres {α} (x : Option Nat) (m : M α) : Prop where
  run : ∀ a, LeX x a (m a).2

theorem bind_run {α β} (m : M α) (f : α → M β) (a : St) :
    (m >>= f) a = (match m a with
      | (.ok r, s') => f r s'
      | (.error e, s') => (.error e, s')) := rfl

theorem Pres_bind {α β} {x : Option Nat} {m : M α} {f : α → M β} (h1 : Pres x m) (h2 : ∀ r, Pres x (f r)) :
    Pres x (m >>= f) := by
  constructor
  intro a
  rw [bind_run]
  have := h1.run a
  rcases hm : m a with ⟨r | r, s'⟩
  · simpa [hm] using this
  · simp only [hm] at this ⊢
    exact this.trans ((h2 r).run s')

theorem Pres_pure {α} {x : Option Nat} {r : α} : Pres x (pure r : M α) := ⟨fun a => LeX.refl x a⟩
theorem Pres_raise {α} {x : Option Nat} {e : HErr} : Pres x (raise e : M α) := ⟨fun a => LeX.refl x a⟩
theorem Pres_getSt {x : Option Nat} : Pres x getSt := ⟨fun a => LeX.refl x a⟩
theorem Pres_getEnt {x : Option Nat} {i : Nat} : Pres x (getEnt i) := ⟨fun a => LeX.refl x a⟩
theorem Pres_getSide {x : Option Nat} {i : Nat} {sd : Sd} : Pres x (getSide i sd) := ⟨fun a => LeX.refl x a⟩
theorem Pres_weaken {α} {x : Option Nat} {m : M α} (h : Pres none m) : Pres x m := ⟨fun a => (h.run a).weaken⟩

theorem Pres_forEach {α} {x : Option Nat} {l : List α} {f : α → M Unit} (h : ∀ y, Pres x (f y)) :
    Pres x (forEach l f) := by
  induction l with
  | nil => exact Pres_pure
  | cons y ys ih => exact Pres_bind (h y) fun _ => ih

theorem setIx_ents (s : St) (sd : Sd) (ix : SideIdx) : (s.setIx sd ix).ents = s.ents := by
  cases sd <;> rfl

theorem Pres_modIx {x : Option Nat} {sd : Sd} {f : SideIdx → SideIdx} : Pres x (modIx sd f) := by
  constructor
  intro a
  cases sd <;> exact .same rfl rfl rfl rfl

theorem Pres_modChangeset {x : Option Nat} {f : List Nat → List Nat} : Pres x (modChangeset f) :=
  ⟨fun _ => .same rfl rfl rfl rfl⟩

theorem Pres_modMoving {x : Option Nat} {f : List Nat → List Nat} : Pres x (modMoving f) :=
  ⟨fun _ => .same rfl rfl rfl rfl⟩

/-- `try … finally` with a handler that only touches `_kids_moving` -/
theorem Pres_finallyM {α} {x : Option Nat} {m : M α} {f : List Nat → List Nat} (h : Pres x m) :
    Pres x (finallyM m fun s => { s with moving := f s.moving }) := by
  constructor
  intro a
  have := h.run a
  simp only [finallyM]
  rcases hm : m a with ⟨r, s'⟩
  simp only [hm] at this ⊢
  exact this.trans (.same rfl rfl rfl rfl)

theorem mem_sadd {s : List Nat} {x y : Nat} : y ∈ sadd s x ↔ y ∈ s ∨ y = x :=
  mem_ite_snoc List.contains_iff_mem.1

theorem mem_sdiscard {s : List Nat} {x y : Nat} : y ∈ sdiscard s x ↔ y ∈ s ∧ y ≠ x := by
  simp [sdiscard]

theorem covered_markDirty (a : St) (i j : Nat) (h : Covered a j) :
    Covered { a with dirty := sadd a.dirty i, silent := sdiscard a.silent i } j := by
  rcases h with h | h
  · exact Or.inl (mem_sadd.2 (Or.inl h))
  · by_cases hj : j = i
    · exact Or.inl (mem_sadd.2 (Or.inr hj))
    · exact Or.inr (mem_sdiscard.2 ⟨h, hj⟩)

theorem Pres_markDirty {x : Option Nat} (i : Nat) : Pres x (markDirty i) :=
  ⟨fun a => ⟨rfl, rfl, fun j h => covered_markDirty a i j h, fun _ => Or.inl rfl, fun _ => rfl⟩⟩

/-- the state change of `markSilent i`, which is also what `hookBody` does to the state when a hook ends in an exception -/
def silentMark (i : Nat) (s : St) : St :=
  { s with silent := if s.dirty.contains i then s.silent else sadd s.silent i }

theorem covered_silentMark (a : St) (i : Nat) : Covered (silentMark i a) i := by
  unfold silentMark Covered
  by_cases h : a.dirty.contains i
  · left; simpa using h
  · right; simp only [h]; exact mem_sadd.2 (Or.inr rfl)

theorem covered_silentMark_mono (a : St) (i j : Nat) (h : Covered a j) : Covered (silentMark i a) j := by
  unfold silentMark
  rcases h with h | h
  · exact Or.inl h
  · right
    show j ∈ (if a.dirty.contains i then a.silent else sadd a.silent i)
    split
    · exact h
    · exact mem_sadd.2 (Or.inl h)

theorem LeX_silentMark (x : Option Nat) (a : St) (i : Nat) : LeX x a (silentMark i a) :=
  ⟨rfl, rfl, fun j h => covered_silentMark_mono a i j h, fun _ => Or.inl rfl, fun _ => rfl⟩

theorem Pres_markSilent {x : Option Nat} (i : Nat) : Pres x (markSilent i) := ⟨fun a => LeX_silentMark x a i⟩

theorem getElem?_modify_map {α β} (l : List α) (i j : Nat) (f : α → α) (g : α → β) (hf : ∀ e, g (f e) = g e) :
    ((l.modify i f)[j]?).map g = (l[j]?).map g := by
  rw [List.getElem?_modify]
  split <;> cases l[j]? <;> simp [hf]

theorem Pres_rawEnt_self {i : Nat} {f : Entry → Entry} (hf : ∀ e, (f e).storageId = e.storageId) :
    Pres (some i) (rawEnt i f) := by
  constructor
  intro a
  refine ⟨rfl, by simp [rawEnt, modSt], fun _ h => h, fun j => ?_, fun j => getElem?_modify_map _ _ _ _ _ hf⟩
  by_cases h : i = j
  · exact Or.inr (Or.inr (by rw [h]))
  · left
    simp [rawEnt, modSt, h]

theorem setSide_sid (e : Entry) (sd : Sd) (s : Side) : (e.setSide sd s).storageId = e.storageId := by
  cases sd <;> rfl

theorem Pres_rawSide_self {i : Nat} {sd : Sd} {f : Side → Side} : Pres (some i) (rawSide i sd f) :=
  Pres_rawEnt_self fun e => setSide_sid e sd _

/-- a direct write to some entry `j`, immediately followed by the ghost mark -/
theorem Pres_rawSide_markSilent {β} {x : Option Nat} {j : Nat} {sd : Sd} {f : Side → Side} {k : Unit → M β}
    (hk : ∀ r, Pres x (k r)) : Pres x (rawSide j sd f >>= fun _ => markSilent j >>= k) := by
  constructor
  intro a
  have h := ((Pres_rawSide_self (i := j) (sd := sd) (f := f)).run a).trans (LeX_silentMark (some j) _ j)
  exact (h.close (covered_silentMark _ j)).weaken.trans ((hk ()).run _)

theorem Pres_ite {α} {x : Option Nat} {c : Prop} [Decidable c] {m₁ m₂ : M α} (h₁ : Pres x m₁) (h₂ : Pres x m₂) :
    Pres x (if c then m₁ else m₂) := by
  split <;> assumption

/-- a hook of entry `i`: it keeps the frame while it runs, and entry `i` is covered when it returns normally -/
structure Hooked {α} (i : Nat) (m : M α) : Prop where
  pres : Pres (some i) m
  covered : ∀ a r, (m a).1 = .ok r → Covered (m a).2 i

theorem bind_ok {α β} {m : M α} {f : α → M β} {a : St} {r : β} (h : ((m >>= f) a).1 = .ok r) :
    ∃ r', (m a).1 = .ok r' ∧ (m >>= f) a = f r' (m a).2 := by
  rw [bind_run] at h ⊢
  rcases hm : m a with ⟨e | r', s'⟩
  · simp [hm] at h
  · exact ⟨r', rfl, rfl⟩

theorem Hooked_bind {α β} {i : Nat} {m : M α} {f : α → M β} (h1 : Pres (some i) m) (h2 : ∀ r, Hooked i (f r)) :
    Hooked i (m >>= f) := by
  refine ⟨Pres_bind h1 fun r => (h2 r).pres, fun a r hr => ?_⟩
  obtain ⟨r', _, he⟩ := bind_ok hr
  rw [he] at hr ⊢
  exact (h2 r').covered _ r hr

theorem Hooked.rawEnt {i : Nat} {m : M Unit} (h : Hooked i m) (f : Entry → Entry)
    (hf : ∀ e, (f e).storageId = e.storageId) : Hooked i (m >>= fun _ => rawEnt i f) := by
  refine ⟨Pres_bind h.pres fun _ => Pres_rawEnt_self hf, fun a r hr => ?_⟩
  obtain ⟨r', hm, he⟩ := bind_ok hr
  rw [he]
  exact h.covered a r' hm

theorem Hooked_raise {α} {i : Nat} {e : HErr} : Hooked i (raise e : M α) :=
  ⟨Pres_raise, fun _ _ hr => by cases hr⟩

theorem Hooked_markDirty {i : Nat} : Hooked i (markDirty i) :=
  ⟨Pres_markDirty i, fun _ _ _ => Or.inl (mem_sadd.2 (Or.inr rfl))⟩

theorem Hooked_markSilent {i : Nat} : Hooked i (markSilent i) :=
  ⟨Pres_markSilent i, fun a _ _ => covered_silentMark a i⟩

/-- a hook left by an exception is ghost-marked: either way the entry is covered, which closes the frame -/
theorem Hooked.closed {α} {i : Nat} {m : M α} (h : Hooked i m) : Pres none (onError m (silentMark i)) := by
  constructor
  intro a
  have hp := h.pres.run a
  have hc := h.covered a
  unfold onError
  rcases hm : m a with ⟨e | r, s'⟩
  · rw [hm] at hp
    exact (hp.trans (LeX_silentMark (some i) s' i)).close (covered_silentMark s' i)
  · rw [hm] at hp hc
    exact hp.close (hc r rfl)

/-- stated here because `getEnt` is irreducible from the next section on; `SyncEntry.__setattr__` does nothing at all unless
    the value differs -/
theorem hookBody_ent (rec : Call → M Unit) (i : Nat) (w : EntWrite) (a : St) :
    hookBody rec (.ent i w) a =
      onError (if entNeq (a.ents.getD i placeholder) w then updatedEnt rec i w >>= fun _ => rawEnt i fun e => entStore e w
        else pure ()) (silentMark i) a := rfl

-- the `Pres_*` rules below are applied combinator by combinator; the primitives are sealed so that `split` and `Pres_ite` stop at them
attribute [local irreducible] rawSide rawEnt markSilent markDirty getSide getEnt getSt modIx modChangeset raise modSt forEach

theorem Pres_updatedChanged (i : Nat) (sd : Sd) (p : Val) : Pres (some i) (updatedChanged i sd p) :=
  Pres_bind Pres_getEnt fun _ => Pres_ite Pres_modChangeset
    (Pres_bind Pres_modChangeset fun _ => Pres_ite Pres_rawSide_self Pres_pure)

section
variable (rec : Call → M Unit) (hrec : ∀ c, Pres none (rec c))
include hrec

theorem Pres_updateKidsOf (i : Nat) (sd : Sd) (pp p : Val) : Pres (some i) (updateKidsOf rec i sd pp p) := by
  unfold updateKidsOf
  refine Pres_bind Pres_getSide fun s => Pres_ite ?_ Pres_pure
  cases strOf pp <;> cases strOf p <;> try exact Pres_raise
  refine Pres_bind Pres_getSt fun st => Pres_forEach fun j => Pres_bind Pres_getSide fun sub =>
    Pres_ite Pres_pure ?_
  split
  · exact Pres_raise
  split
  · exact Pres_pure
  refine Pres_ite Pres_pure (Pres_bind Pres_getSt fun cur => Pres_ite Pres_pure
    (Pres_bind (Pres_weaken (hrec _)) fun _ => Pres_bind Pres_getSide fun sub => Pres_ite ?_ Pres_pure))
  split
  · exact Pres_raise
  split
  · exact Pres_pure
  exact Pres_ite Pres_pure (Pres_weaken (hrec _))

theorem Pres_updateKids (i : Nat) (sd : Sd) (pp p : Val) : Pres (some i) (updateKids rec i sd pp p) :=
  Pres_bind Pres_modMoving fun _ => Pres_finallyM (Pres_updateKidsOf rec hrec i sd pp p)

theorem Pres_changePath (i : Nat) (sd : Sd) (p : Val) : Pres (some i) (changePath rec i sd p) := by
  unfold changePath
  refine Pres_bind Pres_getSide fun s => Pres_ite Pres_raise (Pres_ite Pres_pure
    (Pres_bind Pres_getSt fun st => ?_))
  -- `do` notation turns the code after an `if` without `else` into a `let` (a join point) that both branches call;
  -- `extract_lets` names these continuations (here and in the two proofs below), each is proved once
  extract_lets settle place
  have hsettle : ∀ r, Pres (some i) (settle r) := fun _ =>
    Pres_bind Pres_modIx fun _ => Pres_bind Pres_rawSide_self fun _ =>
      Pres_bind (Pres_updateKids rec hrec ..) fun _ => Pres_bind Pres_getEnt fun e =>
        Pres_ite (Pres_weaken (hrec _)) Pres_pure
  have hplace : ∀ r, Pres (some i) (place r) := fun _ => by
    refine Pres_ite (Pres_bind Pres_modIx fun _ => Pres_bind Pres_getSt fun st => ?_) Pres_pure
    extract_lets pathEnts
    split
    · exact Pres_ite (Pres_bind Pres_raise hsettle) (Pres_rawSide_markSilent hsettle)
    · exact hsettle ()
  exact Pres_ite (Pres_bind Pres_modIx hplace) (hplace ())

theorem Pres_changeOid (i : Nat) (sd : Sd) (p : Val) : Pres (some i) (changeOid rec i sd p) := by
  unfold changeOid
  refine Pres_bind Pres_getSide fun s => Pres_bind (Pres_forEach fun rm => Pres_bind Pres_getSt fun st => ?_) fun _ => ?_
  · split
    · exact Pres_pure
    · refine Pres_bind Pres_modIx fun _ => Pres_bind Pres_getSide fun ps => ?_
      extract_lets unset
      have hunset : ∀ r, Pres (some i) (unset r) := fun _ => Pres_ite (Pres_weaken (hrec _)) Pres_pure
      exact Pres_ite (Pres_bind Pres_modIx hunset) (hunset ())
  · extract_lets pending reindex
    have hpending : ∀ r, Pres (some i) (pending r) := fun _ => Pres_bind Pres_getEnt fun e =>
      Pres_ite (Pres_ite Pres_modChangeset Pres_pure) (Pres_ite Pres_modChangeset Pres_pure)
    have hreindex : ∀ r, Pres (some i) (reindex r) := fun _ => Pres_bind Pres_getSide fun s =>
      Pres_ite (Pres_bind Pres_modIx hpending) (hpending ())
    exact Pres_ite (Pres_bind Pres_rawSide_self fun _ => Pres_bind Pres_modIx hreindex) (hreindex ())

theorem Pres_updatedPriority (i : Nat) (p : Int) : Pres (some i) (updatedPriority rec i p) := by
  unfold updatedPriority
  refine Pres_bind Pres_getEnt fun e => Pres_ite (Pres_bind Pres_getSt fun st => ?_) Pres_pure
  extract_lets remote
  have hremote : ∀ r, Pres (some i) (remote r) := fun _ => by
    refine Pres_bind Pres_getEnt fun e => Pres_ite ?_ Pres_pure
    split
    · exact Pres_weaken (hrec _)
    · exact Pres_raise
  refine Pres_ite ?_ (hremote ())
  split
  · exact Pres_bind (Pres_weaken (hrec _)) hremote
  · exact Pres_bind Pres_raise hremote

theorem Pres_updatedSide (i : Nat) (sd : Sd) (w : SideWrite) : Pres (some i) (updatedSide rec i sd w) := by
  unfold updatedSide
  split
  · exact Pres_bind (Pres_changePath rec hrec ..) fun _ => Pres_markDirty i
  · exact Pres_bind (Pres_changeOid rec hrec ..) fun _ => Pres_markDirty i
  · exact Pres_bind (Pres_updatedChanged ..) fun _ => Pres_markDirty i
  · exact Pres_markDirty i

theorem Hooked_updatedEnt (i : Nat) (w : EntWrite) : Hooked i (updatedEnt rec i w) := by
  unfold updatedEnt
  cases w with
  | ignored v =>
    dsimp only
    split
    · exact Hooked_bind Pres_rawSide_self fun _ => Hooked_bind Pres_rawSide_self fun _ =>
        Hooked_bind Pres_modChangeset fun _ => Hooked_markDirty
    · exact Hooked_markDirty
  | priority v => exact Hooked_bind (Pres_updatedPriority rec hrec i v) fun _ => Hooked_markDirty

theorem Hooked_sideSetattr (i : Nat) (sd : Sd) (w : SideWrite) : Hooked i (sideSetattr rec i sd w) := by
  have hstore : ∀ f, Hooked i (rawSide i sd f >>= fun _ => markDirty i) := fun f =>
    Hooked_bind Pres_rawSide_self fun _ => Hooked_markDirty
  unfold sideSetattr
  refine Hooked_bind Pres_getSide fun s => Hooked_bind ?_ fun early => ?_
  · split
    · split
      · exact Pres_raise
      · exact Pres_pure
    · exact Pres_pure
  · cases early with
    | some s' => exact Hooked_bind Pres_rawSide_self fun _ => Hooked_markSilent
    | none =>
      refine Hooked_bind (Pres_updatedSide rec hrec ..) fun _ => Hooked_bind Pres_getSide fun s => ?_
      cases w with
      | plain k v => exact hstore _
      | exists_ v =>
        dsimp only
        split
        · exact Hooked_raise
        · exact hstore _
      | mtime v =>
        dsimp only
        split
        · exact Hooked_raise
        · exact hstore _

theorem Pres_hookBody (c : Call) : Pres none (hookBody rec c) := by
  cases c with
  | side i sd w => exact (Hooked_sideSetattr rec hrec i sd w).closed
  | ent i w =>
    refine ⟨fun a => ?_⟩
    rw [hookBody_ent]
    split
    · exact ((Hooked_updatedEnt rec hrec i w).rawEnt _ fun e => by cases w <;> rfl).closed.run a
    · exact LeX.refl none a

end

theorem Pres_hook : ∀ (n : Nat) (c : Call), Pres none (hook n c)
  | 0, _ => Pres_raise
  | n + 1, c => Pres_hookBody (hook n) (Pres_hook n) c

end CS.Persist
