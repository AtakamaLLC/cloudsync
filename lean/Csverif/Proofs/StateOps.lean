import Csverif.Proofs.StateSet
/-
C11: the operations above the hook — `mark_changed`, `SideState.clear`, `ignored`, `SyncEntry(…)`, `update_entry`
(state.py:995-1044).  `__setitem__` and `split` follow in StateItem.lean, `update` in StateEvent.lean.
-/
namespace CS.State

def InvL (L : Nat) (st : St) : Prop := Inv st ∧ st.ents.length = L ∧ st.moving = []

theorem sideSet_keeps (cfg : Cfg) (fuel : Nat) (e : Nat) (s : Sd) (fv : FV) (L : Nat) (hlt : e < L) :
    Tr (InvL L) (sideSet cfg fuel e s fv) (fun _ => InvL L) Inv := by
  apply Tr.fix
  rintro st1 ⟨hi, hl, hmv⟩
  exact ((sideSet_inv cfg fuel e s fv st1 hi (hl ▸ hlt) (by rw [hmv]; simp)).with_mov (sideSet_moving cfg fuel e s fv) []).conseq
    (fun st h => ⟨h, h ▸ hmv⟩) (fun _ st' h => ⟨h.1.1, h.1.2.trans hl, h.2⟩) (fun st' h => h.1.1)

theorem plainRel_rec {st st' : St} (he : st'.ents = st.ents) (hL : st'.ixL = st.ixL) (hR : st'.ixR = st.ixR) (hc : st'.cs = st.cs)
    (hm : st'.moving = st.moving) : PlainRel st st' :=
  ⟨by rw [he], fun s => by cases s <;> simp [St.oids, St.ix, hL, hR], fun s => by cases s <;> simp [St.paths, St.ix, hL, hR], hc,
   fun i s => by simp [St.side, St.ent, he], hm⟩

theorem InvL.plain {L st st'} (h : InvL L st) (hr : PlainRel st st') : InvL L st' := ⟨hr.inv h.1, hr.len.trans h.2.1, hr.mov.trans h.2.2⟩

/-- state.py:1046-1056 `mark_changed` -/
theorem markChanged_tr (cfg : Cfg) (fuel : Nat) (s : Sd) (e : Nat) (L : Nat) (hlt : e < L) :
    Tr (InvL L) (markChanged cfg fuel s e) (fun _ st' => InvL L st') Inv := by
  have hs := fun fv => sideSet_keeps cfg fuel e s fv L hlt
  unfold markChanged
  refine Tr.getSt_bind' fun _ => Tr.seq (hs _) (Tr.seq (J := InvL L) ?_ (Tr.modify fun st h => ?_))
  · unfold bumpPastLast
    refine Tr.getSt_bind' fun _ => ?_
    split
    · exact Tr.when' (hs _)
    · exact Tr.pure (fun _ h => h)
  · split
    · exact h.plain (plainRel_rec rfl rfl rfl rfl rfl)
    · exact h

/-- state.py:169-178 `SideState.clear` -/
theorem clearSide_tr (cfg : Cfg) (fuel : Nat) (e : Nat) (s : Sd) (L : Nat) (hlt : e < L) :
    Tr (InvL L) (clearSide cfg fuel e s) (fun _ st' => InvL L st') Inv := by
  have hs := fun fv => sideSet_keeps cfg fuel e s fv L hlt
  exact Tr.seq (hs _) <| Tr.seq (hs _) <| Tr.seq (hs _) <| Tr.seq (hs _) <| Tr.seq (hs _) <| Tr.seq (hs _) <| Tr.seq (hs _) <|
    Tr.seq (hs _) (hs _)

/-- `ent.ignored = v` (state.py:355-362, 790-794).  Only the DISCARDED branch touches anything the invariant reads: it clears both change
    flags (so `PendE e` holds for want of a flag) and un-pends `e`. -/
theorem ignoredState_inv (st : St) (e : Nat) (v : Ign) (L : Nat) (h : InvL L st) : InvL L (ignoredState st e v) := by
  unfold ignoredState
  split
  · exact h
  · simp only
    have hent : ∀ (st1 : St), PlainRel st1 ((st1.dirtyAdd e).modEnt e (fun x => { x with ignored := v })) := fun st1 =>
      (plainRel_dirtyAdd st1 e).trans (plainRel_modEnt _ e _ (fun x s => by cases s <;> rfl))
    split
    · refine InvL.plain ?_ (hent _)
      have hrel : ChgRel e st (((st.modSide e .L (fun x => { x with changed := .fls })).modSide e .R
          (fun x => { x with changed := .fls })).csDiscard e) :=
        ((chgRel_setChanged e .L .fls st).trans (chgRel_setChanged e .R .fls _)).trans (chgRel_csDiscard e _)
      refine ⟨⟨hrel.idx h.1.1, hrel.pend h.1.2 ?_⟩, hrel.len.trans h.2.1, hrel.mov.trans h.2.2⟩
      rintro ⟨s, h1, _⟩
      exfalso
      have hf : ∀ s', ((((st.modSide e .L (fun x => { x with changed := .fls })).modSide e .R
          (fun x => { x with changed := .fls })).csDiscard e).side e s').changed.truthy = false := by
        intro s'
        by_cases hl : e < st.ents.length
        · cases s' <;> simp [side_modSide, hl, Chg.truthy]
        · rw [changed_oob _ e s' (by simpa using hl)]; rfl
      rw [hf s] at h1; cases h1
    · exact h.plain (hent _)

def addEntry (st : St) (ot : OType) : St := { st with ents := st.ents ++ [{ l := { otype := ot }, r := { otype := ot } }] }

theorem newEntry_eq (ot : OType) (st : St) : newEntry ot st = (.ok st.ents.length, addEntry st ot) := rfl

@[simp] theorem oids_addEntry (st : St) (ot) (s : Sd) : (addEntry st ot).oids s = st.oids s := by cases s <;> rfl
@[simp] theorem paths_addEntry (st : St) (ot) (s : Sd) : (addEntry st ot).paths s = st.paths s := by cases s <;> rfl
@[simp] theorem cs_addEntry (st : St) (ot) : (addEntry st ot).cs = st.cs := rfl
@[simp] theorem moving_addEntry (st : St) (ot) : (addEntry st ot).moving = st.moving := rfl
@[simp] theorem len_addEntry (st : St) (ot) : (addEntry st ot).ents.length = st.ents.length + 1 := by simp [addEntry]

theorem side_addEntry (st : St) (ot : OType) (i : Nat) (s : Sd) :
    (addEntry st ot).side i s = if i = st.ents.length then ({ otype := ot } : Side) else st.side i s := by
  unfold St.side St.ent addEntry
  simp only [List.getD_eq_getElem?_getD]
  by_cases h : i = st.ents.length
  · subst h; simp; cases s <;> rfl
  · simp only [h, if_false]
    by_cases hl : i < st.ents.length
    · rw [List.getElem?_append_left hl]
    · have : st.ents.length + 1 ≤ i := by omega
      rw [List.getElem?_eq_none (by simp; omega), List.getElem?_eq_none (by omega)]

/-- the new entry carries what an entry that does not exist carries: no id, no path, no change flag -/
theorem addEntry_fields (st : St) (ot : OType) (i : Nat) (s : Sd) :
    ((addEntry st ot).side i s).oid = (st.side i s).oid ∧ ((addEntry st ot).side i s).path = (st.side i s).path ∧
    ((addEntry st ot).side i s).changed = (st.side i s).changed := by
  rw [side_addEntry]
  split
  · next h => rw [h, side_oob st _ s (Nat.lt_irrefl _), side_default]; exact ⟨rfl, rfl, rfl⟩
  · exact ⟨rfl, rfl, rfl⟩

theorem inv_addEntry {st : St} (hi : Inv st) (ot : OType) : Inv (addEntry st ot) :=
  ⟨hi.1.congr_le (by simp) (by simp) (by simp) (fun i s => ⟨(addEntry_fields st ot i s).1, (addEntry_fields st ot i s).2.1⟩),
   hi.2.congr (by simp) (fun i s => ⟨(addEntry_fields st ot i s).1, (addEntry_fields st ot i s).2.2⟩)⟩

theorem newEntry_tr (ot : OType) (L : Nat) (E : St → Prop) :
    Tr (InvL L) (newEntry ot) (fun e st' => e = L ∧ InvL (L + 1) st' ∧ ∀ s, (st'.side L s).path = none) E := by
  rintro st ⟨hi, hl, hm⟩
  rw [newEntry_eq]
  refine ⟨fun e he => ?_, nofun⟩
  cases he
  exact ⟨hl, ⟨inv_addEntry hi _, by simp [hl], hm⟩, fun s => by rw [side_addEntry]; simp [hl]⟩

theorem markIfChanged_tr (cfg : Cfg) (fuel : Nat) (e : Nat) (s : Sd) (a : UArgs) (L : Nat) (hlt : e < L) :
    Tr (InvL L) (markIfChanged cfg fuel e s a) (fun _ => InvL L) Inv := by
  unfold markIfChanged
  split
  · refine Tr.when' (Tr.getSt_bind' fun _ => Tr.seq (Tr.assert (fun st h _ => h.1) (fun st h _ => h)) ?_)
    refine Tr.seq (markChanged_tr cfg fuel s e L hlt) (Tr.when' (Tr.modify fun st h => ?_))
    exact h.plain (plainRel_modSide _ _ _ _ (fun x => ⟨rfl, rfl, rfl⟩))
  · exact Tr.pure (fun _ h => h)

theorem notKnownCheck_tr (a : UArgs) (L : Nat) : Tr (InvL L) (notKnownCheck a) (fun _ => InvL L) Inv := by
  unfold notKnownCheck
  split
  · split
    · exact Tr.assert (fun st h _ => h.1) (fun st h _ => h)
    · exact Tr.pure (fun _ h => h)
    · exact Tr.throw (fun _ st h => h.1)
  · exact Tr.pure (fun _ h => h)

/-- state.py:995-1044 `update_entry`; the number of entries is not kept, since `replaceDiscarded` may append one -/
theorem updateEntry_tr (cfg : Cfg) (fuel : Nat) (ent : Nat) (s : Sd) (a : UArgs) (L : Nat) (hlt : ent < L) :
    Tr (InvL L) (updateEntry cfg fuel ent s a) (fun _ st' => Inv st') Inv := by
  unfold updateEntry
  refine Tr.bind (R := fun e st' => ∃ L', InvL L' st' ∧ e < L') ?_ (fun e => ?_)
  · -- a discarded entry of a path-id provider is replaced by a new one
    have hsame : Tr (InvL L) (Pure.pure ent : M Nat) (fun e st' => ∃ L', InvL L' st' ∧ e < L') Inv := Tr.pure (fun st h => ⟨L, h, hlt⟩)
    unfold replaceDiscarded
    refine Tr.getSt_bind' fun _ => ?_
    split
    · split
      · exact (newEntry_tr _ L Inv).conseq (fun _ h => h) (fun _ _ h => ⟨L + 1, h.2.1, h.1 ▸ Nat.lt_succ_self L⟩) (fun _ h => h)
      · exact hsame
    · exact hsame
  · apply Tr.exists_pre; intro L'
    apply Tr.with_pre (φ := e < L') (fun st h => h.2)
    intro hlt'
    have hs : ∀ c fv, Tr (InvL L') (whenM c (sideSet cfg fuel e s fv)) (fun _ => InvL L') Inv :=
      fun _ fv => Tr.when' (sideSet_keeps cfg fuel e s fv L' hlt')
    refine Tr.seq ((hs _ _).pre fun _ h => h.1) <| Tr.getSt_bind' fun _ => Tr.seq (hs _ _) <| Tr.seq (hs _ _) <| Tr.seq (hs _ _) <|
      Tr.seq (notKnownCheck_tr a L') <| Tr.getSt_bind' fun _ => ?_
    simp only
    exact Tr.seq (hs _ _) <| Tr.getSt_bind' fun _ => Tr.seq (hs _ _) <| Tr.getSt_bind' fun _ =>
      Tr.seq (sideSet_keeps cfg fuel e s _ L' hlt') <| (markIfChanged_tr cfg fuel e s a L' hlt').conseq (fun _ h => h) (fun _ _ h => h.1) (fun _ h => h)

end CS.State
