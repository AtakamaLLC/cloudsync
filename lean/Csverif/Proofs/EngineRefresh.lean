import Csverif.Model.EngineRefresh
import Csverif.Proofs.Engine
import Mathlib.Tactic.SplitIfs
/-
Lemmas about the refresh scopes of Model/EngineRefresh.lean: `unconditionally_get_latest` never touches the `_last_gotten`
marks, which sides `get_latest` re-reads for each of the scopes the engine uses, what a re-read that finds a new hash leaves
behind, and what a refresh is therefore worth for a side of its scope (`getLatest_edit_dirty`).
-/
namespace CS.Engine.Refresh
open CS.Hints (Ex OT Ign)
open CS.Engine

/-- `max([self[side].changed or 0 for side in sides])` -/
def maxStamp (r : RE) (scope : List Sd) : Nat := (scope.map r.ch).foldl max 0

theorem maxStamp_full (r : RE) : maxStamp r [.loc, .rem] = max r.chL r.chR := by
  simp [maxStamp, RE.ch]

theorem maxStamp_one (r : RE) (s : Sd) : maxStamp r [s] = r.ch s := by
  simp [maxStamp]

/- `uncond` and its steps leave the `_last_gotten` marks alone: of the model's functions only `getLatest` writes them, with `setLg`. -/
theorem stampIfQuiet_lg (r : RE) (s t : Sd) : (stampIfQuiet r s).lg t = r.lg t := by
  fun_cases stampIfQuiet r s
  · cases s <;> cases t <;> rfl
  · rfl

theorem hashStep_lg (r : RE) (s t : Sd) (ha : Ans) : (hashStep r s ha).lg t = r.lg t := by
  fun_cases hashStep r s ha
  · rw [stampIfQuiet_lg]; cases t <;> rfl
  · rfl

theorem existStep_lg (r : RE) (s t : Sd) (ot : OT) : (existStep r s ot).lg t = r.lg t := by
  cases t <;> rfl

theorem pathStep_lg (r : RE) (s t : Sd) (pa : Ans) : (pathStep r s pa).lg t = r.lg t := by
  fun_cases pathStep r s pa
  · rw [stampIfQuiet_lg]; cases t <;> rfl
  · rfl

theorem uncond_lg (w : World) (r : RE) (s t : Sd) : (uncond w r s).lg t = r.lg t := by
  fun_cases uncond w r s
  · cases t <;> rfl
  · rfl
  · cases t <;> rfl
  · rw [pathStep_lg, existStep_lg, hashStep_lg]

theorem setLg_lg_self (r : RE) (s : Sd) (m : Nat) : (r.setLg s m).lg s = m := by cases s <;> rfl

theorem setLg_lg_other (r : RE) (s t : Sd) (m : Nat) (h : s ≠ t) : (r.setLg s m).lg t = r.lg t := by
  cases s <;> cases t <;> first | rfl | exact absurd rfl h

/-- the trigger of state.py 641: `force or max_changed > self[side]._last_gotten` -/
def fires (force : Bool) (m lg : Nat) : Prop := force = true ∨ lg < m

instance (force : Bool) (m lg : Nat) : Decidable (fires force m lg) := by unfold fires; infer_instance

def glStep (w : World) (force : Bool) (m : Nat) (acc : RE × List Sd) (s : Sd) : RE × List Sd :=
  if force || m > acc.1.lg s then ((uncond w acc.1 s).setLg s m, acc.2 ++ [s]) else acc

theorem getLatest_eq (w : World) (r : RE) (scope : List Sd) (force : Bool) :
    getLatest w r scope force = scope.foldl (glStep w force (maxStamp r scope)) (r, []) := rfl

theorem glStep_snd (w : World) (force : Bool) (m : Nat) (acc : RE × List Sd) (s : Sd) :
    (glStep w force m acc s).2 = acc.2 ++ (if fires force m (acc.1.lg s) then [s] else []) := by
  unfold glStep fires
  by_cases hf : force = true <;> by_cases hm : acc.1.lg s < m <;> simp [hf, hm]

theorem glStep_lg (w : World) (force : Bool) (m : Nat) (acc : RE × List Sd) (s t : Sd) :
    (glStep w force m acc s).1.lg t = if fires force m (acc.1.lg s) ∧ t = s then m else acc.1.lg t := by
  unfold glStep fires
  by_cases hts : t = s
  · subst hts
    by_cases hf : force = true <;> by_cases hm : acc.1.lg t < m <;> simp [hf, hm, setLg_lg_self]
  · have hst : s ≠ t := fun h => hts h.symm
    by_cases hf : force = true <;> by_cases hm : acc.1.lg s < m <;> simp [hf, hm, hts, setLg_lg_other _ _ _ _ hst, uncond_lg]

/-- a side's mark is only written when that side is reached, so (no repetition in the scope) the test always sees the mark the
    entry came with -/
theorem foldl_glStep (w : World) (force : Bool) (m : Nat) : ∀ (scope : List Sd) (acc : RE × List Sd), scope.Nodup →
    (scope.foldl (glStep w force m) acc).2 = acc.2 ++ scope.filter (fun s => decide (fires force m (acc.1.lg s))) ∧
    ∀ t, (scope.foldl (glStep w force m) acc).1.lg t = if t ∈ scope ∧ fires force m (acc.1.lg t) then m else acc.1.lg t := by
  intro scope
  induction scope with
  | nil => intro acc _; simp
  | cons s rest ih =>
    intro acc hn
    obtain ⟨hs, hn'⟩ := List.nodup_cons.1 hn
    have keep : ∀ x ∈ rest, (glStep w force m acc s).1.lg x = acc.1.lg x := fun x hx => by
      rw [glStep_lg, if_neg (fun h : _ ∧ x = s => hs (h.2 ▸ hx))]
    obtain ⟨h2, hlg⟩ := ih (glStep w force m acc s) hn'
    refine ⟨?_, fun t => ?_⟩
    · rw [List.foldl_cons, h2, glStep_snd, List.filter_cons, List.append_assoc,
        List.filter_congr (fun x hx => by rw [keep x hx])]
      by_cases hf : fires force m (acc.1.lg s) <;> simp [hf]
    · rw [List.foldl_cons, hlg t]
      by_cases hts : t = s
      · subst hts
        simp [hs, glStep_lg]
      · by_cases htr : t ∈ rest
        · simp [htr, keep t htr]
        · simp [htr, hts, glStep_lg]

theorem getLatest_reread (w : World) (r : RE) (scope : List Sd) (force : Bool) (hn : scope.Nodup) :
    (getLatest w r scope force).2 = scope.filter (fun s => decide (fires force (maxStamp r scope) (r.lg s))) := by
  rw [getLatest_eq, (foldl_glStep w force _ scope _ hn).1, List.nil_append]

theorem getLatest_marks (w : World) (r : RE) (scope : List Sd) (force : Bool) (hn : scope.Nodup) (t : Sd) :
    (getLatest w r scope force).1.lg t =
      if t ∈ scope ∧ fires force (maxStamp r scope) (r.lg t) then maxStamp r scope else r.lg t := by
  rw [getLatest_eq, (foldl_glStep w force _ scope _ hn).2]

structure Dirty (x : Side) : Prop where
  changed : x.changed = true
  oid : x.oid = true
  hash : x.h.same = false

theorem Dirty.needsSync {x : Side} (h : Dirty x) : x.needsSync = true := by
  obtain ⟨h1, h2, h3⟩ := h
  simp [Side.needsSync, h1, h2, h3]

/-- An `RE` keeps the flag (in `e`) and the stamp (`chL`, `chR`) as separate fields and nothing applies `RE.norm` on the way, so
    the lemmas that read both assume they agree. -/
def StampOk (r : RE) (s : Sd) : Prop := (r.e.get s).changed = (r.ch s != 0)

theorem stamp_e (r : RE) (s : Sd) (t : Nat) (e' : Entry) :
    (({ r with e := e', clock := t } : RE).setCh s t).dropCleared.e = e' := by cases s <;> rfl

theorem stamp_ch (r : RE) (s x : Sd) (t : Nat) (e' : Entry) :
    (({ r with e := e', clock := t } : RE).setCh s t).dropCleared.ch x =
      if (e'.get x).changed then (if x = s then t else r.ch x) else 0 := by
  cases s <;> cases x <;> simp [RE.setCh, RE.dropCleared, RE.ch, Entry.get]
  all_goals rfl

theorem stampIfQuiet_self (r : RE) (s : Sd) :
    (stampIfQuiet r s).e.get s = { r.e.get s with changed := (r.e.get s).changed || (r.e.ign == .no && r.ch s == 0) } := by
  unfold stampIfQuiet
  split_ifs with h
  · rw [stamp_e, setChanged_get_self]
    simp only [Bool.and_eq_true, beq_iff_eq] at h
    simp [When.flag, h.1, h.2]
  · have : (r.e.ign == .no && r.ch s == 0) = false := by simpa using h
    rw [this]; simp

theorem stampIfQuiet_ign (r : RE) (s : Sd) : (stampIfQuiet r s).e.ign = r.e.ign := by
  unfold stampIfQuiet
  split_ifs
  · rw [stamp_e]; simp
  · rfl

structure Keeps (s : Sd) (r r' : RE) : Prop where
  side : r'.e.get s = r.e.get s
  ign : r'.e.ign = r.e.ign
  stamp : StampOk r s → StampOk r' s

theorem Keeps.refl (s : Sd) (r : RE) : Keeps s r r := ⟨rfl, rfl, id⟩

theorem Keeps.trans {s : Sd} {r r1 r2 : RE} (h1 : Keeps s r r1) (h2 : Keeps s r1 r2) : Keeps s r r2 :=
  ⟨h2.side.trans h1.side, h2.ign.trans h1.ign, fun h => h2.stamp (h1.stamp h)⟩

theorem keeps_e (r : RE) (s : Sd) (e' : Entry) (hg : e'.get s = r.e.get s) (hi : e'.ign = r.e.ign) :
    Keeps s r { r with e := e' } :=
  ⟨hg, hi, fun hs => (congrArg Side.changed hg).trans hs⟩

/-- every step of `uncond` on side `s.other` starts by writing that side -/
theorem keeps_set (r : RE) (s : Sd) (x : Side) : Keeps s r { r with e := r.e.set s.other x } :=
  keeps_e r s _ (get_of_set_other _ _ _) (set_ign _ _ _)

theorem stampIfQuiet_keeps (r : RE) (s : Sd) (ho : (r.e.get s).oid = true) : Keeps s r (stampIfQuiet r s.other) := by
  unfold stampIfQuiet
  split_ifs with h
  · have hg : (r.e.setChanged s.other .now).get s = r.e.get s := by
      rw [setChanged_get_of_other, ho]; simp
    refine ⟨by rw [stamp_e, hg], by rw [stamp_e]; simp, ?_⟩
    intro hs
    unfold StampOk at hs ⊢
    rw [stamp_e, stamp_ch, hg]
    have hne : ¬ s = s.other := Sd.ne_other s
    cases hc : (r.e.get s).changed
    · simp
    · simp only [if_true, hne, if_false]; rw [← hs, hc]
  · exact .refl s r

def Pre (r : RE) (s : Sd) : Prop := (r.e.get s).oid = true ∧ r.e.ign = .no ∧ StampOk r s

theorem hashStep_keeps (r : RE) (s : Sd) (ha : Ans) (ho : (r.e.get s).oid = true) : Keeps s r (hashStep r s.other ha) := by
  fun_cases hashStep r s.other ha
  · exact (keeps_set r s _).trans (stampIfQuiet_keeps _ s (by simpa using ho))
  · exact .refl s r

theorem existStep_keeps (r : RE) (s : Sd) (ot : OT) : Keeps s r (existStep r s.other ot) := keeps_set r s _

theorem pathStep_keeps (r : RE) (s : Sd) (pa : Ans) (ho : (r.e.get s).oid = true) : Keeps s r (pathStep r s.other pa) := by
  fun_cases pathStep r s.other pa
  · have hg (x : Side) : ((r.e.set s.other x).pathMoved true).get s = r.e.get s := by simp
    exact (keeps_e r s _ (hg _) (by simp)).trans (stampIfQuiet_keeps _ s (by rw [hg]; exact ho))
  · exact .refl s r

theorem uncond_keeps (w : World) (r : RE) (s : Sd) (ho : (r.e.get s).oid = true) : Keeps s r (uncond w r s.other) := by
  fun_cases uncond w r s.other
  · exact keeps_set r s _  -- no id: `exists = UNKNOWN`
  · exact .refl s r
  · exact keeps_set r s _  -- `info_oid` finds nothing
  · rename_i ha pa ot _
    have h2 := (hashStep_keeps r s ha ho).trans (existStep_keeps _ s ot)
    exact h2.trans (pathStep_keeps _ s pa (by rw [h2.side]; exact ho))

theorem Keeps.setLg {s : Sd} {r r' : RE} (k : Keeps s r r') (t : Sd) (m : Nat) : Keeps s r (r'.setLg t m) := by
  cases t <;> exact ⟨k.side, k.ign, k.stamp⟩

theorem Keeps.pre {s : Sd} {r r' : RE} (k : Keeps s r r') (h : Pre r s) : Pre r' s :=
  ⟨k.side ▸ h.1, k.ign ▸ h.2.1, k.stamp h.2.2⟩

theorem Keeps.dirty {s : Sd} {r r' : RE} (k : Keeps s r r') (h : Dirty (r.e.get s)) : Dirty (r'.e.get s) := k.side ▸ h

theorem applyAns_newOther (rel : Rel) : (applyAns rel .newOther).2 = true ∧ (applyAns rel .newOther).1.same = false := by
  cases rel <;> simp [applyAns, Rel.sync, Rel.same]

theorem hashStep_edit (r : RE) (s : Sd) (h : Pre r s) : Dirty ((hashStep r s .newOther).e.get s) := by
  obtain ⟨h1, h2, h3⟩ := h
  unfold StampOk at h3
  have ha := applyAns_newOther (r.e.get s).h
  unfold hashStep
  dsimp only
  rw [ha.1]
  simp only [if_true]
  rw [stampIfQuiet_self]
  refine ⟨?_, ?_, ?_⟩
  · -- the flag is now `old flag || (ch s == 0)`, and by `h3` the old flag is `ch s != 0`
    simp only [get_set_same, set_ign, h2, beq_self_eq_true, Bool.true_and]
    split_ifs
    · simp only [uncorrupt_fields, h3, RE.ch]
      cases s <;> simp <;> omega
    · simp only [h3, RE.ch]
      cases s <;> simp <;> omega
  · simp only [get_set_same]; split_ifs <;> simp [h1]
  · simp only [get_set_same]; exact ha.2

theorem existStep_dirty (r : RE) (s : Sd) (ot : OT) (h : Dirty (r.e.get s)) : Dirty ((existStep r s ot).e.get s) := by
  unfold existStep
  exact ⟨by simpa using h.changed, by simpa using h.oid, by simpa using h.hash⟩

theorem pathStep_dirty (r : RE) (s : Sd) (pa : Ans) (h : Dirty (r.e.get s)) : Dirty ((pathStep r s pa).e.get s) := by
  unfold pathStep
  dsimp only
  split_ifs
  · rw [stampIfQuiet_self]
    simp only [pathMoved_get, get_set_same]
    exact ⟨by simp [h.changed], h.oid, h.hash⟩
  · exact h

theorem uncond_edit_dirty (w : World) (r : RE) (s : Sd) (pa : Ans) (ot : OT) (h : Pre r s)
    (hp : w.probe s = .present .newOther pa ot) : Dirty ((uncond w r s).e.get s) := by
  unfold uncond
  dsimp only
  rw [hp]
  simp only [h.1, Bool.not_true, Bool.false_eq_true, if_false]
  exact pathStep_dirty _ _ _ (existStep_dirty _ _ _ (hashStep_edit r s h))

theorem glStep_keeps (w : World) (force : Bool) (m : Nat) (acc : RE × List Sd) (s t : Sd) (hst : s ≠ t)
    (ho : (acc.1.e.get t).oid = true) : Keeps t acc.1 (glStep w force m acc s).1 := by
  obtain rfl := (Sd.eq_or_other t s).resolve_left hst
  unfold glStep
  split_ifs
  · exact (uncond_keeps w acc.1 _ ho).setLg _ m
  · exact .refl t acc.1

/-- What a refresh is worth for a side `t` of its scope: if it fires for `t` and the provider now reports another hash than the
    entry records, then after `get_latest` side `t` is flagged with a hash that differs from the synced one.  The sides listed
    before `t` leave the hypotheses alone, `t` itself is re-read and found edited, the sides listed after it leave the result
    alone. -/
theorem getLatest_edit_dirty (w : World) (r : RE) (scope : List Sd) (t : Sd) (pa : Ans) (ot : OT) (hn : scope.Nodup)
    (ht : t ∈ scope) (hpre : Pre r t) (hp : w.probe t = .present .newOther pa ot) (force : Bool)
    (hf : fires force (maxStamp r scope) (r.lg t)) : Dirty ((getLatest w r scope force).1.e.get t) := by
  rw [getLatest_eq]
  generalize maxStamp r scope = m at hf
  have after : ∀ (rest : List Sd) (acc : RE × List Sd), t ∉ rest → Dirty (acc.1.e.get t) →
      Dirty ((rest.foldl (glStep w force m) acc).1.e.get t) := by
    intro rest
    induction rest with
    | nil => exact fun _ _ h => h
    | cons s rest ih =>
      intro acc hnot h
      exact ih _ (fun hm => hnot (List.mem_cons_of_mem _ hm))
        ((glStep_keeps w force m acc s t (fun hs => hnot (hs ▸ List.mem_cons_self)) h.oid).dirty h)
  have before : ∀ (scope : List Sd) (acc : RE × List Sd), scope.Nodup → t ∈ scope → Pre acc.1 t → fires force m (acc.1.lg t) →
      Dirty ((scope.foldl (glStep w force m) acc).1.e.get t) := by
    intro scope
    induction scope with
    | nil => exact fun _ _ h => absurd h List.not_mem_nil
    | cons s rest ih =>
      intro acc hnd hmem hpre hlg
      obtain ⟨hnot, hnd'⟩ := List.nodup_cons.1 hnd
      by_cases hs : s = t
      · subst hs
        refine after rest _ hnot ?_
        have hfire : (force || decide (m > acc.1.lg s)) = true := by simpa [fires] using hlg
        unfold glStep
        rw [if_pos hfire]
        cases s <;> exact uncond_edit_dirty w acc.1 _ pa ot hpre hp
      · refine ih _ hnd' ((List.mem_cons.1 hmem).resolve_left (Ne.symm hs)) ((glStep_keeps w force m acc s t hs hpre.1).pre hpre) ?_
        rw [glStep_lg, if_neg (fun h => hs h.2.symm)]
        exact hlg
  exact before scope (r, []) hn ht hpre hf

end CS.Engine.Refresh
