import Csverif.Proofs.MockDir
/- From one step to whole call sequences: guard, lock-step run, initial state. -/
namespace CS.MockFS
open CS.Path
open CS.Tree (Kind Err)
variable {C H : Type}

/-- the reference-tree call a provider call stands for: paths are parsed into names, ids are resolved to the
    place the object lives at (`none` when they resolve to nothing).  Hash, event and cursor calls do not
    concern the tree. -/
def toTreeOp (c : Cfg) (s : St C) : Op C → Option (Tree.Op C)
  | .create p d => some (.create (Path.C c p) d)
  | .mkdir p => some (.mkdir (Path.C c p))
  | .upload o d => some (.upload (resolve c s o) d)
  | .download o => some (.download (resolve c s o))
  | .rename o p => some (.rename (resolve c s o) (Path.C c p))
  | .delete o => some (.delete (resolve c s o))
  | .infoPath p => some (.infoPath (Path.C c p))
  | .infoOid o => some (.infoOid (resolve c s o))
  | .existsPath p => some (.existsPath (Path.C c p))
  | .existsOid o => some (.existsOid (resolve c s o))
  | .listdir o => some (.listdir (resolve c s o))
  | _ => none

/-- Hypotheses on one call (evaluated in the state it is made in):
    * path arguments are clean (`Clean`);
    * `delete` does not target the root;
    * `rename`: the destination is not the root, an id-style provider is handed an id (not a path), and the destination
      does not lie strictly beneath the object being renamed (see the open finding mock-rename-into-own-subtree);
    * id arguments need no guard: an id that resolves to nothing is `none` on the tree side too (`toTreeOp`). -/
def OpOk (c : Cfg) (fl : Flavour) (s : St C) : Op C → Prop
  | .create p _ => Clean c fl p
  | .mkdir p => Clean c fl p
  | .infoPath p => Clean c fl p
  | .existsPath p => Clean c fl p
  | .delete oid => resolve c s oid ≠ some []
  | .rename oid p => Clean c fl p ∧ Path.C c p ≠ [] ∧ (fl.oip = false → oid.head? ≠ some '/') ∧
      (∀ (h : Nat) (o : Obj C), pv s oid = some (h, o) →
        foldL c (Path.C c o.path) <+: foldL c (Path.C c p) → foldL c (Path.C c o.path) = foldL c (Path.C c p))
  | _ => True

def treeStep (c : Cfg) (fl : Flavour) (s : St C) (t : Tree.T C) (op : Op C) : Tree.T C × Option (Tree.Res C) :=
  match toTreeOp c s op with
  | some top => ((Tree.step (tcfg c fl) t top).1, some (Tree.step (tcfg c fl) t top).2)
  | none => (t, none)

/-- `OpOk` of every call, each in the state the mock itself has reached by then -/
def Guarded (c : Cfg) (fl : Flavour) (hcfg : HashCfg C H) : St C → List (Op C) → Prop
  | _, [] => True
  | s, op :: ops => OpOk c fl s op ∧ Guarded c fl hcfg (step c fl hcfg s op).1 ops

def Agree (c : Cfg) (fl : Flavour) (hcfg : HashCfg C H) : St C → Tree.T C → List (Op C) → Prop
  | s, t, [] => Rel c s t ∧ Tree.TWf t
  | s, t, op :: ops =>
    Rel c s t ∧ Tree.TWf t ∧
    (match (treeStep c fl s t op).2 with
     | some tr => ResRel c fl hcfg (step c fl hcfg s op).2 tr
     | none => True) ∧
    Agree c fl hcfg (step c fl hcfg s op).1 (treeStep c fl s t op).1 ops

theorem tguard_of_opOk {c : Cfg} {fl : Flavour} {s : St C} (op : Op C) (hok : OpOk c fl s op)
    (top : Tree.Op C) (ht : toTreeOp c s op = some top) : Tree.TGuard (tcfg c fl) top := by
  cases op with
  | delete o => cases ht; intro p hp e; subst e; exact hok hp
  | rename o p =>
    cases ht
    refine ⟨hok.2.1, fun pth hpth => ?_⟩
    obtain ⟨⟨h, ob⟩, hpv, rfl⟩ := Option.map_eq_some_iff.1 hpth
    rw [tfold_eq, tfold_eq]
    exact hok.2.2.2 h ob hpv
  -- the other calls have no tree call, or one whose guard is `True`
  | _ => cases ht <;> trivial

theorem twf_treeStep {c : Cfg} {fl : Flavour} {s : St C} {t : Tree.T C} (hr : Rel c s t)
    (hw : Tree.TWf t) (op : Op C) (hok : OpOk c fl s op) : Tree.TWf (treeStep c fl s t op).1 := by
  unfold treeStep
  cases ht : toTreeOp c s op with
  | none => exact hw
  | some top => exact Tree.twf_step hw hr.tnodup top (tguard_of_opOk op hok top ht)

theorem sim_step {c : Cfg} (hc : COk2 c) {fl : Flavour} (hfs : c.sep ∉ fl.forbidden) (hcfg : HashCfg C H)
    {s : St C} {t : Tree.T C} (hi : Inv c fl s) (hr : Rel c s t) (hw : Tree.TWf t) (op : Op C) (hok : OpOk c fl s op) :
    Inv c fl (step c fl hcfg s op).1 ∧ Rel c (step c fl hcfg s op).1 (treeStep c fl s t op).1 ∧
    (match (treeStep c fl s t op).2 with
     | some tr => ResRel c fl hcfg (step c fl hcfg s op).2 tr
     | none => True) := by
  cases op with
  | create p d => exact sim_create hc hfs hcfg hi hr hok d
  | mkdir p => exact sim_mkdir hc hfs hcfg hi hr hok
  | upload o d => exact sim_upload hc hcfg hi hr o d
  | download o => exact sim_download hc hcfg hi hr o
  | rename o p => exact (sim_rename hc hcfg hi hr hw o p hok.1 hok.2.1 hok.2.2.1 hok.2.2.2).2
  | delete o => exact sim_delete hc hcfg hi hr o
  | infoPath p => exact ⟨hi, hr, (sim_infoPath hc hcfg hi hr p).1⟩
  | infoOid o => exact ⟨hi, hr, (sim_infoOid hc hcfg hi hr o).1⟩
  | existsPath p => exact ⟨hi, hr, (sim_infoPath hc hcfg hi hr p).2⟩
  | existsOid o => exact ⟨hi, hr, (sim_infoOid hc hcfg hi hr o).2⟩
  | listdir o => exact sim_listdir hc hcfg hi hr o
  -- the event and cursor calls change neither table nor tree; the remaining calls (hashes, cursors read) change nothing
  | events => exact ⟨inv_of_same (s := s) rfl rfl rfl hi, rel_of_same (s := s) rfl rfl hr, trivial⟩
  | setCursor v => cases v <;> exact ⟨inv_of_same (s := s) rfl rfl rfl hi, rel_of_same (s := s) rfl rfl hr, trivial⟩
  | _ => exact ⟨hi, hr, trivial⟩

theorem agree_of_inv {c : Cfg} (hc : COk2 c) {fl : Flavour} (hfs : c.sep ∉ fl.forbidden) (hcfg : HashCfg C H)
    (ops : List (Op C)) {s : St C} {t : Tree.T C} (hi : Inv c fl s) (hr : Rel c s t) (hw : Tree.TWf t)
    (hg : Guarded c fl hcfg s ops) :
    Agree c fl hcfg s t ops ∧ Inv c fl (run c fl hcfg s ops).1 := by
  induction ops generalizing s t with
  | nil => exact ⟨⟨hr, hw⟩, hi⟩
  | cons op ops ih =>
    obtain ⟨h1, h2, h3⟩ := sim_step hc hfs hcfg hi hr hw op hg.1
    have hw' := twf_treeStep hr hw op hg.1
    obtain ⟨h4, h5⟩ := ih h1 h2 hw' hg.2
    exact ⟨⟨hr, hw, h3, h4⟩, h5⟩

def emptySt : St C := { heap := [], dict := [], events := [], cursor := 0, nextId := 0 }

theorem inv_empty (c : Cfg) (fl : Flavour) : Inv c fl (emptySt : St C) := by
  -- every clause after `nodup` speaks of a dict entry or a heap cell, and there is none
  refine ⟨by simp [emptySt], ?_, ?_, ?_, ?_, ?_, ?_, ?_, ?_, ?_, ?_, ?_, ?_⟩ <;>
    intros <;> simp_all [emptySt, dget_nil]

theorem rel_empty (c : Cfg) : Rel c (emptySt : St C) ([] : Tree.T C) := by
  refine ⟨?_, by simp, by simp⟩
  intro k _
  simp [Tree.get_nil, pv, getObj, emptySt, dget_nil]

theorem clean_root {c : Cfg} (hc : COk2 c) (fl : Flavour) : Clean c fl ['/'] :=
  ⟨[], comps_nil' c, by simp [canon, intercalate, hc.sep], fun _ => rfl⟩

theorem init_inv_rel {c : Cfg} (hc : COk2 c) (fl : Flavour) :
    Inv c fl (init c fl : St C) ∧ Rel c (init c fl : St C) (Tree.init : Tree.T C) := by
  have hp := clean_root hc fl
  have hfree : infoPath c (emptySt : St C) ['/'] = none := by
    simp [infoPath, getByPath, getObj, emptySt, dget_nil]
  obtain ⟨h1, h2⟩ := sim_alloc hc (inv_empty c fl) (rel_empty c) hp hfree .dir none
  have hC : Path.C c ['/'] = [] := by
    have := C_canon hc.ok (comps_nil' c)
    simpa [canon, intercalate, hc.sep] using this
  rw [hC] at h2
  exact ⟨h1, h2⟩

end CS.MockFS
