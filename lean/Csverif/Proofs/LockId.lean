import Csverif.Proofs.Lock
import Csverif.Model.LockId
/- C15 lock identity: with a stable lock identity (no `rebind`) every step of the lock-object model (Model/LockId.lean) is a
   step of the one-lock model (Model/Lock.lean) or the stutter "start waiting" (`fwd`, `run_fwd`), and every step of the one-lock
   model is a step of the lock-object model (`bwd`, `run_bwd`).  The idea: under `MInv` the lock object an `acquire` or
   `release` looks at is always object 0, so `mstep` is `step` on object 0 plus bookkeeping. -/
namespace CS.LockId
open CS.Lock (Tid Loc Val upd)

def proj (s : MState) : CS.Lock.State :=
  { store := s.store, owner := s.owner 0, depth := s.depth 0, code := fun t => (s.code t).map toAct, obs := s.obs }

theorem code_upd (c : MProg) (t : Tid) (rest : List MAct) :
    (fun u => (upd c t rest u).map toAct) = upd (fun u => (c u).map toAct) t (rest.map toAct) := by
  funext u
  by_cases h : u = t
  · subst h; simp
  · simp [h]

/-- no `rebind` ever happened: `cur = 0`; every waiter waits on object 0; every thread's stack holds only 0, as many times as
    its nesting depth; an owner has depth ≥ 1; no `rebind` is left in any code -/
structure MInv (s : MState) : Prop where
  hcur : s.cur = 0
  hwait : ∀ t, s.waiting t = none ∨ s.waiting t = some 0
  hstack : ∀ t, s.stack t = List.replicate (if s.owner 0 = some t then s.depth 0 else 0) 0
  hdepth : ∀ t, s.owner 0 = some t → 1 ≤ s.depth 0
  hnr : ∀ t, ∀ a ∈ s.code t, isRebind a = false

theorem minv_init {p : MProg} {σ : Loc → Val} (h : LockIdentityStable p) : MInv (minit p σ) :=
  { hcur := rfl, hwait := fun _ => Or.inl rfl, hstack := fun _ => by simp [minit],
    hdepth := fun _ h0 => by simp [minit] at h0, hnr := h }

theorem proj_init (p : MProg) (σ : Loc → Val) : proj (minit p σ) = CS.Lock.init (toProg p) σ := rfl

theorem key_zero {s : MState} (hi : MInv s) (t : Tid) : (s.waiting t).getD s.cur = 0 := by
  rcases hi.hwait t with h | h <;> simp [h, hi.hcur]

theorem hnr_tail {s : MState} (hi : MInv s) {t : Tid} {a : MAct} {rest : List MAct} (hc : s.code t = a :: rest) :
    ∀ u, ∀ b ∈ upd s.code t rest u, isRebind b = false := by
  intro u b hb
  by_cases h : u = t
  · subst h
    simp at hb
    exact hi.hnr u b (by rw [hc]; simp [hb])
  · simp [h] at hb
    exact hi.hnr u b hb

theorem MInv.stack_owner {s : MState} (hi : MInv s) {t : Tid} (hown : s.owner 0 = some t) :
    ∃ n, s.depth 0 = n + 1 ∧ s.stack t = 0 :: List.replicate n 0 := by
  have hd := hi.hdepth t hown
  refine ⟨s.depth 0 - 1, by omega, ?_⟩
  rw [hi.hstack t, if_pos hown, ← List.replicate_succ]
  congr 1; omega

theorem MInv.owner_of_stack {s : MState} (hi : MInv s) {t : Tid} {k : LockObj} {ks : List LockObj} (hs : s.stack t = k :: ks) :
    s.owner 0 = some t := by
  by_cases ho : s.owner 0 = some t
  · exact ho
  · rw [hi.hstack t, if_neg ho] at hs; cases hs

theorem MInv.wait_upd {s : MState} (hi : MInv s) (t : Tid) (w : Option LockObj) (hw : w = none ∨ w = some 0) :
    ∀ u, upd s.waiting t w u = none ∨ upd s.waiting t w u = some 0 := by
  intro u
  by_cases hu : u = t
  · rw [hu, CS.Lock.upd_same]; exact hw
  · rw [CS.Lock.upd_other _ _ _ _ hu]; exact hi.hwait u

/-- forward simulation: an M-step is either the stutter "start waiting" (not enabled in the one-lock model, projection
    unchanged) or a step of the one-lock model -/
theorem fwd {s s' : MState} {t : Tid} (hi : MInv s) (h : mstep s t = some s') :
    MInv s' ∧ ((proj s' = proj s ∧ CS.Lock.step (proj s) t = none) ∨ CS.Lock.step (proj s) t = some (proj s')) := by
  have hk := key_zero hi t
  unfold mstep at h
  cases hc : s.code t with
  | nil => simp [hc] at h
  | cons a rest =>
    have hpc : (proj s).code t = toAct a :: rest.map toAct := by simp [proj, hc]
    have hnr' := hnr_tail hi hc
    cases a with
    | acquire =>
      simp only [hc, hk] at h
      cases ho : s.owner 0 with
      | none =>
        simp only [ho] at h
        cases h
        refine ⟨{ hcur := hi.hcur, hwait := hi.wait_upd t none (.inl rfl), hstack := ?_, hdepth := ?_, hnr := hnr' }, Or.inr ?_⟩
        · intro u
          have hsu := hi.hstack u
          simp [ho] at hsu
          by_cases hu : u = t
          · subst hu; simp [hsu]
          · have : ¬ (t = u) := fun e => hu e.symm
            simp [hu, this, hsu]
        · intro u _; simp
        · rw [CS.Lock.step_of_eff hpc (.acqFree ho)]
          simp [proj, code_upd]
      | some o =>
        simp only [ho] at h
        by_cases hot : o = t
        · subst hot
          simp at h
          cases h
          refine ⟨{ hcur := hi.hcur, hwait := hi.wait_upd o none (.inl rfl), hstack := ?_, hdepth := ?_, hnr := hnr' }, Or.inr ?_⟩
          · intro u
            have hsu := hi.hstack u
            by_cases hu : u = o
            · subst hu
              simp [ho] at hsu ⊢
              rw [hsu, List.replicate_succ]
            · have : ¬ (o = u) := fun e => hu e.symm
              simp [ho, this] at hsu
              simp [hu, ho, this, hsu]
          · intro u _; simp
          · rw [CS.Lock.step_of_eff hpc (.acqAgain ho)]
            simp [proj, code_upd]
        · simp only [hot, if_false] at h
          by_cases hw : s.waiting t = none
          · simp only [hw, if_true] at h
            cases h
            refine ⟨{ hcur := hi.hcur, hwait := hi.wait_upd t (some 0) (.inr rfl), hstack := hi.hstack, hdepth := hi.hdepth,
                      hnr := hi.hnr }, Or.inl ⟨rfl, ?_⟩⟩
            exact CS.Lock.step_blocked hpc ho hot
          · simp [hw] at h
    | release =>
      simp only [hc] at h
      cases hs : s.stack t with
      | nil => simp [hs] at h
      | cons k ks =>
        simp only [hs] at h
        have hown := hi.owner_of_stack hs
        obtain ⟨n, hn, hst⟩ := hi.stack_owner hown
        obtain ⟨rfl, hks⟩ := List.cons.inj (hs.symm.trans hst)
        simp only [hown, if_true] at h
        by_cases hd : s.depth 0 ≤ 1
        · simp only [hd, if_true] at h
          cases h
          have hn0 : n = 0 := by omega
          subst hn0
          refine ⟨{ hcur := hi.hcur, hwait := hi.hwait, hstack := ?_, hdepth := ?_, hnr := hnr' }, Or.inr ?_⟩
          · intro u
            by_cases hu : u = t
            · subst hu; simp [hks]
            · have hsu := hi.hstack u
              have : ¬ (t = u) := fun e => hu e.symm
              simp [hown, this] at hsu
              simp [hu, hsu]
          · intro u h0; simp at h0
          · rw [CS.Lock.step_of_eff hpc (.relLast hown hd)]
            simp [proj, code_upd]
        · simp only [hd, if_false] at h
          cases h
          refine ⟨{ hcur := hi.hcur, hwait := hi.hwait, hstack := ?_, hdepth := ?_, hnr := hnr' }, Or.inr ?_⟩
          · intro u
            by_cases hu : u = t
            · subst hu
              simp [hown, hks, hn]
            · have hsu := hi.hstack u
              have : ¬ (t = u) := fun e => hu e.symm
              simp [hown, this] at hsu
              simp [hu, hown, this, hsu]
          · intro u _; simp; omega
          · rw [CS.Lock.step_of_eff hpc (.relInner hown hd)]
            simp [proj, code_upd]
    | rebind =>
      have := hi.hnr t .rebind (by rw [hc]; simp)
      simp [isRebind] at this
    | read _ | write _ _ | other =>
      simp only [hc] at h
      cases h
      refine ⟨{ hcur := hi.hcur, hwait := hi.hwait, hstack := hi.hstack, hdepth := hi.hdepth, hnr := hnr' }, Or.inr ?_⟩
      rw [CS.Lock.step_of_eff hpc (by constructor)]
      simp [proj, code_upd]

theorem enabled {s : MState} {t : Tid} {x : CS.Lock.State} (hi : MInv s) (h : CS.Lock.step (proj s) t = some x) :
    ∃ s', mstep s t = some s' := by
  have hk := key_zero hi t
  obtain ⟨a', rest', s1, hc', he, _⟩ := CS.Lock.step_cases h
  cases hc : s.code t with
  | nil => rw [show (proj s).code t = [] by simp [proj, hc]] at hc'; cases hc'
  | cons a rest =>
    rw [show (proj s).code t = toAct a :: rest.map toAct by simp [proj, hc]] at hc'
    obtain ⟨rfl, _⟩ := List.cons.inj hc'
    unfold mstep
    cases a with
    | acquire =>
      have he' : CS.Lock.Eff (proj s) t .acquire s1 := he
      simp only [hc, hk]
      cases he' with
      | acqFree ho => rw [show s.owner 0 = none from ho]; exact ⟨_, rfl⟩
      | acqAgain ho => rw [show s.owner 0 = some t from ho]; simp
    | release =>
      have he' : CS.Lock.Eff (proj s) t .release s1 := he
      simp only [hc]
      have hown : s.owner 0 = some t := by
        cases he' with
        | relLast ho _ => exact ho
        | relInner ho _ => exact ho
      obtain ⟨n, hn, hst⟩ := hi.stack_owner hown
      rw [hst]
      simp only [hown, if_true]
      by_cases hd : n + 1 ≤ 1
      · simp [hn, hd]
      · simp [hn, hd]
    | rebind =>
      have := hi.hnr t .rebind (by rw [hc]; simp)
      simp [isRebind] at this
    | read _ | write _ _ | other => simp [hc]

/-- backward simulation: the step is enabled (`enabled`), so by `fwd` it is either the stutter — excluded, the stutter projects
    to a step that is not enabled — or the very step of the one-lock model (`step` is a function) -/
theorem bwd {s : MState} {t : Tid} {x : CS.Lock.State} (hi : MInv s) (h : CS.Lock.step (proj s) t = some x) :
    ∃ s', mstep s t = some s' ∧ proj s' = x ∧ MInv s' := by
  obtain ⟨s', hs'⟩ := enabled hi h
  obtain ⟨hi', hcase⟩ := fwd hi hs'
  rcases hcase with ⟨_, hnone⟩ | hsome
  · rw [hnone] at h; cases h
  · rw [hsome] at h
    exact ⟨s', hs', Option.some.inj h, hi'⟩

theorem run_fwd : ∀ (sched : List Tid) (s s' : MState), MInv s → mrun s sched = some s' →
    ∃ sched1, CS.Lock.run (proj s) sched1 = some (proj s')
  | [], s, s', _, h => by
    simp [mrun] at h; subst h; exact ⟨[], rfl⟩
  | t :: rest, s, s', hi, h => by
    simp only [mrun] at h
    cases hs : mstep s t with
    | none => simp [hs] at h
    | some s1 =>
      simp only [hs] at h
      obtain ⟨hi1, hcase⟩ := fwd hi hs
      obtain ⟨sched1, h1⟩ := run_fwd rest s1 s' hi1 h
      rcases hcase with ⟨heq, _⟩ | hstep
      · exact ⟨sched1, by rw [← heq]; exact h1⟩
      · exact ⟨t :: sched1, by simp [CS.Lock.run, hstep, h1]⟩

theorem run_bwd : ∀ (sched : List Tid) (s : MState) (x : CS.Lock.State), MInv s → CS.Lock.run (proj s) sched = some x →
    CS.Lock.Serial (proj s) sched → ∃ s', mrun s sched = some s' ∧ proj s' = x ∧ MSerial s sched
  | [], s, x, _, h, _ => by
    simp [CS.Lock.run] at h; subst h; exact ⟨s, rfl, rfl, trivial⟩
  | t :: rest, s, x, hi, h, hser => by
    simp only [CS.Lock.run] at h
    cases hs : CS.Lock.step (proj s) t with
    | none => simp [hs] at h
    | some y =>
      simp only [hs] at h
      obtain ⟨s1, hm, hp, hi1⟩ := bwd hi hs
      simp only [CS.Lock.Serial, hs] at hser
      subst hp
      obtain ⟨s', hr, hp', hms⟩ := run_bwd rest s1 x hi1 h hser.2
      refine ⟨s', by simp [mrun, hm, hr], hp', ?_⟩
      simp only [MSerial, hm]
      refine ⟨?_, hms⟩
      have := hser.1
      simpa [proj, hi.hcur] using this

end CS.LockId
