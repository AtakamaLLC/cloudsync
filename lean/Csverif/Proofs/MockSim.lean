import Csverif.Proofs.MockInv
import Csverif.Proofs.MockFS
/- What the simulation of the mock provider by the reference tree is built from: the result relation `ResRel`, and the one
   shape every write to the object table has (`Refile`). -/
namespace CS.MockFS
open CS.Path
open CS.Tree (Kind Err)
variable {C H : Type}

/-- a mock `OInfo` and a tree info describe the same object (the oid is the subject of separate theorems) -/
def InfoRel (c : Cfg) (hc : HashCfg C H) (i : Info H) (ti : Tree.Info C) : Prop :=
  i.kind = ti.kind ∧
  i.hash = (match ti.kind with | .dir => none | .file => ti.content.map hc.hashOf) ∧
  i.size = (match ti.content with | some x => hc.sizeOf x | none => 0) ∧
  i.path = canon c.sep ti.path ∧
  i.name = ti.name

/-- `oid`: the tree has no ids, so a returned id is compared with the tree's path for path-style flavours only (id style:
    `rename_returns_given_oid`, `oid_stable_under_rename`); `list`: listings agree as sets -/
inductive ResRel (c : Cfg) (fl : Flavour) (hc : HashCfg C H) : Res C H → Tree.Res C → Prop where
  | info {i ti} : InfoRel c hc i ti → ResRel c fl hc (.info i) (.info ti)
  | none : ResRel c fl hc .none .none
  | oid {o p} : (fl.oip = true → o = canon c.sep p) → ResRel c fl hc (.oid o) (.path p)
  | unit : ResRel c fl hc .unit .unit
  | data {x} : ResRel c fl hc (.data x) (.data x)
  | bool {b} : ResRel c fl hc (.bool b) (.bool b)
  | list {l tl} : (∀ i ∈ l, ∃ ti ∈ tl, InfoRel c hc i ti) → (∀ ti ∈ tl, ∃ i ∈ l, InfoRel c hc i ti) →
      ResRel c fl hc (.list l) (.list tl)
  | err {e} : ResRel c fl hc (.err e) (.err e)

theorem infoRel_obj {c : Cfg} (hc : COk2 c) {fl : Flavour} (hcfg : HashCfg C H) {o : Obj C} (hcl : Clean c fl o.path) :
    InfoRel c hcfg (infoOfObj c hcfg o) (Tree.infoOf (nodeOf c o)) := by
  refine ⟨rfl, rfl, ?_, (clean_C hc hcl).2.1, basename_eq c o.path⟩
  simp only [infoOfObj, objSize, Tree.infoOf, nodeOf]
  cases o.contents <;> rfl

/-- where the object an id refers to lives (display components), if it is live -/
def resolve (c : Cfg) (s : St C) (oid : Str) : Option (List Str) := (pv s oid).map (fun ho => Path.C c ho.2.path)

theorem lookupT_resolve {c : Cfg} (hc : COk2 c) {fl : Flavour} {s : St C} {t : Tree.T C}
    (hi : Inv c fl s) (hr : Rel c s t) (oid : Str) :
    Tree.lookupT (tcfg c fl) t (resolve c s oid) =
      (pv s oid).map (fun ho => (foldL c (Path.C c ho.2.path), nodeOf c ho.2)) := by
  unfold resolve
  cases hp : pv s oid with
  | none => rfl
  | some ho =>
    obtain ⟨h, o⟩ := ho
    obtain ⟨h1, h2, h3⟩ := pv_some.1 hp
    have hk := comps_key hc o.path
    simp only [Option.map_some, Tree.lookupT, tfold_eq]
    rw [hr.get _ hk, (pv_canon_iff hc hi hk).2 ⟨h2, h3, rfl⟩]
    rfl

theorem get_infoPath {c : Cfg} (hc : COk2 c) {fl : Flavour} {s : St C} {t : Tree.T C} (hr : Rel c s t) (p : Str) :
    Tree.get t (Tree.fold (tcfg c fl) (Path.C c p)) = (infoPath c s p).map (fun ho => nodeOf c ho.2) := by
  rw [tfold_eq, hr.get _ (comps_key hc p), infoPath_eq, norm_eq hc]

theorem inv_of_same {c : Cfg} {fl : Flavour} {s s' : St C} (hh : s'.heap = s.heap) (hd : s'.dict = s.dict)
    (hn : s'.nextId = s.nextId) (hi : Inv c fl s) : Inv c fl s' := by
  obtain ⟨heap, dict, ev, cur, nid⟩ := s
  obtain ⟨heap', dict', ev', cur', nid'⟩ := s'
  cases hh; cases hd; cases hn
  exact { hi with }

theorem pv_of_same {s s' : St C} (hh : s'.heap = s.heap) (hd : s'.dict = s.dict) (k : Str) : pv s' k = pv s k := by
  unfold pv getObj; rw [hh, hd]

theorem rel_of_same {c : Cfg} {s s' : St C} {t : Tree.T C} (hh : s'.heap = s.heap) (hd : s'.dict = s.dict)
    (hr : Rel c s t) : Rel c s' t :=
  ⟨fun k hk => by rw [pv_of_same hh hd]; exact hr.get k hk, hr.keys, hr.tnodup⟩

theorem Inv.registerEvent {c : Cfg} {fl : Flavour} {s : St C} (hi : Inv c fl s) (a : Action) (o : Obj C) (p : Option Str) :
    Inv c fl (registerEvent s a o p) := inv_of_same (s := s) rfl rfl rfl hi

theorem Rel.registerEvent {c : Cfg} {s : St C} {t : Tree.T C} (hr : Rel c s t) (a : Action) (o : Obj C) (p : Option Str) :
    Rel c (registerEvent s a o p) t := rel_of_same (s := s) rfl rfl hr

theorem dget_store {c : Cfg} (s : St C) (h : Nat) (o : Obj C)
    (hf : o.oid = norm c o.path ∨ dget s.dict o.oid = none) (q : Str) :
    dget (store c s h o).dict q = if q = norm c o.path ∨ q = o.oid then some h else dget s.dict q := by
  simp only [store, dget_dset]
  by_cases he : o.oid = norm c o.path
  · simp [he, dget_dset]
  · have hn : dget s.dict o.oid = none := hf.resolve_left he
    simp only [he, if_false, hn, Option.isSome_none, Bool.false_eq_true, dget_dset]
    by_cases h1 : q = o.oid <;> by_cases h2 : q = norm c o.path <;> simp [h1, h2]

theorem nodup_store {c : Cfg} {s : St C} (hn : (s.dict.map (·.1)).Nodup) (h : Nat) (o : Obj C) :
    ((store c s h o).dict.map (·.1)).Nodup := by
  simp only [store]
  split
  · exact nodup_dset hn _ _
  · exact nodup_dset (nodup_dset hn _ _) _ _

theorem norm_head {c : Cfg} (hc : COk2 c) (p : Str) : (norm c p).head? = some '/' := by
  rw [norm_eq hc, head_canon, hc.sep]

theorem norm_eq_self_of_oip {c : Cfg} (hc : COk2 c) {fl : Flavour} {p : Str} (hp : Clean c fl p) (ho : fl.oip = true) :
    norm c p = p := by
  obtain ⟨hl, hpp, hf⟩ := clean_C hc hp
  rw [norm_eq hc, hf ho, ← hpp]

theorem lt_of_getElem? {α} {l : List α} {i : Nat} {a : α} (h : l[i]? = some a) : i < l.length :=
  (List.getElem?_eq_some_iff.1 h).1

theorem getElem?_set_cell {α} {l : List α} {i : Nat} {a : α} (h : l[i]? = some a) (b : α) (j : Nat) :
    (l.set i b)[j]? = if j = i then some b else l[j]? := by
  rw [List.getElem?_set]
  by_cases hj : i = j
  · subst hj; simp [lt_of_getElem? h]
  · rw [if_neg hj, if_neg (fun e => hj e.symm)]

theorem key_of_cell {c : Cfg} {fl : Flavour} {s : St C} (hi : Inv c fl s) {h : Nat} {o : Obj C}
    (hho : s.heap[h]? = some o) {k : Str} (hd : dget s.dict k = some h) : k = norm c o.path ∨ k = o.oid := by
  by_cases hk : k.head? = some '/'
  · exact Or.inl (hi.pathKey k h o hk hd hho).symm
  · cases ho : fl.oip with
    | true => exact absurd (hi.pathKeysHead ho k h hd) hk
    | false => exact Or.inr (hi.idKeyOid ho k h o hk hd hho).symm

theorem cell_of_key {c : Cfg} (hc : COk2 c) {fl : Flavour} {s : St C} (hi : Inv c fl s) {h : Nat} {o : Obj C}
    (hho : s.heap[h]? = some o) (hfo : dget s.dict (norm c o.path) = some h) {k : Str}
    (hk : k = norm c o.path ∨ k = o.oid) {j : Nat} (hd : dget s.dict k = some j) : j = h := by
  rcases hk with rfl | rfl
  · rw [hfo] at hd; exact (Option.some.inj hd).symm
  · cases ho : fl.oip with
    | true =>
      rw [hi.pathOid ho h o hho, ← norm_eq_self_of_oip hc (hi.clean h o hho) ho, hfo] at hd
      exact (Option.some.inj hd).symm
    | false =>
      have hj := List.getElem?_eq_getElem (hi.valsLt _ j hd)
      exact hi.oidUnique ho j h _ o hj hho (hi.idKeyOid ho _ j _ (hi.idHead ho h o hho) hd hj)

theorem live_key_inj {c : Cfg} (hc : COk2 c) {fl : Flavour} {s : St C} (hi : Inv c fl s) {j h : Nat} {ob o : Obj C}
    (h1 : s.heap[j]? = some ob) (l1 : ob.live = true) (h2 : s.heap[h]? = some o) (l2 : o.live = true)
    (e : foldL c (Path.C c ob.path) = foldL c (Path.C c o.path)) : j = h := by
  have := hi.filed j ob h1 l1
  rw [(norm_eq_iff hc).2 e, hi.filed h o h2 l2] at this
  exact (Option.some.inj this).symm

/-
Every write of the mock to its table has one shape: cell `h` of the heap receives an object `o'`, which is filed
under its path key and under its id, and whatever other key pointed at the cell has gone.  Allocation (`h` is the
next free cell), an update in place (same path and id) and `_rename_single_object` (the old path key and id go) are
the three instances. -/

structure Refile (c : Cfg) (fl : Flavour) (s s' : St C) (h : Nat) (o' : Obj C) : Prop where
  heap    : ∀ j, s'.heap[j]? = if j = h then some o' else s.heap[j]?
  dict    : ∀ q, dget s'.dict q =
              if q = norm c o'.path ∨ q = o'.oid then some h else if dget s.dict q = some h then none else dget s.dict q
  nodup   : (s'.dict.map (·.1)).Nodup
  next    : s.nextId ≤ s'.nextId
  clean   : Clean c fl o'.path
  free    : ∀ j ob, s.heap[j]? = some ob → ob.live = true → norm c ob.path = norm c o'.path → j = h
  pathOid : fl.oip = true → o'.oid = o'.path
  idOid   : fl.oip = false → (∃ n, n < s'.nextId ∧ o'.oid = (toString n).toList) ∧
              ∀ j ob, s.heap[j]? = some ob → ob.oid = o'.oid → j = h

namespace Refile
variable {c : Cfg} {fl : Flavour} {s s' : St C} {h : Nat} {o' : Obj C}

theorem ne_oid (hc : COk2 c) (hu : Refile c fl s s' h o') {k : Str} (hk : k.head? = some '/')
    (h1 : k ≠ norm c o'.path) : k ≠ o'.oid := by
  intro e
  -- the id key is the path key (path style) or does not begin with '/' (id style)
  cases ho : fl.oip with
  | true => exact h1 (by rw [e, hu.pathOid ho, norm_eq_self_of_oip hc hu.clean ho])
  | false =>
    obtain ⟨⟨n, _, hn⟩, _⟩ := hu.idOid ho
    exact idStr_head n (hn ▸ e ▸ hk)

theorem keep (hu : Refile c fl s s' h o') {k : Str} {j : Nat} (hj : j ≠ h) (hd : dget s.dict k = some j)
    (h1 : k ≠ norm c o'.path) (h2 : k ≠ o'.oid) : dget s'.dict k = some j := by
  rw [hu.dict, if_neg (not_or.2 ⟨h1, h2⟩), if_neg (fun e => hj (Option.some.inj (hd.symm.trans e)))]
  exact hd

theorem inv (hc : COk2 c) (hi : Inv c fl s) (hu : Refile c fl s s' h o') : Inv c fl s' := by
  have hK : (norm c o'.path).head? = some '/' := norm_head hc _
  have hat : ∀ ob, s'.heap[h]? = some ob → ob = o' := by
    intro ob hg; rw [hu.heap, if_pos rfl] at hg; exact (Option.some.inj hg).symm
  have hold : ∀ j ob, j ≠ h → s'.heap[j]? = some ob → s.heap[j]? = some ob := fun j ob hj hg => by
    rwa [hu.heap, if_neg hj] at hg
  have hkey : ∀ k j, dget s'.dict k = some j →
      ((k = norm c o'.path ∨ k = o'.oid) ∧ j = h) ∨ (j ≠ h ∧ dget s.dict k = some j) := by
    intro k j hd
    rw [hu.dict] at hd
    split at hd
    · rename_i hA; exact Or.inl ⟨hA, (Option.some.inj hd).symm⟩
    · split at hd
      · cases hd
      · rename_i hnd; exact Or.inr ⟨fun e => hnd (e ▸ hd), hd⟩
  have hcell : ∀ {P : Obj C → Prop}, P o' → (∀ (j : Nat) ob, s.heap[j]? = some ob → P ob) →
      ∀ (j : Nat) ob, s'.heap[j]? = some ob → P ob := by
    intro P h1 h2 j ob hg
    rw [hu.heap] at hg
    split at hg
    · cases hg; exact h1
    · exact h2 j ob hg
  refine
    { nodup := hu.nodup, valsLt := ?valsLt, clean := hcell hu.clean hi.clean, pathKey := ?pathKey, filed := ?filed,
      oidFiled := ?oidFiled, pathOid := fun ho => hcell (hu.pathOid ho) (hi.pathOid ho),
      idHead := fun ho => hcell ?idHead (hi.idHead ho), idKeys := ?idKeys, pathKeysHead := ?pathKeysHead,
      idKeyOid := ?idKeyOid,
      idAll := fun ho => hcell (hu.idOid ho).1 fun j ob hg =>
        let ⟨n, hn, e⟩ := hi.idAll ho j ob hg; ⟨n, Nat.lt_of_lt_of_le hn hu.next, e⟩,
      oidUnique := ?oidUnique }
  case valsLt =>
    intro k j hd
    rcases hkey k j hd with ⟨_, rfl⟩ | ⟨hj, hd'⟩
    · exact lt_of_getElem? (a := o') (by rw [hu.heap, if_pos rfl])
    · exact lt_of_getElem? (a := s.heap[j]'(hi.valsLt k j hd')) (by rw [hu.heap, if_neg hj]; exact List.getElem?_eq_getElem _)
  case pathKey =>
    intro k j ob hk hd hg
    rcases hkey k j hd with ⟨hA, rfl⟩ | ⟨hj, hd'⟩
    · rw [hat ob hg]
      rcases hA with e | e
      · exact e.symm
      · exact (Classical.not_not.1 fun h1 => hu.ne_oid hc hk h1 e).symm
    · exact hi.pathKey k j ob hk hd' (hold j _ hj hg)
  case filed =>
    intro j ob hg hl
    by_cases hj : j = h
    · subst hj; rw [hat ob hg, hu.dict, if_pos (Or.inl rfl)]
    · have hg' := hold j ob hj hg
      have h1 : norm c ob.path ≠ norm c o'.path := fun e => hj (hu.free j ob hg' hl e)
      exact hu.keep hj (hi.filed j ob hg' hl) h1 (hu.ne_oid hc (norm_head hc _) h1)
  case oidFiled =>
    intro j ob hg hl
    by_cases hj : j = h
    · subst hj; rw [hat ob hg, hu.dict, if_pos (Or.inr rfl)]
    · have hg' := hold j ob hj hg
      cases ho : fl.oip with
      | true =>
        have hob : ob.oid = norm c ob.path := by
          rw [hi.pathOid ho j ob hg', norm_eq_self_of_oip hc (hi.clean j ob hg') ho]
        have h1 : ob.oid ≠ norm c o'.path := fun e => hj (hu.free j ob hg' hl (hob.symm.trans e))
        exact hu.keep hj (hi.oidFiled j ob hg' hl) h1
          (hu.ne_oid hc (by rw [hob]; exact norm_head hc _) h1)
      | false =>
        exact hu.keep hj (hi.oidFiled j ob hg' hl) (fun e => hi.idHead ho j ob hg' (e ▸ hK))
          (fun e => hj ((hu.idOid ho).2 j ob hg' e))
  case idHead =>
    obtain ⟨⟨n, _, hn⟩, _⟩ := hu.idOid ho
    rw [hn]; exact idStr_head n
  case idKeys =>
    intro ho k j hd hk
    rcases hkey k j hd with ⟨hA, _⟩ | ⟨_, hd'⟩
    · rcases hA with e | e
      · exact absurd (e ▸ hK) hk
      · exact e ▸ (hu.idOid ho).1
    · obtain ⟨n, hn, e⟩ := hi.idKeys ho k j hd' hk
      exact ⟨n, Nat.lt_of_lt_of_le hn hu.next, e⟩
  case pathKeysHead =>
    intro ho k j hd
    rcases hkey k j hd with ⟨hA, _⟩ | ⟨_, hd'⟩
    · rcases hA with e | e
      · exact e ▸ hK
      · rw [e, hu.pathOid ho, ← norm_eq_self_of_oip hc hu.clean ho]; exact hK
    · exact hi.pathKeysHead ho k j hd'
  case idKeyOid =>
    intro ho k j ob hk hd hg
    rcases hkey k j hd with ⟨hA, rfl⟩ | ⟨hj, hd'⟩
    · rw [hat ob hg]
      rcases hA with e | e
      · exact absurd (e ▸ hK) hk
      · exact e.symm
    · exact hi.idKeyOid ho k j ob hk hd' (hold j _ hj hg)
  case oidUnique =>
    intro ho j j' ob ob' hg hg' he
    by_cases hj : j = h <;> by_cases hj' : j' = h
    · rw [hj, hj']
    · subst hj; rw [hat ob hg] at he
      exact ((hu.idOid ho).2 j' ob' (hold j' _ hj' hg') he.symm).symm
    · subst hj'; rw [hat ob' hg'] at he
      exact (hu.idOid ho).2 j ob (hold j _ hj hg) he
    · exact hi.oidUnique ho j j' ob ob' (hold j _ hj hg) (hold j' _ hj' hg') he

theorem rel (hc : COk2 c) {t t' : Tree.T C} (hi : Inv c fl s) (hr : Rel c s t) (hu : Refile c fl s s' h o')
    (hnd : (t'.map (·.1)).Nodup)
    (hmem : ∀ e, e ∈ t' ↔ (o'.live = true ∧ e = (foldL c (Path.C c o'.path), nodeOf c o')) ∨
      (e ∈ t ∧ e.1 ≠ foldL c (Path.C c o'.path) ∧ ∀ o, s.heap[h]? = some o → o.live = true → e.1 ≠ foldL c (Path.C c o.path))) :
    Rel c s' t' := by
  refine rel_of_mem_iff hc (hu.inv hc hi) hnd fun k n => ?_
  rw [hmem]
  constructor
  · rintro (⟨hl, e⟩ | ⟨he, _, hne⟩)
    · cases e; exact ⟨h, o', by rw [hu.heap, if_pos rfl], hl, rfl, rfl⟩
    · obtain ⟨j, ob, h1, l1, rfl, rfl⟩ := (hr.mem_iff hc hi).1 he
      refine ⟨j, ob, ?_, l1, rfl, rfl⟩
      rw [hu.heap, if_neg]
      · exact h1
      · rintro rfl; exact hne ob h1 l1 rfl
  · rintro ⟨j, ob, h1, l1, rfl, rfl⟩
    rw [hu.heap] at h1
    split at h1
    · cases h1; exact Or.inl ⟨l1, rfl⟩
    · rename_i hj
      exact Or.inr ⟨(hr.mem_iff hc hi).2 ⟨j, ob, h1, l1, rfl, rfl⟩, fun e => hj (hu.free j ob h1 l1 ((norm_eq_iff hc).2 e)),
        fun o h2 l2 e => hj (live_key_inj hc hi h1 l1 h2 l2 e)⟩

end Refile

theorem newObj_path {c : Cfg} (hc : COk2 c) {fl : Flavour} (s : St C) {p : Str} (hp : Clean c fl p) (kind : Kind) (x : Option C) :
    (newObj fl s p kind x).1.path = p := by
  obtain ⟨l, hl, rfl, _⟩ := hp
  simp only [newObj]
  split
  · rfl
  · rename_i hne
    have hln : l ≠ [] := by
      intro e; subst e; apply hne
      simp [canon, intercalate, hc.sep]
    rw [← hc.sep]; exact rstrip_canon hl.1 hln

theorem nodeOf_newObj {c : Cfg} (hc : COk2 c) {fl : Flavour} (s : St C) {p : Str} (hp : Clean c fl p) (kind : Kind) (x : Option C) :
    nodeOf c (newObj fl s p kind x).1 = { kind := kind, content := x, disp := Path.C c p } := by
  simp only [nodeOf, newObj_path hc s hp]; rfl

/-- `s0`: `allocStore` calls `store` on the state whose heap already has the new cell; only its dict matters -/
theorem refile_new {c : Cfg} (hc : COk2 c) {fl : Flavour} {s : St C} (hi : Inv c fl s) {o : Obj C}
    (hcl : Clean c fl o.path) (hfree : infoPath c s o.path = none)
    (hoid : o.oid = if fl.oip then o.path else (toString s.nextId).toList) {s0 s' : St C} (h0 : s0.dict = s.dict)
    (hh : s'.heap = s.heap ++ [o]) (hd : s'.dict = (store c s0 s.heap.length o).dict) (hn : s'.nextId = s.nextId + 1) :
    Refile c fl s s' s.heap.length o := by
  have hfresh : fl.oip = false → ∀ (j : Nat) (ob : Obj C), s.heap[j]? = some ob → ob.oid ≠ (toString s.nextId).toList := by
    intro ho j ob hg e
    obtain ⟨n, hlt, hn⟩ := hi.idAll ho j ob hg
    exact Nat.ne_of_lt hlt (idStr_injective (hn.symm.trans e))
  have hf : o.oid = norm c o.path ∨ dget s0.dict o.oid = none := by
    cases ho : fl.oip with
    | true => left; rw [hoid, if_pos ho, norm_eq_self_of_oip hc hcl ho]
    | false =>
      right
      rw [h0, hoid, if_neg (by simp [ho])]
      cases hd' : dget s.dict (toString s.nextId).toList with
      | none => rfl
      | some j =>
        have hj := List.getElem?_eq_getElem (hi.valsLt _ j hd')
        exact absurd (hi.idKeyOid ho _ j _ (idStr_head _) hd' hj) (hfresh ho j _ hj)
  refine
    { heap := ?heap, dict := ?dict, nodup := hd ▸ nodup_store (h0 ▸ hi.nodup) _ _, next := hn ▸ Nat.le_succ _, clean := hcl,
      free := ?free, pathOid := ?pathOid, idOid := ?idOid }
  case heap =>
    intro j
    rw [hh]
    rcases Nat.lt_trichotomy j s.heap.length with hj | hj | hj
    · rw [List.getElem?_append_left hj, if_neg (Nat.ne_of_lt hj)]
    · subst hj; simp
    · rw [if_neg (Nat.ne_of_gt hj), List.getElem?_eq_none (by simp; omega), List.getElem?_eq_none (by omega)]
  case dict =>
    intro q
    rw [hd, dget_store _ _ _ hf, h0, if_neg (fun e => Nat.lt_irrefl _ (hi.valsLt q _ e))]
  case free =>
    intro j ob hg hl he
    have hpv : pv s (norm c o.path) = some (j, ob) := pv_some.2 ⟨he ▸ hi.filed j ob hg hl, hg, hl⟩
    rw [← infoPath_eq, hfree] at hpv
    cases hpv
  case pathOid =>
    intro ho; rw [hoid, if_pos ho]
  case idOid =>
    intro ho
    have hoid' : o.oid = (toString s.nextId).toList := by rw [hoid, if_neg (by simp [ho])]
    exact ⟨⟨s.nextId, hn ▸ Nat.lt_succ_self _, hoid'⟩, fun j ob hg e => absurd (e.trans hoid') (hfresh ho j ob hg)⟩

theorem sim_alloc {c : Cfg} (hc : COk2 c) {fl : Flavour} {s : St C} {t : Tree.T C} (hi : Inv c fl s) (hr : Rel c s t)
    {p : Str} (hp : Clean c fl p) (hfree : infoPath c s p = none) (kind : Kind) (x : Option C) :
    Inv c fl (allocStore c fl s p kind x).1 ∧
    Rel c (allocStore c fl s p kind x).1
      (Tree.set t (foldL c (Path.C c p)) { kind := kind, content := x, disp := Path.C c p }) := by
  have hpath := newObj_path hc s hp kind x
  have hu : Refile c fl s (allocStore c fl s p kind x).1 s.heap.length (newObj fl s p kind x).1 :=
    refile_new hc hi (hpath.symm ▸ hp) (hpath.symm ▸ hfree) (by rw [hpath]; rfl)
      (s0 := { s with heap := s.heap ++ [(newObj fl s p kind x).1], nextId := s.nextId + 1 }) rfl rfl rfl rfl
  refine ⟨hu.inv hc hi, hu.rel hc hi hr (Tree.nodup_set hr.tnodup _ _) fun e => ?_⟩
  -- the cell is new, so the tree changes at the new key only: `mem_set_iff` is `hmem`
  have hnone : s.heap[s.heap.length]? = none := List.getElem?_eq_none (Nat.le_refl _)
  rw [Tree.mem_set_iff, hpath, nodeOf_newObj hc s hp, hnone]
  simp [show (newObj fl s p kind x).1.live = true from rfl]

theorem refile_set {c : Cfg} {fl : Flavour} {s : St C} (hi : Inv c fl s) {h : Nat} {o o' : Obj C}
    (hho : s.heap[h]? = some o) (hlive : o.live = true) (hpath : o'.path = o.path) (hoid : o'.oid = o.oid)
    {s' : St C} (hh : s'.heap = s.heap.set h o') (hd : s'.dict = s.dict) (hn : s'.nextId = s.nextId) :
    Refile c fl s s' h o' := by
  refine
    { heap := ?heap, dict := ?dict, nodup := hd ▸ hi.nodup, next := Nat.le_of_eq hn.symm, clean := hpath ▸ hi.clean h o hho,
      free := ?free, pathOid := ?pathOid, idOid := ?idOid }
  case heap => exact fun j => hh ▸ getElem?_set_cell hho o' j
  case dict =>
    intro q
    rw [hd, hpath, hoid]
    split
    · rename_i hq
      rcases hq with rfl | rfl
      · exact hi.filed h o hho hlive
      · exact hi.oidFiled h o hho hlive
    · rename_i hq; rw [if_neg (fun e => hq (key_of_cell hi hho e))]
  case free =>
    intro j ob hg hl he
    have := hi.filed j ob hg hl
    rw [he, hpath, hi.filed h o hho hlive] at this
    exact (Option.some.inj this).symm
  case pathOid =>
    intro ho; rw [hoid, hpath]; exact hi.pathOid ho h o hho
  case idOid =>
    intro ho
    exact ⟨hn ▸ hoid ▸ hi.idAll ho h o hho, fun j ob hg e => hi.oidUnique ho j h ob o hg hho (e.trans hoid)⟩

theorem sim_set {c : Cfg} (hc : COk2 c) {fl : Flavour} {s : St C} {t : Tree.T C} (hi : Inv c fl s) (hr : Rel c s t)
    {h : Nat} {o o' : Obj C} (hho : s.heap[h]? = some o) (hlive : o.live = true) (hpath : o'.path = o.path)
    (hoid : o'.oid = o.oid) :
    Inv c fl { s with heap := s.heap.set h o' } ∧
    (o'.live = true → Rel c { s with heap := s.heap.set h o' } (Tree.set t (foldL c (Path.C c o.path)) (nodeOf c o'))) ∧
    (o'.live = false → Rel c { s with heap := s.heap.set h o' } (Tree.erase t (foldL c (Path.C c o.path)))) := by
  have hu := refile_set hi hho hlive hpath hoid (s' := { s with heap := s.heap.set h o' }) rfl rfl rfl
  refine ⟨hu.inv hc hi, fun hl => hu.rel hc hi hr (Tree.nodup_set hr.tnodup _ _) fun e => ?_,
    fun hl => hu.rel hc hi hr (Tree.nodup_erase hr.tnodup _) fun e => ?_⟩ <;>
  -- old and new key of the cell are one key, so `hmem` is `mem_set_iff` resp. `mem_erase_iff` at that key
  · simp only [Tree.mem_set_iff, Tree.mem_erase_iff, hpath, hho, hl, Option.some.injEq]
    simp [hlive]

theorem mem_fsObjects {s : St C} {h : Nat} : h ∈ fsObjects s ↔ ∃ k, (k, h) ∈ s.dict ∧ k.head? = some '/' := by
  unfold fsObjects
  rw [List.mem_filterMap]
  constructor
  · rintro ⟨⟨k, h'⟩, hm, hf⟩
    simp only at hf
    split at hf
    · rename_i hk; cases hf; exact ⟨k, hm, by simpa using hk⟩
    · cases hf
  · rintro ⟨k, hm, hk⟩
    exact ⟨(k, h), hm, by simp [hk]⟩

theorem mem_listHandles {c : Cfg} {s : St C} {fp : Str} {h : Nat} {o : Obj C} {nm : Str} :
    (h, o, nm) ∈ listHandles c s fp ↔
      h ∈ fsObjects s ∧ s.heap[h]? = some o ∧ o.live = true ∧ childName c fp o.path = some nm := by
  unfold listHandles
  rw [List.mem_filterMap]
  constructor
  · rintro ⟨h', hm, hf⟩
    cases hh : s.heap[h']? with
    | none => simp [hh] at hf
    | some o' =>
      simp only [hh] at hf
      split at hf
      · rename_i hl
        cases hc : childName c fp o'.path with
        | none => simp [hc] at hf
        | some nm' =>
          simp only [hc, Option.map_some, Option.some.injEq, Prod.mk.injEq] at hf
          obtain ⟨rfl, rfl, rfl⟩ := hf
          exact ⟨hm, hh, hl, hc⟩
      · cases hf
  · rintro ⟨hm, hh, hl, hc⟩
    exact ⟨h, hm, by simp [hh, hl, hc]⟩

theorem mem_listHandles_canon {c : Cfg} (hc : COk2 c) {fl : Flavour} {s : St C} (hi : Inv c fl s) {fd : List Str}
    (hfd : Comps c fd) {h : Nat} {o : Obj C} {nm : Str} :
    (h, o, nm) ∈ listHandles c s (canon c.sep fd) ↔
      s.heap[h]? = some o ∧ o.live = true ∧ (foldL c fd).isPrefixOf (foldL c (Path.C c o.path)) = true ∧
      (Path.C c o.path).length = fd.length + 1 ∧ (Path.C c o.path).getLast? = some nm := by
  rw [mem_listHandles]
  constructor
  · rintro ⟨_, hh, hl, hcn⟩
    have hclo := clean_C hc (hi.clean h o hh)
    rw [hclo.2.1, childName_canon hc.toCOk hfd hclo.1] at hcn
    split at hcn
    · rename_i hcond
      simp only [Bool.and_eq_true, beq_iff_eq] at hcond
      exact ⟨hh, hl, hcond.1, hcond.2, hcn⟩
    · cases hcn
  · rintro ⟨hh, hl, hp, hlen, hnm⟩
    have hclo := clean_C hc (hi.clean h o hh)
    refine ⟨mem_fsObjects.2 ⟨_, mem_of_dget (hi.filed h o hh hl), norm_head hc _⟩, hh, hl, ?_⟩
    conv => lhs; rw [hclo.2.1]
    rw [childName_canon hc.toCOk hfd hclo.1, hp, hlen]; simp [hnm]

/-- a `listdir` entry: the object's info with the name the loop computed -/
def entry (hcfg : HashCfg C H) (x : Nat × Obj C × Str) : Info H :=
  { kind := x.2.1.kind, oid := x.2.1.oid, hash := objHash hcfg x.2.1, path := x.2.1.path, size := objSize hcfg x.2.1,
    name := x.2.2 }

theorem entry_eq_infoOfObj (c : Cfg) (hcfg : HashCfg C H) (o : Obj C) (h : Nat) {nm : Str}
    (hnm : (Path.C c o.path).getLast? = some nm) : entry hcfg (h, o, nm) = infoOfObj c hcfg o := by
  have : (split c o.path).2 = nm := by rw [← basename, basename_eq, hnm]; rfl
  rw [← this]; rfl

theorem listing_rel {c : Cfg} (hc : COk2 c) {fl : Flavour} (hcfg : HashCfg C H) {s : St C} {t : Tree.T C}
    (hi : Inv c fl s) (hr : Rel c s t) {fd : List Str} (hfd : Comps c fd) :
    (∀ x ∈ listHandles c s (canon c.sep fd), ∃ e ∈ Tree.children t (foldL c fd),
        InfoRel c hcfg (entry hcfg x) (Tree.infoOf e.2)) ∧
    (∀ e ∈ Tree.children t (foldL c fd), ∃ x ∈ listHandles c s (canon c.sep fd),
        InfoRel c hcfg (entry hcfg x) (Tree.infoOf e.2)) := by
  have hinfo : ∀ (h : Nat) (o : Obj C) (nm : Str), s.heap[h]? = some o → (Path.C c o.path).getLast? = some nm →
      InfoRel c hcfg (entry hcfg (h, o, nm)) (Tree.infoOf (nodeOf c o)) := by
    intro h o nm hh hnm
    rw [entry_eq_infoOfObj c hcfg o h hnm]
    exact infoRel_obj hc hcfg (hi.clean h o hh)
  constructor
  · rintro ⟨h, o, nm⟩ hm
    obtain ⟨hh, hl, hp, hlen, hnm⟩ := (mem_listHandles_canon hc hi hfd).1 hm
    exact ⟨_, Tree.mem_children.2 ⟨(hr.mem_iff hc hi).2 ⟨h, o, hh, hl, rfl, rfl⟩, by simp [foldL_length, hlen], hp⟩,
      hinfo h o nm hh hnm⟩
  · intro e he
    obtain ⟨hmem, hlen, hpre⟩ := Tree.mem_children.1 he
    obtain ⟨h, o, hh, hl, hk, hn⟩ := (hr.mem_iff hc hi (k := e.1) (n := e.2)).1 hmem
    have hlen' : (Path.C c o.path).length = fd.length + 1 := by
      rw [← hk] at hlen; simpa [foldL_length] using hlen
    cases hnm : (Path.C c o.path).getLast? with
    | none => rw [List.getLast?_eq_none_iff.1 hnm] at hlen'; cases hlen'
    | some nm =>
      exact ⟨(h, o, nm), (mem_listHandles_canon hc hi hfd).2 ⟨hh, hl, hk ▸ hpre, hlen', hnm⟩, hn ▸ hinfo h o nm hh hnm⟩

end CS.MockFS
