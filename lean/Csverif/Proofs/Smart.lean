import Csverif.Model.Smart
import Csverif.Model.Spec.Smart
import Csverif.Proofs.Spec
/-
For Props/C20.lean.  `CS.Smart`: the branch-by-branch functions of Model/Smart.lean, each brought to one equation or one
membership statement.  `CS.Spec.Smart`: the status automaton of Model/Spec/Smart.lean: an operation writes the status of
its target only, and a path stays unrequested as long as no operation justifies a local copy of it.
-/
namespace CS.Smart

/-- the notification for an entry the gate finishes (54-65) -/
def gateNote (i : GateIn) : Option Note :=
  let ntype := if i.superFinished then NType.discarded else NType.smartUnsynced
  if i.remotePath then some ⟨.rem, ntype, .remotePath⟩
  else if i.localPath then
    if i.translates then some ⟨.rem, ntype, .translatedLocal⟩ else some ⟨.loc, ntype, .rawLocal⟩
  else none

theorem preSyncGate_eq (i : GateIn) :
    preSyncGate i =
      if i.superFinished || !(i.localOid && i.localExists || i.requested || i.remoteDir) then ⟨true, gateNote i⟩
      else ⟨false, none⟩ := by
  unfold preSyncGate gateNote
  cases i.superFinished <;> cases i.remotePath <;> cases i.localPath <;> cases i.translates <;> rfl

theorem preSyncGate_finished (i : GateIn) :
    (preSyncGate i).finished = (i.superFinished || !(i.localOid && i.localExists || i.requested || i.remoteDir)) := by
  rw [preSyncGate_eq]; split <;> simp_all

theorem preSyncGate_note (i : GateIn) :
    (preSyncGate i).note = if (preSyncGate i).finished then gateNote i else none := by
  rw [preSyncGate_eq]; split <;> rfl

theorem gateNote_some (i : GateIn) (n : Note) (h : gateNote i = some n) :
    n.ntype = (if i.superFinished then .discarded else .smartUnsynced) ∧
    (n.path = .remotePath ↔ i.remotePath = true) ∧
    (n.path = .translatedLocal → i.localPath = true ∧ i.translates = true) ∧
    (n.src = .loc ↔ n.path = .rawLocal) := by
  unfold gateNote at h
  cases hr : i.remotePath <;> cases hl : i.localPath <;> cases ht : i.translates <;> simp [hr, hl, ht] at h <;>
    subst h <;> simp

theorem gateDecision_of_pass (i : GateIn) (h : (preSyncGate i).finished = false) : gateDecision i = .syncNormally := by
  simp [gateDecision, h]

theorem changesetFilter_eq (i : FilterIn) :
    changesetFilter i =
      if i.inExclude && !i.localChanged then ⟨false, true, ⟨i.inRequest, i.inExclude⟩, false⟩
      else if i.inRequest || i.remoteDir || (i.remoteChanged || i.localChanged) && !i.isLatest then
        ⟨true, false, ⟨i.inRequest, i.inExclude⟩, false⟩
      else if !i.localOid && firstMatch i.remotePath i.callbacks then
        ⟨true, false, ⟨true, false⟩, i.localPath && !i.localPathExists⟩
      else ⟨false, false, ⟨i.inRequest, i.inExclude⟩, false⟩ := by
  unfold changesetFilter smartSyncEnt
  cases i.inExclude && !i.localChanged <;> cases i.inRequest <;> cases i.remoteDir <;>
    cases (i.remoteChanged || i.localChanged) && !i.isLatest <;> cases i.localOid <;>
    cases firstMatch i.remotePath i.callbacks <;> rfl

theorem getSmartInfo_eq_some (i : ListIn) (s : Bool) :
    getSmartInfo i = some s ↔
      s = i.hasLocal ∧ (i.hasLocal = true ∨ (i.hasRent = true ∧ i.localGone = false ∧ i.remoteGone = false ∧
        (i.rentLocalPath = true → i.pathsMatch = true))) := by
  unfold getSmartInfo
  cases i.hasLocal <;> cases i.hasRent <;> cases s <;> simp [and_assoc]

theorem listEntry_eq_some (i : ListIn) (s : Bool) :
    listEntry i = some s ↔
      getSmartInfo i = some s ∧ (i.hasRent = true → i.rentLocalPath = true → i.pathsMatch = true) ∧
        (if s then i.localVisible else i.remoteVisible) = true := by
  unfold listEntry
  cases i.hasRent <;> cases i.rentLocalPath <;> cases getSmartInfo i with
  | none => simp
  | some b => cases b <;> cases s <;> simp

theorem mem_setAdd (l : List Nat) (e x : Nat) : x ∈ setAdd l e ↔ x ∈ l ∨ x = e :=
  mem_ite_snoc List.contains_iff_mem.1

theorem mem_setDiscard (l : List Nat) (e x : Nat) : x ∈ setDiscard l e ↔ x ∈ l ∧ x ≠ e := by
  simp [setDiscard]

def Disjoint (s : Sets) : Prop := ∀ x, ¬ (x ∈ s.req ∧ x ∈ s.excl)

theorem request_mem_req (s : Sets) (e x : Nat) : x ∈ (request s e).req ↔ x ∈ s.req ∨ x = e := mem_setAdd ..

theorem request_mem_excl (s : Sets) (e x : Nat) : x ∈ (request s e).excl ↔ x ∈ s.excl ∧ x ≠ e := mem_setDiscard ..

theorem unrequestRaw_mem_req (s : Sets) (e x : Nat) : x ∈ (unrequestRaw s e).req ↔ x ∈ s.req ∧ x ≠ e :=
  mem_setDiscard ..

theorem unrequestRaw_mem_excl (s : Sets) (e x : Nat) : x ∈ (unrequestRaw s e).excl ↔ x ∈ s.excl ∨ x = e :=
  mem_setAdd ..

theorem unrequest_mem_req (s : Sets) (e x : Nat) : x ∈ (unrequest s e).req ↔ x ∈ s.req ∧ x ≠ e := by
  unfold unrequest
  split
  · exact unrequestRaw_mem_req s e x
  · rename_i h
    have he : e ∉ s.req := by simpa using h
    exact ⟨fun hx => ⟨hx, fun hxe => he (hxe ▸ hx)⟩, And.left⟩

theorem unrequest_mem_excl (s : Sets) (e x : Nat) :
    x ∈ (unrequest s e).excl ↔ x ∈ s.excl ∨ (x = e ∧ e ∈ s.req) := by
  unfold unrequest
  split
  · rename_i h
    have he : e ∈ s.req := by simpa using h
    simp [unrequestRaw_mem_excl, he]
  · rename_i h
    have he : e ∉ s.req := by simpa using h
    simp [he]

theorem disjoint_applyCall (s : Sets) (c : Call) (h : Disjoint s) : Disjoint (applyCall s c) := by
  intro x
  cases c with
  | request e =>
    simp only [applyCall, request_mem_req, request_mem_excl]
    rintro ⟨h1 | h1, h2, h3⟩
    · exact h x ⟨h1, h2⟩
    · exact h3 h1
  | unrequest e =>
    simp only [applyCall, unrequest_mem_req, unrequest_mem_excl]
    rintro ⟨⟨h1, h2⟩, h3 | ⟨h3, _⟩⟩
    · exact h x ⟨h1, h3⟩
    · exact h2 h3

theorem runCalls_append (s : Sets) (a b : List Call) : runCalls s (a ++ b) = runCalls (runCalls s a) b := by
  simp [runCalls, List.foldl_append]

theorem runCalls_snoc (s : Sets) (a : List Call) (c : Call) : runCalls s (a ++ [c]) = applyCall (runCalls s a) c := by
  simp [runCalls, List.foldl_append]

theorem applyCall_frame (s : Sets) (c : Call) (x : Nat) (hx : c.entry ≠ x) :
    (x ∈ (applyCall s c).req ↔ x ∈ s.req) ∧ (x ∈ (applyCall s c).excl ↔ x ∈ s.excl) := by
  have hx' : x ≠ c.entry := Ne.symm hx
  cases c with
  | request e => simp [applyCall, request_mem_req, request_mem_excl, show x ≠ e from hx']
  | unrequest e => simp [applyCall, unrequest_mem_req, unrequest_mem_excl, show x ≠ e from hx']

theorem mem_flushPart (e : Nat) (i : UnsyncIn) (a : Act) :
    a ∈ flushPart e i ↔ a = .getLatestLocal e ∨ (i.newer = true ∧ a = .flush e) := by
  unfold flushPart
  cases i.newer <;> simp

theorem mem_statePart (e : Nat) (i : UnsyncIn) (a : Act) :
    a ∈ statePart e i ↔
      (i.localPath = true ∧ (a = .localInfo e ∨ (i.localInfo = true ∧ a = .write .loc .delete e) ∨ a = .clearLocal e))
      ∨ a = .moveToExcluded e := by
  unfold statePart
  cases i.localPath <;> cases i.localInfo <;> simp [or_assoc]

theorem flush_not_mem_statePart (e e' : Nat) (i : UnsyncIn) : Act.flush e' ∉ statePart e i := by
  rw [mem_statePart]; simp

end CS.Smart

namespace CS.Spec.Smart
open CS.Spec

theorem getKey_filter_ne {β : Type} (l : List (RPath × β)) (p q : RPath) (h : q ≠ p) :
    getKey (l.filter (·.1 != p)) q = getKey l q :=
  (Assoc.get_del l p q).trans (if_neg h)

theorem getKey_setKey {β : Type} (l : List (RPath × β)) (p : RPath) (v : β) (q : RPath) :
    getKey (setKey l p v) q = if q = p then some v else getKey l q := Assoc.get_del_snoc l p v q

theorem getKey_setKey_same {β : Type} (l : List (RPath × β)) (p : RPath) (v : β) : getKey (setKey l p v) p = some v :=
  (getKey_setKey l p v p).trans (if_pos rfl)

theorem getKey_setKey_ne {β : Type} (l : List (RPath × β)) (p q : RPath) (v : β) (h : q ≠ p) :
    getKey (setKey l p v) q = getKey l q :=
  (getKey_setKey l p v q).trans (if_neg h)

theorem mem_setKey {β : Type} (l : List (RPath × β)) (p : RPath) (v : β) : (p, v) ∈ setKey l p v := by
  simp [setKey]

def SOp.statusTarget : SOp → Option RPath
  | .rcreate p _ => some p
  | .lcreate p _ => some p
  | .request p _ => some p
  | .unrequest p _ => some p
  | _ => none

def SOp.justifies (auto : List RPath) (p : RPath) : SOp → Bool
  | .rcreate q _ => q == p && auto.contains p
  | .lcreate q _ => q == p
  | .request q r => q == p && r != .nf
  | _ => false

theorem st_setKey_same (s : St) (p : RPath) (v : Status) : ({ s with status := setKey s.status p v } : St).st p = v := by
  simp [St.st, getKey_setKey_same]

theorem st_setKey_ne (s : St) (p q : RPath) (v : Status) (h : q ≠ p) :
    ({ s with status := setKey s.status p v } : St).st q = s.st q := by
  simp [St.st, getKey_setKey_ne _ _ _ _ h]

theorem applySOp_status (auto : List RPath) (s : St) (op : SOp) :
    (applySOp auto s op).status = s.status ∨
      ∃ p v, op.statusTarget = some p ∧ (applySOp auto s op).status = setKey s.status p v := by
  cases op with
  | rcreate q t | lcreate q t => exact .inr ⟨_, _, rfl, rfl⟩
  | request q r =>
    cases r with
    | nf => exact .inl rfl
    | ok | err => exact .inr ⟨_, _, rfl, rfl⟩
  | unrequest q r =>
    simp only [applySOp]
    split
    · exact .inr ⟨_, _, rfl, rfl⟩
    · exact .inr ⟨_, _, rfl, rfl⟩
    · exact .inl rfl
  | _ => exact .inl rfl

theorem st_frame (auto : List RPath) (s : St) (op : SOp) (p : RPath) (h : SOp.statusTarget op ≠ some p) :
    (applySOp auto s op).st p = s.st p := by
  unfold St.st
  rcases applySOp_status auto s op with e | ⟨q, v, ht, e⟩ <;> rw [e]
  rw [getKey_setKey_ne _ _ _ _ fun hpq => h (by rw [hpq, ht])]

theorem run_snoc (auto : List RPath) (ops : List SOp) (op : SOp) :
    run auto (ops ++ [op]) = applySOp auto (run auto ops) op := by
  simp [run, List.foldl_append]

theorem run_append (auto : List RPath) (a b : List SOp) :
    run auto (a ++ b) = b.foldl (applySOp auto) (run auto a) := by
  simp [run, List.foldl_append]

theorem foldl_st_frame (auto : List RPath) (ops : List SOp) (s : St) (p : RPath)
    (h : ∀ op ∈ ops, SOp.statusTarget op ≠ some p) : (ops.foldl (applySOp auto) s).st p = s.st p :=
  List.foldlRecOn (motive := fun s' => s'.st p = s.st p) ops _ rfl fun s' hs op hop => (st_frame auto s' op p (h op hop)).trans hs

/-- `.request p .nf` is not among the justifying operations and `.request p .err` is, because `applySOp` leaves the
    status alone on `nf` and sets it to `maybe` on `err`. -/
theorem st_unreq_step (auto : List RPath) (s : St) (op : SOp) (p : RPath) (hs : s.st p = .unreq)
    (hj : SOp.justifies auto p op = false) : (applySOp auto s op).st p = .unreq := by
  by_cases ht : SOp.statusTarget op = some p
  · cases op with
    | rcreate q t =>
      cases Option.some.inj ht
      have : auto.contains p = false := by simpa [SOp.justifies] using hj
      simp only [applySOp, this]
      exact st_setKey_same ..
    | lcreate q t => cases Option.some.inj ht; simp [SOp.justifies] at hj
    | request q r =>
      cases Option.some.inj ht
      cases r with
      | nf => exact hs
      | ok | err => simp [SOp.justifies] at hj
    | unrequest q r => cases Option.some.inj ht; simp only [applySOp, hs]
    | _ => cases ht
  · rw [st_frame auto s op p ht]; exact hs

theorem foldl_st_unreq (auto : List RPath) (ops : List SOp) (s : St) (p : RPath) (hs : s.st p = .unreq)
    (h : ∀ op ∈ ops, SOp.justifies auto p op = false) : (ops.foldl (applySOp auto) s).st p = .unreq :=
  List.foldlRecOn (motive := fun s' => s'.st p = .unreq) ops _ hs fun s' hs' op hop => st_unreq_step auto s' op p hs' (h op hop)

theorem firstBad_ok_iff (l : List QuietVerdict) : firstBad l = .ok ↔ ∀ v ∈ l, v = .ok := by
  induction l with
  | nil => simp [firstBad]
  | cons v vs ih =>
    by_cases hv : v = .ok <;> simp [firstBad, hv, ih]

theorem erase_get_self (t : Tree) (p : RPath) : (Tree.erase t p).get p = none := by
  rw [Tree.get_eq_none_iff]
  intro e he
  simpa using (List.mem_filter.mp he).2

end CS.Spec.Smart
