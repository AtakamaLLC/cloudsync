import Csverif.Proofs.StateHook
/-
C11: `ent[side].changed = v` (the `changed` branch of `updated`, state.py:795-801) and `ent.priority = v`.
The hook calls nothing (the other side's dangling flag is zeroed by a direct write, `ent[other]._changed = 0`); everything it
does is confined to the `changed` fields of that entry, its membership in the pending set, and the dirty set.
-/
namespace CS.State

/-- what `ent[side].changed = v` and `ent.priority = v` leave free: the `changed` fields of entry `e`, its pending-set membership, the
    dirty set, and `priority`/`ignored`/clock, which no invariant reads; `sides` says that all side fields but `changed` agree -/
structure ChgRel (e : Nat) (st st' : St) : Prop where
  len : st'.ents.length = st.ents.length
  oids : ∀ s, st'.oids s = st.oids s
  paths : ∀ s, st'.paths s = st.paths s
  sides : ∀ i s, { st'.side i s with changed := .none } = { st.side i s with changed := .none }
  others : ∀ i, i ≠ e → (∀ s, (st'.side i s).changed = (st.side i s).changed) ∧ (i ∈ st'.cs ↔ i ∈ st.cs)
  mov : st'.moving = st.moving

theorem ChgRel.refl (e : Nat) (st : St) : ChgRel e st st := ⟨rfl, fun _ => rfl, fun _ => rfl, fun _ _ => rfl, fun _ _ => ⟨fun _ => rfl, Iff.rfl⟩, rfl⟩
theorem ChgRel.trans {e st st' st''} (h1 : ChgRel e st st') (h2 : ChgRel e st' st'') : ChgRel e st st'' :=
  ⟨h2.len.trans h1.len, fun s => (h2.oids s).trans (h1.oids s), fun s => (h2.paths s).trans (h1.paths s),
   fun i s => (h2.sides i s).trans (h1.sides i s),
   fun i hi => ⟨fun s => ((h2.others i hi).1 s).trans ((h1.others i hi).1 s), (h2.others i hi).2.trans (h1.others i hi).2⟩,
   h2.mov.trans h1.mov⟩

theorem ChgRel.field {e st st'} (h : ChgRel e st st') (i : Nat) (s : Sd) :
    (st'.side i s).oid = (st.side i s).oid ∧ (st'.side i s).path = (st.side i s).path ∧
    (st'.side i s).otype = (st.side i s).otype ∧ (st'.side i s).syncPath = (st.side i s).syncPath := by
  have := h.sides i s
  have h1 := congrArg Side.oid this
  have h2 := congrArg Side.path this
  have h3 := congrArg Side.otype this
  have h4 := congrArg Side.syncPath this
  exact ⟨h1, h2, h3, h4⟩

theorem ChgRel.idx {e st st' X} (h : ChgRel e st st') (hI : Idx X st) : Idx X st' :=
  hI.congr h.len h.oids h.paths (fun i s => ⟨(h.field i s).1, (h.field i s).2.1⟩)

theorem ChgRel.frame {e st st'} (h : ChgRel e st st') : Frame none st st' :=
  Frame.of_sides h.len (fun i s => ⟨(h.field i s).2.2.1, (h.field i s).2.1⟩)

def PendE (e : Nat) (st : St) : Prop :=
  (∃ s, (st.side e s).changed.truthy = true ∧ truthyS (st.side e s).oid = true) → e ∈ st.cs

def PendBut (e : Nat) (st : St) : Prop := ∀ i, i ≠ e → PendE i st

theorem Pend.but {st : St} (h : Pend st) (e : Nat) : PendBut e st := fun i _ => h i

theorem PendBut.chgRel {e st st'} (h : PendBut e st) (hr : ChgRel e st st') : PendBut e st' := by
  intro i hie ⟨s, h1, h2⟩
  rw [(hr.others i hie).1 s] at h1; rw [(hr.field i s).1] at h2
  exact (hr.others i hie).2.2 (h i hie ⟨s, h1, h2⟩)

theorem ChgRel.pend {e st st'} (h : ChgRel e st st') (hP : Pend st) (he : PendE e st') : Pend st' := by
  intro i hi
  by_cases hie : i = e
  · subst hie; exact he hi
  · exact (hP.but e).chgRel h i hie hi

theorem chgRel_csAdd (e : Nat) (st : St) : ChgRel e st (st.csAdd e) :=
  ⟨rfl, fun s => by simp, fun s => by simp, fun _ _ => rfl, fun i hi => ⟨fun _ => rfl, by simp [hi]⟩, rfl⟩
theorem chgRel_csDiscard (e : Nat) (st : St) : ChgRel e st (st.csDiscard e) :=
  ⟨rfl, fun s => by simp, fun s => by simp, fun _ _ => rfl, fun i hi => ⟨fun _ => rfl, by simp [hi]⟩, rfl⟩
theorem chgRel_dirtyAdd (e j : Nat) (st : St) : ChgRel e st (st.dirtyAdd j) :=
  ⟨rfl, fun s => by simp, fun s => by simp, fun _ _ => rfl, fun i _ => ⟨fun _ => rfl, by simp⟩, rfl⟩
theorem chgRel_setChanged (e : Nat) (s : Sd) (v : Chg) (st : St) : ChgRel e st (st.modSide e s (fun x => { x with changed := v })) := by
  refine ⟨by simp, fun s => by simp, fun s => by simp, fun i s' => ?_, fun i hi => ⟨fun s' => ?_, by simp⟩, rfl⟩
  · exact proj_modSide st e i s s' (fun x => { x with changed := v }) (fun x => { x with changed := .none }) fun _ => rfl
  · rw [side_modSide]; split
    · next hh => exact absurd hh.1 hi
    · rfl
theorem chgRel_modEnt_prio (e : Nat) (v : Int) (st : St) : ChgRel e st (st.modEnt e (fun x => { x with priority := v })) := by
  have hs : ∀ i s, (st.modEnt e (fun x => { x with priority := v })).side i s = st.side i s :=
    fun i s => side_modEnt st e i _ (fun _ s => by cases s <;> rfl) s
  exact ⟨by simp, fun s => by simp, fun s => by simp, fun i s => by rw [hs], fun i _ => ⟨fun s => by rw [hs], by simp⟩, rfl⟩

/-- the state after the `changed` branch of `updated` -/
def chgHook (st : St) (e : Nat) (s : Sd) (v : Chg) : St :=
  if ((v.truthy && truthyS (st.side e s).oid) || ((st.side e s.other).changed.truthy && truthyS (st.side e s.other).oid)) = true then
    st.csAdd e
  else if ((st.side e s.other).changed.truthy && !truthyS (st.side e s.other).oid) = true then
    (st.csDiscard e).modSide e s.other (fun x => { x with changed := .num 0 })
  else st.csDiscard e

theorem changedRule_eq (s : Sd) (e : Nat) (v : Chg) (st : St) : changedRule s e v st = (.ok (), chgHook st e s v) := by
  simp only [changedRule, chgHook, M.bind_apply, getSt_apply, M.ite_apply, modifySt_apply]
  split
  · rfl
  · split <;> rfl

theorem sideSetBody_changed_eq (setF : SetF) (cfg : Cfg) (e : Nat) (s : Sd) (v : Chg) (st : St) :
    sideSetBody setF cfg e s (.changed v) st =
      (.ok (), ((chgHook st e s v).dirtyAdd e).modSide e s (fun x => { x with changed := v })) := by
  simp only [sideSetBody, updatedSide, M.bind_apply, changedRule_eq, modifySt_apply]

theorem chgRel_chgHook (st : St) (e : Nat) (s : Sd) (v : Chg) : ChgRel e st (chgHook st e s v) := by
  unfold chgHook
  split
  · exact chgRel_csAdd e st
  · split
    · exact (chgRel_csDiscard e st).trans (chgRel_setChanged e s.other _ _)
    · exact chgRel_csDiscard e st

theorem chg_rel (cfg : Cfg) : ∀ (n : Nat) (e : Nat) (s : Sd) (v : Chg) (st : St), ChgRel e st (sideSet cfg n e s (.changed v) st).2
  | 0, e, s, v, st => ChgRel.refl e st
  | n + 1, e, s, v, st => by
    show ChgRel e st (sideSetBody (sideSet cfg n) cfg e s (.changed v) st).2
    rw [sideSetBody_changed_eq]
    exact ((chgRel_chgHook st e s v).trans (chgRel_dirtyAdd e e _)).trans (chgRel_setChanged e s v _)

theorem pendE_chg (st : St) (e : Nat) (s : Sd) (v : Chg) (hlt : e < st.ents.length) :
    PendE e (((chgHook st e s v).dirtyAdd e).modSide e s (fun x => { x with changed := v })) := by
  have hrel := (chgRel_chgHook st e s v).trans (chgRel_dirtyAdd e e _)
  have hl : e < ((chgHook st e s v).dirtyAdd e).ents.length := hrel.len ▸ hlt
  rintro ⟨s', h1, h2⟩
  show e ∈ (chgHook st e s v).cs
  -- the `oid` fields are those of `st`; the flag is `v` on side `s` and what the hook left on the other side
  rw [side_modSide] at h1 h2
  rcases Sd.eq_or_other s s' with rfl | rfl
  · rw [if_pos ⟨rfl, rfl, hl⟩] at h1 h2
    replace h2 : truthyS (st.side e s').oid = true := (hrel.field e s').1 ▸ h2
    unfold chgHook
    rw [if_pos (by simp [show v.truthy = true from h1, h2])]
    simp
  · rw [if_neg (fun h => by cases s <;> cases h.2.1)] at h1 h2
    replace h2 : truthyS (st.side e s.other).oid = true := (hrel.field e s.other).1 ▸ h2
    unfold chgHook at h1 ⊢
    split
    · simp
    · next hc =>
      exfalso
      rw [if_neg hc] at h1
      split at h1
      · simp [side_modSide, hlt, Chg.truthy] at h1
      · exact hc (by simp [show (st.side e s.other).changed.truthy = true from h1, h2])

theorem chg_ok (cfg : Cfg) : ∀ (n : Nat) (e : Nat) (s : Sd) (v : Chg) (st : St), e < st.ents.length →
    (sideSet cfg n e s (.changed v) st).1 = .error .recursion ∨
    ((sideSet cfg n e s (.changed v) st).1 = .ok () ∧ PendE e (sideSet cfg n e s (.changed v) st).2 ∧
      ((sideSet cfg n e s (.changed v) st).2.side e s).changed = v)
  | 0, e, s, v, st, _ => Or.inl rfl
  | n + 1, e, s, v, st, hlt => by
    show (sideSetBody (sideSet cfg n) cfg e s (.changed v) st).1 = _ ∨ ((sideSetBody (sideSet cfg n) cfg e s (.changed v) st).1 = _ ∧
      PendE e (sideSetBody (sideSet cfg n) cfg e s (.changed v) st).2 ∧ ((sideSetBody (sideSet cfg n) cfg e s (.changed v) st).2.side e s).changed = v)
    rw [sideSetBody_changed_eq]
    right
    refine ⟨by first | rfl | trivial, pendE_chg st e s v hlt, ?_⟩
    have hl : e < (chgHook st e s v).ents.length := by
      rw [(chgRel_chgHook st e s v).len]; exact hlt
    rw [side_modSide]; simp [hl]

theorem chg_total (cfg : Cfg) (n : Nat) (e : Nat) (s : Sd) (v : Chg) (st : St) :
    (sideSet cfg (n + 1) e s (.changed v) st).1 = .ok () := by
  show (sideSetBody (sideSet cfg n) cfg e s (.changed v) st).1 = _
  rw [sideSetBody_changed_eq]

/-! these assignments call nothing that calls the hook again, so they run out of fuel only when there is none -/

theorem sideSet_changed_ho (cfg : Cfg) (n : Nat) (X0 : Ex2) (e : Nat) (s : Sd) (v : Chg) {st : St} (hI : Idx X0 st) (hP : Pend st)
    (hlt : e < st.ents.length) :
    Ho st (sideSet cfg n e s (.changed v)) (fun _ st' => ChgRel e st st' ∧ Idx X0 st' ∧ Pend st') (fun x _ => x = .recursion ∧ n = 0) := by
  cases n with
  | zero => exact Ho.throw ⟨rfl, rfl⟩
  | succ n =>
    have hrel := chg_rel cfg (n + 1) e s v st
    have hok := chg_total cfg n e s v st
    rcases chg_ok cfg (n + 1) e s v st hlt with h | ⟨_, hpe, _⟩
    · rw [hok] at h; cases h
    · exact ⟨fun _ _ => ⟨hrel, hrel.idx hI, hrel.pend hP hpe⟩, fun x hx => by rw [hok] at hx; cases hx⟩

theorem bumpChanged_ho (cfg : Cfg) (n : Nat) (X0 : Ex2) (e : Nat) (s : Sd) {st : St} (hI : Idx X0 st) (hP : Pend st)
    (hlt : e < st.ents.length) :
    Ho st (bumpChanged (sideSet cfg n) cfg e s) (fun _ st' => ChgRel e st st' ∧ Idx X0 st' ∧ Pend st') (fun x _ => x = .recursion ∧ n = 0) := by
  unfold bumpChanged
  refine Ho.getSt ?_
  split
  · exact Ho.when (fun _ => sideSet_changed_ho cfg n X0 e s _ hI hP hlt) (fun _ => ⟨ChgRel.refl e st, hI, hP⟩)
  · exact Ho.pure ⟨ChgRel.refl e st, hI, hP⟩

/-- `ent.priority = v` (state.py:355-362, 802-808) -/
theorem setPriority_ho (cfg : Cfg) (n : Nat) (X0 : Ex2) (e : Nat) (v : Int) {st : St} (hI : Idx X0 st) (hP : Pend st)
    (hlt : e < st.ents.length) :
    Ho st (setPriority (sideSet cfg n) cfg e v) (fun _ st' => ChgRel e st st' ∧ Idx X0 st' ∧ Pend st') (fun x _ => x = .recursion ∧ n = 0) := by
  unfold setPriority
  have h0 : ChgRel e st st ∧ Idx X0 st ∧ Pend st := ⟨ChgRel.refl e st, hI, hP⟩
  refine Ho.getSt (Ho.when (fun _ => ?_) fun _ => h0)
  refine Ho.bind (R := fun _ st' => ChgRel e st st' ∧ Idx X0 st' ∧ Pend st') ?_ ?_
  · refine Ho.when (fun _ => ?_) fun _ => h0
    refine Ho.bind (bumpChanged_ho cfg n X0 e .L hI hP hlt) fun _ st1 ⟨hr1, hI1, hP1⟩ => ?_
    exact (bumpChanged_ho cfg n X0 e .R hI1 hP1 (hr1.len ▸ hlt)).conseq (fun _ _ h => ⟨hr1.trans h.1, h.2⟩) (fun _ _ h => h)
  · rintro _ st1 ⟨hrel, hI1, hP1⟩
    refine Ho.modify ?_
    have hr2 : ChgRel e st1 ((st1.dirtyAdd e).modEnt e fun x => { x with priority := v }) :=
      (chgRel_dirtyAdd e e st1).trans (chgRel_modEnt_prio e v _)
    refine ⟨hrel.trans hr2, hr2.idx hI1, hr2.pend hP1 ?_⟩
    intro ⟨s, h1, h2⟩
    have hs : ∀ s, ((st1.dirtyAdd e).modEnt e fun x => { x with priority := v }).side e s = st1.side e s :=
      side_modEnt (st1.dirtyAdd e) e e _ (fun _ s => by cases s <;> rfl)
    rw [hs] at h1 h2
    have := hP1 e ⟨s, h1, h2⟩
    simpa using this

end CS.State
