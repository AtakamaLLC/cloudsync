import Csverif.Model.Storage
import Csverif.Proofs.Assoc
/- The sqlite backend of the storage model (Model/Storage.lean): the primary-key invariant `Inv`, the table read as a map
   (`abs`), and what `create`/`update`/`delete`/`read_all` do to that map. -/
namespace CS.Storage
namespace Sqlite
variable {V : Type}

/-- `INTEGER PRIMARY KEY`: row ids are unique over ALL tags, which is more than uniqueness of the keys `(tag, id)` -/
def Inv (t : Table V) : Prop := (t.map (·.id)).Nodup

/-- abstraction: the table read as a map (tag, id) ↦ value -/
def abs (t : Table V) : Spec.M V := fun tag n => (t.find? (hits tag (some n))).map (·.val)

theorem _root_.CS.Storage.Spec.set_same (m : Spec.M V) (tag : Tag) (n : Nat) (v : Option V) : Spec.set m tag n v tag n = v :=
  if_pos ⟨rfl, rfl⟩

theorem _root_.CS.Storage.Spec.set_other_id (m : Spec.M V) (tag tag' : Tag) {n i : Nat} (v : Option V) (h : i ≠ n) :
    Spec.set m tag n v tag' i = m tag' i :=
  if_neg fun c => h c.2

theorem _root_.CS.Storage.Spec.set_other_tag (m : Spec.M V) {tag tag' : Tag} (n i : Nat) (v : Option V) (h : tag' ≠ tag) :
    Spec.set m tag n v tag' i = m tag' i :=
  if_neg fun c => h c.1

theorem hits_iff (tag : Tag) (n : Nat) (r : Row V) : hits tag (some n) r = true ↔ (r.id = n ∧ r.tag = tag) := by
  simp only [hits, Bool.and_eq_true, beq_iff_eq, Option.some.injEq]
  constructor
  · intro ⟨a, b⟩; exact ⟨a.symm, b⟩
  · intro ⟨a, b⟩; exact ⟨a.symm, b⟩

theorem hits_none_eq (tag : Tag) : hits (V := V) tag none = fun _ => false := funext fun _ => by simp [hits]

/-- `hits` compares the key `(tag, id)` of a row: `abs` is a keyed `find?`, and Proofs/Assoc.lean applies -/
def rkey (r : Row V) : Tag × Nat := (r.tag, r.id)

theorem hits_eq_key (tag : Tag) (n : Nat) : hits (V := V) tag (some n) = (rkey · == (tag, n)) := by
  funext r
  rw [Bool.eq_iff_iff, hits_iff]
  simp only [rkey, beq_iff_eq, Prod.mk.injEq]
  exact and_comm

theorem abs_eq (t : Table V) (tag : Tag) (n : Nat) : abs t tag n = (t.find? (rkey · == (tag, n))).map (·.val) := by
  rw [abs, hits_eq_key]

theorem Inv.nodup_key {t : Table V} (h : Inv t) : (t.map rkey).Nodup := by
  rw [Inv, List.Nodup, List.pairwise_map] at h
  rw [List.Nodup, List.pairwise_map]
  exact h.imp fun hab e => hab (congrArg Prod.snd e)

theorem maxId_ge (t : Table V) (r : Row V) (h : r ∈ t) : r.id ≤ maxId t := by
  induction t with
  | nil => cases h
  | cons x xs ih =>
    simp [maxId]
    cases h with
    | head => omega
    | tail _ h' => have := ih h'; omega

theorem find_none_of_fresh (t : Table V) (tag : Tag) (n : Nat) (hn : maxId t < n) :
    t.find? (hits tag (some n)) = none := by
  rw [List.find?_eq_none]
  intro r hr hh
  have := (hits_iff tag n r).1 hh
  have := maxId_ge t r hr
  omega

/-- the id `create` hands out is in use under no tag -/
theorem abs_fresh (t : Table V) (tag : Tag) : abs t tag (maxId t + 1) = none := by
  simp only [abs, Option.map_eq_none_iff]
  exact find_none_of_fresh t tag _ (Nat.lt_succ_self _)

theorem abs_eq_some_iff (t : Table V) (hinv : Inv t) (tag : Tag) (n : Nat) (v : V) :
    abs t tag n = some v ↔ (⟨n, tag, v⟩ : Row V) ∈ t := by
  rw [abs_eq]
  constructor
  · intro h
    obtain ⟨⟨rid, rtag, rval⟩, hf, rfl⟩ := Option.map_eq_some_iff.1 h
    have hk : rkey (⟨rid, rtag, rval⟩ : Row V) = (tag, n) := by simpa using List.find?_some hf
    cases hk
    exact List.mem_of_find?_eq_some hf
  · intro hm
    rw [show (tag, n) = rkey (⟨n, tag, v⟩ : Row V) from rfl, find?_key_of_mem rkey hinv.nodup_key hm]
    rfl

/-- `maxId` and both invariants (`Inv`, and `Inv2` of StoragePaged.lean) speak of the id column alone -/
def ids (t : Table V) : List Nat := t.map (·.id)

theorem le_maxId_of_mem_ids {t : Table V} {a : Nat} (h : a ∈ ids t) : a ≤ maxId t := by
  obtain ⟨r, hr, rfl⟩ := List.mem_map.1 h
  exact maxId_ge t r hr

/-- what a step can do to the id column: thin it out (`delete`; `update` and the reads leave it as it is),
    or append `maxId + 1`, which exceeds every id in it (`create`) -/
theorem ids_step (t : Table V) (op : Op V) :
    (ids (step t op).1).Sublist (ids t) ∨ ids (step t op).1 = ids t ++ [maxId t + 1] := by
  cases op with
  | create tag v => exact .inr (List.map_append ..)
  | update tag v eid =>
    left
    simp only [step]
    split
    · exact .refl _
    · rw [ids, List.map_map, List.map_congr_left (g := (·.id)) fun r _ => by dsimp only [Function.comp]; split <;> rfl]
      exact .refl _
  | delete tag eid => exact .inl (List.filter_sublist.map _)
  | read tag eid => exact .inl (.refl _)
  | readAll o => cases o <;> exact .inl (.refl _)
  | reopen => exact .inl (.refl _)

theorem inv_step (t : Table V) (op : Op V) (h : Inv t) : Inv (step t op).1 := by
  rcases ids_step t op with hs | he
  · exact h.sublist hs
  · unfold Inv
    rw [← ids, he]
    refine List.nodup_append.2 ⟨h, List.pairwise_singleton _ _, fun a ha b hb hab => ?_⟩
    cases List.mem_singleton.1 hb
    exact absurd (le_maxId_of_mem_ids ha) (by omega)

theorem abs_create (t : Table V) (tag : Tag) (v : V) :
    abs (t ++ [{ id := maxId t + 1, tag := tag, val := v }]) = Spec.set (abs t) tag (maxId t + 1) (some v) := by
  funext tag' i
  rw [abs_eq, List.find?_append, Spec.set, abs_eq]
  by_cases hc : tag' = tag ∧ i = maxId t + 1
  · obtain ⟨rfl, rfl⟩ := hc
    rw [← hits_eq_key, find_none_of_fresh t tag' _ (Nat.lt_succ_self _)]
    simp [hits]
  · rw [if_neg hc]
    cases t.find? (rkey · == (tag', i)) with
    | some r => rfl
    | none =>
      -- the new row does not answer to `(tag', i)`
      have : (rkey (⟨maxId t + 1, tag, v⟩ : Row V) == (tag', i)) = false := by
        simpa [rkey] using fun a b => hc ⟨a.symm, b.symm⟩
      simp [this]

theorem abs_update (t : Table V) (tag : Tag) (n : Nat) (v : V) (hfound : abs t tag n ≠ none) :
    abs (t.map (fun r => if hits tag (some n) r then { r with val := v } else r)) = Spec.set (abs t) tag n (some v) := by
  funext tag' i
  rw [abs_eq, find?_key_map rkey _ (fun r => by split <;> rfl), Option.map_map, Spec.set, abs_eq]
  by_cases hc : tag' = tag ∧ i = n
  · obtain ⟨rfl, rfl⟩ := hc
    rw [abs_eq] at hfound
    obtain ⟨r, hf⟩ := Option.ne_none_iff_exists'.1 (mt Option.map_eq_none_iff.2 hfound)
    have hk : rkey r = (tag', i) := by simpa using List.find?_some hf
    simp [hf, hits_eq_key, hk]
  · rw [if_neg hc]
    cases hf : t.find? (rkey · == (tag', i)) with
    | none => rfl
    | some r =>
      have hk : rkey r = (tag', i) := by simpa using List.find?_some hf
      simp [hits_eq_key, hk, hc]

theorem abs_delete (t : Table V) (tag : Tag) (n : Nat) :
    abs (t.filter (fun r => !hits tag (some n) r)) = Spec.set (abs t) tag n none := by
  funext tag' i
  rw [abs_eq, Spec.set, abs_eq, hits_eq_key, find?_key_filter rkey (fun k => !(k == (tag, n))) t (tag', i)]
  by_cases hc : tag' = tag ∧ i = n
  · simp [hc]
  · have : ((tag', i) == (tag, n)) = false := by simpa using fun a b => hc ⟨a, b⟩
    simp [hc, this]

theorem filter_hits_le_one (t : Table V) (h : Inv t) (tag : Tag) (n : Nat) :
    (t.filter (hits tag (some n))).length ≤ 1 := by
  induction t with
  | nil => simp
  | cons x xs ih =>
    have hnd : x.id ∉ xs.map (·.id) ∧ Inv xs := by simpa [Inv] using h
    by_cases hx : hits tag (some n) x = true
    · have hx' := (hits_iff tag n x).1 hx
      have : xs.filter (hits tag (some n)) = [] := by
        rw [List.filter_eq_nil_iff]
        intro r hr hh
        have hr' := (hits_iff tag n r).1 hh
        apply hnd.1
        rw [hx'.1, ← hr'.1]
        exact List.mem_map_of_mem hr
      simp [List.filter, hx, this]
    · have hx0 : hits tag (some n) x = false := by simpa using hx
      simp only [List.filter, hx0]
      exact ih hnd.2

theorem step_readAll (t : Table V) (tag : Option Tag) :
    step t (.readAll tag) = (t, .rows ((t.filter (sel tag)).map fun r => (r.tag, r.id, r.val))) := by
  cases tag with
  | none => rw [List.filter_eq_self.2 fun (r : Row V) _ => (rfl : sel none r = true)]; rfl
  | some tg => rfl

theorem filter_hits_eq_nil (t : Table V) (tag : Tag) (n : Nat) : t.filter (hits tag (some n)) = [] ↔ abs t tag n = none := by
  rw [abs, Option.map_eq_none_iff, List.find?_eq_none, List.filter_eq_nil_iff]

theorem filter_hits_length (t : Table V) (h : Inv t) (tag : Tag) (n : Nat) :
    (t.filter (hits tag (some n))).length = if abs t tag n = none then 0 else 1 := by
  have hle := filter_hits_le_one t h tag n
  by_cases hn : abs t tag n = none
  · rw [if_pos hn, (filter_hits_eq_nil t tag n).2 hn]; rfl
  · rw [if_neg hn]
    have := List.length_pos_iff.2 (mt (filter_hits_eq_nil t tag n).1 hn)
    omega

theorem mem_rows (t : Table V) (h : Inv t) (p : Row V → Bool) (tg : Tag) (n : Nat) (v : V) :
    (tg, n, v) ∈ (t.filter p).map (fun r => (r.tag, r.id, r.val)) ↔ abs t tg n = some v ∧ p ⟨n, tg, v⟩ = true := by
  rw [abs_eq_some_iff t h]
  simp only [List.mem_map, List.mem_filter, Prod.mk.injEq]
  constructor
  · rintro ⟨⟨_, _, _⟩, hr, rfl, rfl, rfl⟩; exact hr
  · intro hr; exact ⟨_, hr, rfl, rfl, rfl⟩

theorem step_update_missing (t : Table V) (tag : Tag) (n : Nat) (v : V) (hm : abs t tag n = none) :
    step t (.update tag v (some n)) = (t, .valueError) := by
  simp [step, (filter_hits_eq_nil t tag n).2 hm]

theorem step_update_fst (t : Table V) (tag : Tag) (n : Nat) (v : V) (hf : abs t tag n ≠ none) :
    (step t (.update tag v (some n))).1 = t.map (fun r => if hits tag (some n) r then { r with val := v } else r) := by
  simp [step, mt (filter_hits_eq_nil t tag n).1 hf]

theorem step_update_found (t : Table V) (h : Inv t) (tag : Tag) (n : Nat) (v : V) (hf : abs t tag n ≠ none) :
    step t (.update tag v (some n)) = (t.map (fun r => if hits tag (some n) r then { r with val := v } else r), .count 1) := by
  simp [step, filter_hits_length t h tag n, hf]

/-- one step refines the reference map: every operation returns what the map returns and moves `abs` as the map moves -/
theorem step_refines [DecidableEq V] (t : Table V) (h : Inv t) (op : Op V) :
    Spec.stepOk (abs t) op (step t op).2 (abs (step t op).1) := by
  cases op with
  | create tag v =>
    exact ⟨maxId t + 1, rfl, abs_fresh t, abs_create t tag v⟩
  | update tag v eid =>
    cases eid with
    | none => simp [Spec.stepOk, step, hits_none_eq]
    | some n =>
      by_cases hn : abs t tag n = none
      · rw [step_update_missing t tag n v hn]
        exact Or.inl ⟨hn, rfl, rfl⟩
      · rw [step_update_found t h tag n v hn]
        exact Or.inr ⟨hn, rfl, abs_update t tag n v hn⟩
  | delete tag eid =>
    cases eid with
    | none => simp [Spec.stepOk, step, hits_none_eq, List.filter_eq_self.2]
    | some n => exact ⟨rfl, abs_delete t tag n⟩
  | read tag eid =>
    cases eid with
    | none => simp [Spec.stepOk, step, hits_none_eq]
    | some n => exact ⟨rfl, rfl⟩
  | readAll o =>
    have hm := fun tg n v => mem_rows t h (sel o) tg n v
    rw [step_readAll]
    cases o with
    | none => exact ⟨rfl, _, rfl, fun tg n v => (hm tg n v).trans (and_iff_left rfl)⟩
    | some tag => exact ⟨rfl, _, rfl, fun tg n v => (hm tg n v).trans (by rw [sel, beq_iff_eq, and_comm])⟩
  | reopen => exact ⟨rfl, rfl⟩

/-- a step writes at most one cell of the map, under the operation's own tag, and only `delete` empties a cell -/
theorem step_abs [DecidableEq V] (t : Table V) (h : Inv t) (op : Op V) :
    abs (step t op).1 = abs t ∨ ∃ tg n v, abs (step t op).1 = Spec.set (abs t) tg n v ∧
      (v = none → ∃ e, op = .delete tg e) ∧
      match op with
      | .create tg' _ | .update tg' _ _ | .delete tg' _ => tg' = tg
      | _ => False := by
  have hs := step_refines t h op
  cases op with
  | create tg v =>
    obtain ⟨k, _, _, he⟩ := hs
    exact .inr ⟨tg, k, some v, he, nofun, rfl⟩
  | update tg v eid =>
    cases eid with
    | none => exact .inl hs.2
    | some k =>
      rcases hs with ⟨_, _, he⟩ | ⟨_, _, he⟩
      · exact .inl he
      · exact .inr ⟨tg, k, some v, he, nofun, rfl⟩
  | delete tg eid =>
    cases eid with
    | none => exact .inl hs.2
    | some k => exact .inr ⟨tg, k, none, hs.2, fun _ => ⟨_, rfl⟩, rfl⟩
  | read tg eid => exact .inl rfl
  | readAll o => cases o <;> exact .inl rfl
  | reopen => exact .inl rfl

theorem run_induct {P : Table V → Prop} (ops : List (Op V)) (hstep : ∀ t, ∀ op ∈ ops, P t → P (step t op).1)
    (t : Table V) (h : P t) : P (run t ops).1 := by
  induction ops generalizing t with
  | nil => exact h
  | cons op ops ih =>
    exact ih (fun t o ho => hstep t o (List.mem_cons_of_mem _ ho)) _ (hstep t op List.mem_cons_self h)

theorem run_append (t : Table V) (a b : List (Op V)) : (run t (a ++ b)).1 = (run (run t a).1 b).1 := by
  induction a generalizing t with
  | nil => rfl
  | cons op a ih => simp only [List.cons_append, run]; exact ih _

theorem maxId_append_single (t : Table V) (r : Row V) : maxId (t ++ [r]) = max (maxId t) r.id := by
  induction t with
  | nil => simp [maxId]
  | cons x xs ih => rw [List.cons_append, maxId, ih, maxId, Nat.max_assoc]

end Sqlite
end CS.Storage
