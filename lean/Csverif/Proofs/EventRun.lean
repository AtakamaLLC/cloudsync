import Csverif.Proofs.Event
/-
Whole do() calls of the EventManager model: what an undisturbed do() has done when it returns, and the memory a new engine
starts with when its constructor already validates the root (`validatesAtStart`, `start_mem`).
-/
namespace CS.Event

theorem finish_step (n : Nat) (s : St) (hni : s.pcIdle = false) (h : measure s ≤ n) :
    ∃ k, finish n s = finish k (apply s .step) ∧ measure (apply s .step) ≤ k := by
  have := measure_step s hni
  obtain ⟨k, rfl⟩ : ∃ k, n = k + 1 := ⟨n - 1, by omega⟩
  exact ⟨k, finish_succ k s hni, by omega⟩

/-- the do() is past `_do_first_init` and nobody asked it to stop ("undisturbed"); at `.save` the event loop has drained
    the feed -/
def LateOk (s : St) (m : Mem) : Prop :=
  m.pc.late = true ∧ m.stopping = false ∧ (m.pc = .save → s.prov.latest ≤ s.prov.cur)

theorem late_not_idle (s : St) (m : Mem) (hm : s.mem = some m) (hl : m.pc.late = true) : s.pcIdle = false := by
  simp only [St.pcIdle, hm]
  cases hpc : m.pc <;> simp_all [PC.late]

theorem late_step (s : St) (m : Mem) (hl : LateOk s m) (hu : UpInv s m) :
    ∃ m1, (stepUp s m).mem = some m1 ∧ (stepUp s m).prov.latest = s.prov.latest ∧
      (stepUp s m).ghost.base = s.ghost.base ∧
      (LateOk (stepUp s m) m1 ∨
        (m1.pc = .idle ∧ m1.queue = [] ∧ m1.stopping = false ∧ m1.firstDo = false ∧
          s.prov.latest ≤ (stepUp s m).prov.cur)) := by
  obtain ⟨hlate, hst, hsave⟩ := hl
  -- (the numbering of the statements of do() is given above `stepUp_cfg`, Proofs/Event.lean)
  fun_cases stepUp s m
  -- 8 a walk object, 9 the walk marker, 10 a queued event, 11 the end of the queue, 12 a fetch, 15 the fetched event processed:
  -- the late part goes on
  case case8 | case9 | case10 | case11 | case12 | case15 =>
    exact ⟨_, rfl, rfl, rfl, Or.inl ⟨rfl, hst, nofun⟩⟩
  -- 13, the feed is drained: on to the cursor save, with nothing left to fetch
  case case13 hge =>
    exact ⟨_, rfl, rfl, rfl, Or.inl ⟨rfl, hst, fun _ => Int.not_lt.1 hge⟩⟩
  -- 16, 17, the cursor save (written or unchanged) ends the do()
  case case16 hpc _ _ | case17 hpc _ _ =>
    exact ⟨_, rfl, rfl, rfl, Or.inr ⟨rfl, hu.u6 (by rw [hpc]; rfl), hst, hu.u3a hlate, hsave hpc⟩⟩
  -- 7, 14, the two statements taken on a stop request
  case case7 h | case14 h =>
    cases hst.symm.trans h
  -- 1-6, 18-20 stand before the late part
  all_goals
    simp [*, PC.late] at hlate

/-- an undisturbed do() that is past first-init runs to its end, drains the feed, and keeps any property
    its steps keep (`P` is instantiated with `fun _ => True` or with `WalkDone`) -/
theorem finish_late (P : St → Prop)
    (hP : ∀ s m, s.mem = some m → LateOk s m → Inv s → P s → P (stepUp s m))
    (n : Nat) (s : St) (m : Mem) (hinv : Inv s) (hm : s.mem = some m) (hl : LateOk s m) (hp : P s)
    (hμ : measure s ≤ n) :
    ∃ m', (finish n s).mem = some m' ∧ m'.pc = .idle ∧ m'.queue = [] ∧ m'.stopping = false ∧
      m'.firstDo = false ∧ (finish n s).prov.latest = s.prov.latest ∧
      s.prov.latest ≤ (finish n s).prov.cur ∧ (finish n s).ghost.base = s.ghost.base ∧
      Inv (finish n s) ∧ P (finish n s) := by
  induction n generalizing s m with
  | zero =>
    have := measure_step s (late_not_idle s m hm hl.1)
    omega
  | succ n ih =>
    have hni := late_not_idle s m hm hl.1
    have hstep := apply_step hm
    have hμ1 : measure (apply s .step) ≤ n := by have := measure_step s hni; omega
    have hinv1 := inv_apply s .step hinv
    rw [finish_succ n s hni]
    rw [hstep] at hμ1 hinv1 ⊢
    have hp1 := hP s m hm hl hinv hp
    obtain ⟨m1, hm1, hlat, hbase, hl1 | ⟨hpc1, hq1, hst1, hfd1, hle1⟩⟩ := late_step s m hl (hinv.up m hm)
    · rw [← hlat, ← hbase]
      exact ih (stepUp s m) m1 hinv1 hm1 hl1 hp1 hμ1
    · rw [finish_of_idle n _ (by simp [St.pcIdle, hm1, hpc1])]
      exact ⟨m1, hm1, hpc1, hq1, hst1, hfd1, hlat, hle1, hbase, hinv1, hp1⟩

/-- `P` is kept by every effect of the late part of an undisturbed do() (the hypothesis `hP` of `finish_late`, which spells it out) -/
def LateKeeps (P : St → Prop) : Prop := ∀ s m, s.mem = some m → LateOk s m → Inv s → P s → P (stepUp s m)

/-- an undisturbed do() has returned in `t`: its object `m'` is idle and was not told to stop, the queue is empty, the feed (which
    ended at `latest` all along) is drained, and `_do_first_init` had put the provider on `base` -/
structure Returned (t : St) (m' : Mem) (latest base : Int) : Prop where
  mem : t.mem = some m'
  idle : m'.pc = .idle
  queue : m'.queue = []
  running : m'.stopping = false
  initDone : m'.firstDo = false
  latest_eq : t.prov.latest = latest
  drained : latest ≤ t.prov.cur
  base_eq : t.ghost.base = base
  inv : Inv t

theorem Returned.pcIdle {t : St} {m' : Mem} {latest base : Int} (r : Returned t m' latest base) : t.pcIdle = true := by
  simp [St.pcIdle, r.mem, r.idle]

/-- … so every event after `base` that the feed held has been delivered, hence committed (`u4`, `g2`): at-least-once delivery -/
theorem Returned.delivered {t : St} {m' : Mem} {latest base : Int} (r : Returned t m' latest base) (i : Int)
    (hb : base < i) (hl : i ≤ latest) : Tr.ev i ∈ t.ghost.fresh ∧ i ∈ t.store.log := by
  have hmem : Tr.ev i ∈ t.ghost.fresh := by
    rcases ((r.inv.up m' r.mem).u4 r.initDone).resolve_left (fun h => nomatch r.running.symm.trans h.1) i
      (r.base_eq ▸ hb) (Int.le_trans hl r.drained) with h | h | h
    · exact h
    · simp [r.queue] at h
    · simp [r.idle] at h
  exact ⟨hmem, r.inv.g2 i hmem⟩

/-- `finish_late` with its conclusion as a `Returned` -/
theorem finish_returned {P : St → Prop} (hP : LateKeeps P) (n : Nat) (s : St) (m : Mem) (hinv : Inv s)
    (hm : s.mem = some m) (hl : LateOk s m) (hp : P s) (hμ : measure s ≤ n) :
    ∃ m', Returned (finish n s) m' s.prov.latest s.ghost.base ∧ P (finish n s) :=
  let ⟨m', a, b, c, d, e, f, g, h, i, j⟩ := finish_late P hP n s m hinv hm hl hp hμ
  ⟨m', ⟨a, b, c, d, e, f, g, h, i⟩, j⟩

/-- the new engine validates its root already in the constructor (roots given with both path and id, a
    rootless sync, or a provider whose root is already set - i.e. every restart over the same providers) -/
def validatesAtStart (s : St) : Prop := s.cfg = .both ∨ s.cfg = .noRoot ∨ s.prov.rootSet = true

theorem start_mem (s : St) (hdown : s.mem = none) (hv : validatesAtStart s) :
    ∃ m0, (apply s .start) = { s with mem := some m0, ghost := { s.ghost with fresh := [] } } ∧
      m0.validated = true ∧ m0.cursor = s.store.cursor ∧ m0.firstDo = true ∧ m0.queue = [] ∧ m0.pc = .idle ∧
      m0.stopping = false ∧
      (m0.rootOid = true → m0.needWalk = (s.store.cursor.isNone || !s.store.walked)) ∧
      (s.cfg ≠ .noRoot → m0.rootOid = true) := by
  refine ⟨validateRoot s.prov s.store (newMem s.cfg), by simp [apply, hdown], ?_⟩
  rcases hv with h | h | h
  · simp [validateRoot, newMem, h]
  · cases hr : s.prov.rootSet <;> simp [validateRoot, newMem, h, hr]
  · cases s.cfg <;> simp [validateRoot, newMem, h]

theorem callDo_validated (s : St) (m : Mem) (hm : s.mem = some m) (hval : m.validated = true)
    (hidle : m.pc = .idle) (hst : m.stopping = false) :
    apply s .callDo = { s with mem := some { m with pc := .firstInit } } := by
  simp [apply, hm, hidle, hst, validateRoot_validated _ _ m hval, hval]

/-- `doAll` on an engine whose first do() finds an acceptable integer cursor `c`: the provider is put on `c`, and when the do()
    returns every event after `c` has been delivered -/
theorem doAll_accepted (s : St) (m : Mem) (c : Int) (hinv : Inv s) (hm : s.mem = some m) (hval : m.validated = true)
    (hidle : m.pc = .idle) (hst : m.stopping = false) (hfd : m.firstDo = true) (hc : m.cursor = some (.int c))
    (hacc : s.prov.minValid ≤ c) (P : St → Prop) (hP : LateKeeps P)
    (hP0 : P { s with prov := { s.prov with cur := c },
                      mem := some { m with firstDo := false, pc := afterInit { m with firstDo := false } s.prov },
                      ghost := { s.ghost with base := c } }) :
    ∃ m', Returned (doAll s) m' s.prov.latest c ∧ P (doAll s) := by
  have hs1 := callDo_validated s m hm hval hidle hst
  have hs2 : apply (apply s .callDo) .step =
      { s with prov := { s.prov with cur := c },
               mem := some { m with firstDo := false, pc := afterInit { m with firstDo := false } s.prov },
               ghost := { s.ghost with base := c } } := by
    rw [hs1]
    simp [apply, stepUp, hfd, hc, Prov.accept?, hacc, afterInit]
  have hinv2 := inv_apply _ .step (inv_apply s .callDo hinv)
  obtain ⟨k, hk, hμ⟩ := finish_step _ (apply s .callDo) (by simp [hs1, St.pcIdle]) (Nat.le_refl _)
  rw [doAll, hk]
  rw [hs2] at hinv2 hμ ⊢
  refine finish_returned hP k _ _ hinv2 rfl ⟨?_, hst, ?_⟩ hP0 hμ <;> (simp only [afterInit]; split) <;> simp [PC.late]

/-- `doAll` on an engine that starts without a cursor: the stored walk marker is dropped (if a walk is needed), then the provider's
    position is persisted, and (with a root) the walk runs before anything else -/
theorem doAll_seed (s : St) (m : Mem) (hinv : Inv s) (hm : s.mem = some m) (hval : m.validated = true)
    (hidle : m.pc = .idle) (hst : m.stopping = false) (hfd : m.firstDo = true) (hc : m.cursor = none)
    (P : St → Prop) (hP : LateKeeps P)
    (hP0 : P { s with store := { cursor := some (.int s.prov.cur),
                                 walked := s.store.walked && !(m.needWalk && m.rootOid), log := s.store.log },
                      mem := some { m with cursor := some (.int s.prov.cur), firstDo := false,
                                           pc := afterInit { m with firstDo := false } s.prov },
                      ghost := { s.ghost with seed := s.prov.cur, walkDue := true, base := s.prov.cur } }) :
    ∃ m', Returned (doAll s) m' s.prov.latest s.prov.cur ∧ P (doAll s) := by
  have hs1 := callDo_validated s m hm hval hidle hst
  have hs2 : apply (apply s .callDo) .step =
      { s with store := { s.store with walked := s.store.walked && !(m.needWalk && m.rootOid) },
               mem := some { m with cursor := some (.int s.prov.cur), pc := .seedSave },
               ghost := { s.ghost with seed := s.prov.cur } } := by
    rw [hs1]
    simp [apply, stepUp, hfd, hc]
  have hs3 : apply (apply (apply s .callDo) .step) .step =
      { s with store := { cursor := some (.int s.prov.cur),
                          walked := s.store.walked && !(m.needWalk && m.rootOid), log := s.store.log },
               mem := some { m with cursor := some (.int s.prov.cur), firstDo := false,
                                    pc := afterInit { m with firstDo := false } s.prov },
               ghost := { s.ghost with seed := s.prov.cur, walkDue := true, base := s.prov.cur } } := by
    rw [hs2]
    simp [apply, stepUp, afterInit]
  have hinv3 := inv_apply _ .step (inv_apply _ .step (inv_apply s .callDo hinv))
  obtain ⟨k, hk, hμ⟩ := finish_step _ (apply s .callDo) (by simp [hs1, St.pcIdle]) (Nat.le_refl _)
  obtain ⟨k', hk', hμ'⟩ := finish_step k _ (by simp [hs2, St.pcIdle]) hμ
  rw [doAll, hk, hk']
  rw [hs3] at hinv3 hμ' ⊢
  refine finish_returned hP k' _ _ hinv3 rfl ⟨?_, hst, ?_⟩ hP0 hμ' <;> (simp only [afterInit]; split) <;> simp [PC.late]

/-- `doAll` on an engine whose first do() finds a cursor the provider rejects: four effects (firstInit: need_walk if no marker;
    errReset: provider reset to the newest position; errForget: stored walk marker deleted; errSave: reset cursor persisted and
    need_walk set), nothing delivered -/
theorem doAll_rejected (s : St) (m : Mem) (v : CVal) (hm : s.mem = some m) (hval : m.validated = true)
    (hidle : m.pc = .idle) (hst : m.stopping = false) (hfd : m.firstDo = true) (hc : m.cursor = some v)
    (hrej : s.prov.accept? v = none) (hne : some (CVal.int s.prov.latest) ≠ m.cursor) :
    doAll s =
      { s with prov := { s.prov with cur := s.prov.latest },
               store := { s.store with cursor := some (.int s.prov.latest), walked := s.store.walked && !m.rootOid },
               mem := some { m with cursor := some (.int s.prov.latest), needWalk := true, pc := .idle },
               ghost := { s.ghost with seed := s.prov.latest, walkDue := true } } := by
  -- five unfoldings of `finish`: one per effect, and one more at which the do() is seen idle, so that the rest of the fuel drops out
  -- (the measure at `.firstInit` is at least 8)
  have h5 : ∃ k, measure (apply s .callDo) = k + 5 := by
    refine ⟨measure (apply s .callDo) - 5, ?_⟩
    rw [callDo_validated s m hm hval hidle hst]
    simp only [measure]
    omega
  obtain ⟨k, hk⟩ := h5
  rw [doAll, hk, callDo_validated s m hm hval hidle hst]
  simp [finish, St.pcIdle, apply, stepUp, hfd, hc, hrej]
  intro h
  exact absurd (by simp [hc, h]) hne

/-- the walk's post-condition, as something every later step of the same do() keeps -/
def WalkDone (s : St) : Prop :=
  (∃ m k, s.mem = some m ∧ m.pc = .walkItem k) ∨
  (s.store.walked = true ∧ s.ghost.walkDue = false ∧ ∀ m, s.mem = some m → m.needWalk = false)

theorem walkDone_idle {s : St} {m : Mem} (h : WalkDone s) (hm : s.mem = some m) (hpc : m.pc = .idle) :
    s.store.walked = true ∧ s.ghost.walkDue = false ∧ ∀ m, s.mem = some m → m.needWalk = false :=
  h.resolve_left fun ⟨_, _, hm', hk⟩ => by cases hm.symm.trans hm'; cases hpc.symm.trans hk

theorem walkDone_step : LateKeeps WalkDone := by
  intro s m hm hl _ hp
  obtain ⟨hlate, hst, _⟩ := hl
  -- outside the walk loop the walk's post-condition holds already, and only the loop's own statements write what it reads
  have hd : (∀ k, m.pc ≠ .walkItem k) → s.store.walked = true ∧ s.ghost.walkDue = false ∧ m.needWalk = false :=
    fun hk => hp.elim (fun ⟨_, k, hm0, hpc0⟩ => absurd (by cases hm.symm.trans hm0; exact hpc0) (hk k))
      fun ⟨a, b, c⟩ => ⟨a, b, c _ hm⟩
  fun_cases stepUp s m
  -- 8, the walk loop offers one more object
  case case8 k _ _ =>
    exact Or.inl ⟨_, k, rfl, rfl⟩
  -- 9, the walk marker is written
  case case9 =>
    exact Or.inr ⟨rfl, rfl, fun | _, rfl => rfl⟩
  -- 10, 11 the queue; 12, 13, 15 the event loop; 16, 17 the cursor save
  case case10 hpc _ | case11 hpc | case12 hpc _ | case13 hpc _ | case15 hpc _ _ | case16 hpc _ _ | case17 hpc _ _ =>
    obtain ⟨a, b, c⟩ := hd fun k h => nomatch hpc.symm.trans h
    exact Or.inr ⟨a, b, fun | _, rfl => c⟩
  -- 7, 14, the two statements taken on a stop request
  case case7 h | case14 h =>
    cases hst.symm.trans h
  -- 1-6, 18-20 stand before the late part
  all_goals
    simp [*, PC.late] at hlate

end CS.Event
