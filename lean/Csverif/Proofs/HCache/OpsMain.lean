import Csverif.Proofs.HCache.Ops
/- C19 helper lemmas: the public operations, each under its guard: coherence is preserved, no recursion
   budget is exhausted, and the dictionary view changes as the specification prescribes. -/
namespace CS.HCache
open CS.Path

def InsGuard (c : Cfg) (s : HC) (path : Str) (oid : Option Oid) : Prop :=
  tcomps c path ≠ [] ∧ ∀ o, oid = some o → o ≠ 0 → (s.nd 0).oid ≠ some o

def OpGuard (c : Cfg) (s : HC) : Op → Prop
  | .mkdir p o => InsGuard c s p o
  | .create p o => InsGuard c s p o
  | .delete _ _ => True
  | .rename _ new => tcomps c new ≠ []
  | .setOid p o _ => InsGuard c s p o
  | .update p _ o => InsGuard c s p o

theorem insertSafe_iff {c : Cfg} (g : CfgGood c) (s : HC) (p : Str) (oid : Option Oid) :
    insertSafe c s p oid = true ↔ InsGuard c s p oid := by
  simp only [insertSafe, pcomps_eq g, InsGuard, Bool.and_eq_true, Bool.not_eq_true', List.isEmpty_eq_false_iff]
  constructor
  · rintro ⟨h1, h2⟩
    refine ⟨h1, fun o ho h0 => ?_⟩
    subst ho
    cases o with
    | zero => exact absurd rfl h0
    | succ k => simpa using h2
  · rintro ⟨h1, h2⟩
    refine ⟨h1, ?_⟩
    cases oid with
    | none => rfl
    | some o =>
      cases o with
      | zero => rfl
      | succ k => simpa using h2 _ rfl (by simp)

/-- the executable guard the driver evaluates is the guard of the theorem -/
theorem opSafe_iff {c : Cfg} (g : CfgGood c) (s : HC) (op : Op) : opSafe c s op = true ↔ OpGuard c s op := by
  cases op with
  | mkdir p o => exact insertSafe_iff g s p o
  | create p o => exact insertSafe_iff g s p o
  | delete o p => simp [opSafe, OpGuard]
  | rename a b => simp [opSafe, OpGuard, pcomps_eq g]
  | setOid p o t => exact insertSafe_iff g s p o
  | update p t o => exact insertSafe_iff g s p o

theorem makeNode_drop {c : Cfg} (g : CfgGood c) {s : HC} (hc : Coherent c s) (otype : OType) (path : Str) (oid : Option Oid)
    (hg : InsGuard c s path oid) :
    Holds (makeNode c otype path oid >>= fun _ => pure ()) s (fun s' r => Coherent c s' ∧ r ≠ .error .fuel ∧
      (oid ≠ some 0 → r = .ok () ∧ InsertV (view s) (tcomps c path) (otype, oid) (view s'))) :=
  Holds.bind (makeNode_spec g hc otype path oid hg.1 hg.2)
    (fun _ i h => ⟨h.coh, nofun, fun _ => ⟨rfl, (h.ok i rfl).2.2.1⟩⟩)
    (fun _ e h => ⟨h.coh, fun e' => h.nofuel (by cases e'; rfl), fun ho => nomatch h.total ho⟩)

/-- `_rename`, under its guard: a missing source makes it `delete(new)`, the root is refused, any other node is moved:
    if the call completes, the node sits at the new path with its subtree, ids unchanged; it does complete when no id is
    falsy -/
theorem rename_spec {c : Cfg} (g : CfgGood c) {s : HC} (hc : Coherent c s) (old new : Str) (hg : tcomps c new ≠ []) :
    Holds (rename c old new) s (fun s' r => Coherent c s' ∧ r ≠ .error .fuel ∧
      match res s (tcomps c old) with
      | none => r = .ok () ∧ view s' = rmV (tcomps c new) (view s)
      | some n =>
        if n = 0 then s' = s ∧ r = .error .value else
          (r = .ok () → res s' (tcomps c new) = some n ∧ (∀ q, resFrom s' n q = resFrom s n q) ∧
            ∀ m, InSub s n m → (s'.nd m).oid = (s.nd m).oid) ∧
          (NoFalsyV (view s) → r = .ok () ∧ view s' = graftV (tcomps c new) (fun r => view s (tcomps c old ++ r))
            (ensureV (tcomps c new).dropLast (rmV (tcomps c new) (rmV (tcomps c old) (view s)))))) := by
  unfold rename
  refine Holds.bind_eq (by rw [getNodeM_run, getNode_path g]) (Holds.bind_eq rfl ?_)
  cases hn : res s (tcomps c old) with
  | none =>
    exact ⟨(delete_spec g s none (some new) hc).post.coh, delete_ne_fuel g hc _ _,
      delete_path_view g hc new (fun e => absurd e hg)⟩
  | some n =>
    by_cases hn0 : n = 0
    · subst hn0
      simp only [hc.root_isRoot, if_true]
      exact ⟨hc, nofun, rfl, rfl⟩
    simp only [if_neg hn0]
    obtain ⟨init, a, pp, hk, d⟩ := DelCtx.of_res g hc hn (fun e => hn0 ((hc.res_zero_iff hn).2 e))
    have hc1 := d.coherent_detach
    have hv1 : view (detachSt c s pp n a) = rmV (tcomps c old) (view s) := hk ▸ d.view_detach
    have hs2 := (delete_spec g _ none (some new) hc1).post
    obtain ⟨hok2, hv2⟩ := delete_path_view g hc1 new (fun e => absurd e hg)
    simp only [d.lnk.notRoot, Bool.false_eq_true, if_false]
    refine Holds.bind_eq (deleteNode_ctx d) (Holds.bind_ok hok2 ?_)
    generalize (delete c none (some new) (detachSt c s pp n a)).1 = s2 at hs2 hv2 ⊢
    have hsub2 : Sub c s2 n := d.sub.del hs2
    have hres2 : ∀ q, resFrom s2 n q = resFrom s n q := fun q => (d.sub.resFrom_del hs2 q).trans (d.resFrom_detach q)
    have hent2 : ∀ m, entOf s2 m = entOf s m := fun m => (hs2.entOf m).trans (d.delPost.entOf m)
    have hoid2 : ∀ m, (s2.nd m).oid = (s.nd m).oid := fun m => congrArg Prod.snd (hent2 m)
    have hnoholder : ∀ m, Reach s2 m → ∀ o, (s2.nd n).oid = some o → o ≠ 0 → (s2.nd m).oid ≠ some o := by
      intro m hm o ho h0 hmo
      have hm1 := hs2.reach hm
      rw [hoid2] at ho hmo
      cases hc.oid_unique (d.reach_detach_old hm1) ⟨_, d.hn⟩ hmo ho h0
      exact d.sub.unreach [] n rfl hm1
    have hfree := fun o => hnoholder 0 (Reach.root s2) o
    have hno0 : NoFalsyV (view s) → (s2.nd n).oid ≠ some 0 := fun hnf e =>
      hnf (tcomps c old) (s.nd n).type (by rw [view_some hn, entOf, ← hoid2, e])
    have hfuel : (tcomps c new).length ≤ insFuel (canon c.sep (tcomps c new)) := by
      have := length_lt_canon (tcomps_ok g new); simp only [insFuel]; omega
    simp only [insert, normalizePath_tcomps g]
    refine Holds.bind (insertNode_spec g _ (tcomps_ok g new) hg hfuel hs2.coh hsub2 hfree) (fun s3 u h => ?_) (fun s3 e h => ?_)
    · obtain ⟨a1, ⟨W, hev, hview⟩, _⟩ := h.ok rfl
      refine Holds.of_eq (checkFull_ok g h.coh ⟨_, a1⟩) ⟨h.coh, nofun, fun _ => ⟨a1, fun q => (h.sub q).trans (hres2 q),
        fun m ⟨q, hq⟩ => (congrArg Prod.snd (h.ent m ⟨q, (hres2 q).trans hq⟩)).trans (hoid2 m)⟩, fun hnfv => ⟨rfl, ?_⟩⟩
      -- the evictions inside `__insert_node` find nothing more to evict
      have hW : W = rmV (tcomps c new) (view s2) := by
        by_cases ht : truthy (s2.nd n).oid = true
        · obtain ⟨o, ho, h0⟩ := truthy_iff.1 ht
          refine (hev.2 o ho h0).2 (fun kx hh => ?_)
          obtain ⟨x, hx, hox⟩ := holderV_view.1 hh.of_rm
          exact hnoholder x ⟨_, hx⟩ o ho h0 hox
        · exact hev.1 (by simpa using ht)
      rw [hview, hW, hv2, rmV_idem, hv1]
      congr 1
      funext r
      have hsplit : res s (tcomps c old ++ r) = resFrom s n r := by
        unfold res at hn ⊢; rw [resFrom_append, hn]; rfl
      simp only [subview, view, hres2, hsplit]
      cases resFrom s n r with
      | none => rfl
      | some m => simp only [Option.map_some, hent2]
    · exact ⟨h.coh, h.nofuel, nofun, fun hnfv => nomatch h.total (hno0 hnfv)⟩

theorem checkFull_parentless (c : Cfg) (s : HC) (n : Nat) (hp : (s.nd n).parent = none) (hr : (s.nd n).isRoot = false) :
    checkFull c n s = (s, .ok ()) := by
  have hck : checkOk s n = true := by simp [checkOk, hp]
  have hfp : fullPath c s n = .ok none := by
    simp [fullPath, fullPathNodes, hck, hp, hr]
  simp only [checkFull, bind_run, check, hck, if_true, fullPathM_run, hfp]

theorem check_detached {c : Cfg} {s s' : HC} {kx : List Str} {x : Nat} (hc : Coherent c s)
    (hx : res s kx = some x) (hlen : s.heap.length ≤ s'.heap.length)
    (hpar : ∀ r m, res s (kx ++ r) = some m → (s'.nd m).parent = (s.nd m).parent ∨ (s'.nd m).parent = none)
    (hoid : ∀ r m, res s (kx ++ r) = some m → (s'.nd m).oid = (s.nd m).oid)
    (hxpar : (s'.nd x).parent = none)
    (hnr : ∀ r m, res s (kx ++ r) = some m → (s'.nd m).isRoot = false) :
    ∀ r n, res s (kx ++ r) = some n → fullPath c s' n = .ok none ∧ checkFull c n s' = (s', .ok ()) := by
  have hck : ∀ r n, res s (kx ++ r) = some n → checkOk s' n = true := by
    intro r n hn
    rcases hpar r n hn with a | a
    · rcases snoc_cases r with rfl | ⟨r', k, rfl⟩
      · rw [List.append_nil, hx] at hn; cases hn
        simp [checkOk, hxpar]
      · rw [← List.append_assoc] at hn
        obtain ⟨p', hp', hk, l⟩ := hc.link_snoc hn
        have hn' : res s (kx ++ (r' ++ [k])) = some n := by rw [← List.append_assoc]; exact hn
        refine (checkOk_child (a.trans l.parent) (hc.child_ne hp' hk)).2 ?_
        rw [hoid _ n hn', hoid r' p' hp']
        exact l.oid
    · simp [checkOk, a]
  -- walking up from `n`, the chain stops at the first cut parent link, at a non-root node: `full_path()` is None
  have key : ∀ r n, res s (kx ++ r) = some n → ∀ f seen, r.length < f →
      ∃ h t, fullPathNodes s' f n seen = .ok (h :: t) ∧ (s'.nd h).isRoot = false := by
    intro r
    induction r using snoc_induction with
    | hnil =>
      intro n hn f seen hf
      have hn' := hn
      rw [List.append_nil, hx] at hn'; cases hn'
      cases f with
      | zero => omega
      | succ f =>
        refine ⟨x, seen, ?_, hnr [] x hn⟩
        simp [fullPathNodes, hck [] x hn, hxpar]
    | hsnoc r' k ih =>
      intro n hn f seen hf
      have hn2 := hn
      rw [← List.append_assoc] at hn2
      obtain ⟨p', hp', _, l⟩ := hc.link_snoc hn2
      cases f with
      | zero => omega
      | succ f =>
        simp only [List.length_append, List.length_singleton] at hf
        simp only [fullPathNodes, hck _ n hn, Bool.not_true, Bool.false_eq_true, if_false]
        rcases hpar _ n hn with a | a
        · rw [a, l.parent]
          exact ih p' hp' f _ (by omega)
        · rw [a]
          exact ⟨n, seen, rfl, hnr _ n hn⟩
  intro r n hn
  have hfuel : r.length < s'.heap.length + 1 := by
    have := hc.depth_lt hn
    simp at this; omega
  obtain ⟨h, t, hl, hr⟩ := key r n hn _ [] hfuel
  have hfp : fullPath c s' n = .ok none := by simp [fullPath, hl, hr]
  refine ⟨hfp, ?_⟩
  simp only [checkFull, bind_run, check, hck r n hn, if_true, fullPathM_run, hfp]

theorem view_assign {c : Cfg} {s : HC} (hc : Coherent c s) {kn : List Str} {n : Nat} (hn : res s kn = some n) (o : Oid) :
    view (assignSt s n o) = putV kn ((s.nd n).type, some o) (view s) := by
  have hnd := nd_assign s (hc.valid ⟨_, hn⟩) o
  funext q
  simp only [view, res_assign, putV]
  by_cases hq : q = kn
  · subst hq
    rw [if_pos rfl, hn]
    simp [entOf, hnd]
  · rw [if_neg hq]
    cases hr : res s q with
    | none => rfl
    | some m =>
      have : m ≠ n := fun e => hq (hc.res_inj (e ▸ hr) hn)
      simp [entOf, hnd, this]

/-- `n` passes `_check` in each case: in place, detached with the evicted owner, or detached by the re-make -/
theorem setOidNode_spec {c : Cfg} (g : CfgGood c) {s : HC} {n : Nat} {kn : List Str} {o : Oid} (hc : Coherent c s)
    (hn : res s kn = some n) (hne : kn ≠ []) (h0 : o ≠ 0) (hroot : (s.nd 0).oid ≠ some o) :
    Holds (setOidNode c n o) s (fun s' r => r = .ok () ∧ checkFull c n s' = (s', .ok ()) ∧ Coherent c s' ∧
      SetOidV (view s) kn (s.nd n).type (s.nd n).oid o (view s')) := by
  unfold setOidNode SetOidV
  refine Holds.bind_eq rfl ?_
  by_cases hcond : (s.nd n).oid = some o
  · simp only [if_pos hcond]
    exact Holds.pure ⟨rfl, checkFull_ok g hc ⟨_, hn⟩, hc, rfl⟩
  simp only [if_neg hcond]
  refine Holds.bind_eq (by rw [fullPathM_run, hc.fullPath g hn]) ?_
  have hs1 := delete_spec g s (some o) none hc
  obtain ⟨hok1, hv1a, hv1b⟩ := delete_oid_view g hc h0 hroot
  have hgone := delete_oid_gone g hc h0 hroot
  -- when the node is no longer in place, it went away with the evicted owner, an ancestor
  have hB : res (delete c (some o) none s).1 kn ≠ some n → ∃ x kx, res s kx = some x ∧ kx <+: kn ∧ x ≠ 0 ∧
      ((delete c (some o) none s).1.nd x).parent = none ∧ ∀ q, kx <+: q → res (delete c (some o) none s).1 q = none := by
    intro hnot
    obtain ⟨r, hr, hrx⟩ := hc.getNode_oid o none
    cases r with
    | none => exact absurd (by rw [hs1.miss (fun y hy => by rw [hr] at hy; cases hy)]; exact hn) hnot
    | some x =>
      obtain ⟨⟨kx, hkx⟩, hox, _⟩ := (hrx x).1 rfl
      have hx0 : x ≠ 0 := fun e => hroot (e ▸ hox)
      obtain ⟨a2, a3⟩ := hs1.gone hr hkx hx0
      exact ⟨x, kx, hkx, Classical.byContradiction (fun hp => hnot (by rw [hs1.out hr hkx kn hp]; exact hn)), hx0, a3, a2⟩
  refine Holds.bind_ok hok1 (Holds.bind_eq rfl ?_)
  generalize (delete c (some o) none s).1 = s1 at hs1 hv1a hv1b hgone hB ⊢
  have dp := hs1.post
  have hk := hc.ksOk hn
  have hroot1 : (s1.nd 0).oid ≠ some o := by rw [(dp.fields 0).2.1]; exact hroot
  have hty : (s1.nd n).type = (s.nd n).type := (dp.fields n).1
  have hoidn : (s1.nd n).oid = (s.nd n).oid := (dp.fields n).2.1
  have hsome_iff : (view s1 kn).isSome = true ↔ res s1 kn = some n := by
    constructor
    · intro h
      cases hx : res s1 kn with
      | none => rw [view_none hx] at h; cases h
      | some m => rw [← hn, dp.res_some hx]
    · intro h; rw [view_some h]; rfl
  have hnroot : ∀ q m, q ≠ [] → res s q = some m → (s1.nd m).isRoot = false := fun q m hq hm => by
    obtain ⟨_, _, _, _, d⟩ := DelCtx.of_res g hc hm hq
    rw [(dp.fields m).2.2.2]; exact d.lnk.notRoot
  -- `_check` of nodes that went away with the evicted owner, in s1 or any later state that left them alone
  have hdet : ∀ t', (∀ m, m < s1.heap.length → ¬ Reach s1 m → t'.nd m = s1.nd m) → s1.heap.length ≤ t'.heap.length →
      res s1 kn ≠ some n → fullPath c t' n = .ok none ∧ checkFull c n t' = (t', .ok ()) := by
    intro t' hframe hlen hnot
    obtain ⟨x, kx, hkx, ⟨r', hr'⟩, hx0, hxp, hgone'⟩ := hB hnot
    have hunr : ∀ rr m, res s (kx ++ rr) = some m → t'.nd m = s1.nd m := by
      intro rr m hm
      refine hframe m (by rw [dp.len]; exact hc.valid ⟨_, hm⟩) (fun ⟨q, hq⟩ => ?_)
      cases hc.res_inj (dp.res_some hq) hm
      rw [hgone' _ (List.prefix_append _ _)] at hq
      cases hq
    have hkne : ∀ rr, kx ++ rr ≠ [] := fun rr e =>
      hx0 ((hc.res_zero_iff hkx).2 (List.append_eq_nil_iff.1 e).1)
    exact check_detached hc hkx (by rw [← dp.len]; exact hlen)
      (fun rr m hm => by rw [hunr rr m hm]; exact dp.parents m)
      (fun rr m hm => by rw [hunr rr m hm]; exact (dp.fields m).2.1)
      (by rw [hunr [] x (by simpa using hkx)]; exact hxp)
      (fun rr m hm => by rw [hunr rr m hm]; exact hnroot _ m (hkne rr) hm)
      r' n (by rw [hr']; exact hn)
  have hmake : Holds (makeNode c (s1.nd n).type (canon c.sep kn) (some o) >>= fun _ => pure ()) s1 (fun s' r =>
      r = .ok () ∧ checkFull c n s' = (s', .ok ()) ∧ Coherent c s' ∧
        InsertV (view s1) kn ((s.nd n).type, some o) (view s')) := by
    have hm := makeNode_spec g dp.coh (s1.nd n).type (canon c.sep kn) (some o)
      (by rw [tcomps_canon g hk]; exact hne) (fun o' ho' _ => by cases ho'; exact hroot1)
    rw [tcomps_canon g hk] at hm
    refine Holds.bind hm (fun t i h => Holds.pure ⟨rfl, ?_, h.coh, hty ▸ (h.ok i rfl).2.2.1⟩)
      (fun t e h => nomatch h.total (fun e' => h0 (Option.some.inj e')))
    by_cases hA : res s1 kn = some n
    · obtain ⟨b1, b2⟩ := (h.ok i rfl).2.2.2 n hA
      exact checkFull_parentless c t n b1 (by rw [b2]; exact hnroot kn n hne hn)
    · exact (hdet t (fun m hm hr => h.frameX.nd m hm hr (Nat.not_le_of_lt hm)) h.frameX.len hA).2
  cases ho : (s1.nd n).oid with
  | none =>
    have hon : (s.nd n).oid = none := by rw [← hoidn]; exact ho
    by_cases hA : res s1 kn = some n
    · refine Holds.bind_eq (t := s1) (a := true) (by simp [bind_run, dp.coh.fullPath g hA]) ?_
      have hcA := dp.coh.assignOid ⟨kn, hA⟩ ho h0 hgone
      simp only [if_true]
      refine Holds.bind_eq (t := s1) (a := ()) (by simp [check, dp.coh.checkOk ⟨_, hA⟩]) (Holds.bind_eq rfl (Holds.of_eq rfl
        ⟨rfl, checkFull_ok g hcA ⟨kn, by rw [res_assign]; exact hA⟩, hcA, view s1, hv1a,
          fun hno => by rw [hv1b hno], ?_⟩))
      rw [if_pos ⟨hon, hsome_iff.2 hA⟩]
      exact (view_assign dp.coh hA o).trans (by rw [hty])
    · refine Holds.bind_eq (t := s1) (a := false) (by simp [bind_run, (hdet s1 (fun _ _ _ => rfl) (Nat.le_refl _) hA).1]) ?_
      simp only [Bool.false_eq_true, if_false]
      exact hmake.mono (fun _ _ ⟨a, b, c', hv⟩ => ⟨a, b, c', view s1, hv1a, fun hno => by rw [hv1b hno],
        by rw [if_neg (fun h => hA (hsome_iff.1 h.2))]; exact hv⟩)
  | some o1 =>
    refine Holds.bind_eq (a := false) rfl ?_
    simp only [Bool.false_eq_true, if_false]
    exact hmake.mono (fun _ _ ⟨a, b, c', hv⟩ => ⟨a, b, c', view s1, hv1a, fun hno => by rw [hv1b hno],
      by rw [if_neg (fun h => by cases ho.symm.trans (hoidn.trans h.1))]; exact hv⟩)

theorem setOid_spec {c : Cfg} (g : CfgGood c) {s : HC} (hc : Coherent c s) (p : Str) (oid : Option Oid) (t : OType)
    (hg : InsGuard c s p oid) :
    Holds (setOid c p oid t) s (fun s' r => Coherent c s' ∧ r ≠ .error .fuel ∧
      if (!truthy oid || p.isEmpty) = true then s' = s ∧ r = .error .assertion else
        r = .ok () ∧ ∀ o, oid = some o →
          match view s (tcomps c p) with
          | some (t0, i0) => SetOidV (view s) (tcomps c p) t0 i0 o (view s')
          | none => InsertV (view s) (tcomps c p) (t, some o) (view s')) := by
  unfold setOid
  by_cases hcond : (!truthy oid || p.isEmpty) = true
  · simp only [if_pos hcond]
    exact ⟨hc, nofun, rfl, rfl⟩
  simp only [if_neg hcond]
  have hto : truthy oid = true := by
    cases h : truthy oid with
    | true => rfl
    | false => exact absurd (by simp [h]) hcond
  obtain ⟨o, rfl, h0⟩ := truthy_iff.1 hto
  refine Holds.bind_eq (by rw [getNodeM_run, getNode_path g]) ?_
  cases hr : res s (tcomps c p) with
  | some n =>
    simp only [view_some hr, entOf]
    exact (setOidNode_spec g hc hr hg.1 h0 (hg.2 o rfl h0)).mono (fun _ _ ⟨a, _, c', v⟩ =>
      ⟨c', a ▸ nofun, a, fun o' ho' => by cases ho'; exact v⟩)
  | none =>
    simp only [view_none hr]
    exact (makeNode_drop g hc t p (some o) hg).mono (fun _ _ ⟨a, b, h⟩ =>
      ⟨a, b, (h (fun e => h0 (Option.some.inj e))).1, fun o' ho' => by cases ho'; exact (h (fun e => h0 (Option.some.inj e))).2⟩)

theorem update_spec {c : Cfg} (g : CfgGood c) {s : HC} (hc : Coherent c s) (p : Str) (t : OType) (oid : Option Oid)
    (hg : InsGuard c s p oid) :
    Holds (update c p t oid) s (fun s' r => Coherent c s' ∧ r ≠ .error .fuel ∧
      (oid ≠ some 0 → r = .ok () ∧
        match view s (tcomps c p) with
        | none => InsertV (view s) (tcomps c p) (t, oid) (view s')
        | some (t0, i0) =>
          if t0 ≠ t then InsertV (rmV (tcomps c p) (view s)) (tcomps c p) (t, oid) (view s')
          else if truthy oid then ∀ o, oid = some o → SetOidV (view s) (tcomps c p) t0 i0 o (view s') else s' = s)) := by
  unfold update
  refine Holds.bind_eq (by rw [getNodeM_run, getNode_path g]) (Holds.bind_eq rfl ?_)
  have hmake : ∀ s1, Coherent c s1 → (∀ o', oid = some o' → o' ≠ 0 → (s1.nd 0).oid ≠ some o') →
      Holds (makeNode c t p oid >>= fun i => checkFull c i) s1 (fun s' r => Coherent c s' ∧ r ≠ .error .fuel ∧
        (oid ≠ some 0 → r = .ok () ∧ InsertV (view s1) (tcomps c p) (t, oid) (view s'))) := fun s1 hc1 hr1 =>
    Holds.bind (makeNode_spec g hc1 t p oid hg.1 hr1)
      (fun t' i h => Holds.of_eq (checkFull_ok g h.coh ⟨_, (h.ok i rfl).2.1⟩) ⟨h.coh, nofun, fun _ => ⟨rfl, (h.ok i rfl).2.2.1⟩⟩)
      (fun t' e h => ⟨h.coh, fun e' => h.nofuel (by cases e'; rfl), fun ho => nomatch h.total ho⟩)
  cases hr : res s (tcomps c p) with
  | none =>
    simp only [view_none hr]
    exact Holds.bind_eq rfl (hmake s hc hg.2)
  | some n =>
    simp only [view_some hr, entOf]
    by_cases ht : (s.nd n).type ≠ t
    · simp only [if_pos ht]
      obtain ⟨init, a, pp, hk, d⟩ := DelCtx.of_res g hc hr hg.1
      refine Holds.bind_eq (t := detachSt c s pp n a) (a := none) (by rw [bind_ok (deleteNode_ctx d)]; rfl) ?_
      have := hmake _ d.coherent_detach (fun o' ho' h0' => by rw [(d.delPost.fields 0).2.1]; exact hg.2 o' ho' h0')
      rw [d.view_detach, ← hk] at this
      exact this
    · simp only [if_neg ht]
      refine Holds.bind_eq rfl ?_
      by_cases hto : truthy oid = true
      · obtain ⟨o, rfl, h0⟩ := truthy_iff.1 hto
        simp only [hto, if_true]
        exact Holds.bind (setOidNode_spec g hc hr hg.1 h0 (hg.2 o rfl h0))
          (fun t' u ⟨_, hck, hct, hv⟩ => Holds.of_eq hck ⟨hct, nofun, fun _ => ⟨rfl, fun o' ho' => by cases ho'; exact hv⟩⟩)
          (fun t' e h => nomatch h.1)
      · simp only [hto, Bool.false_eq_true, if_false]
        exact Holds.bind_eq rfl (Holds.of_eq (checkFull_ok g hc ⟨_, hr⟩) ⟨hc, nofun, fun _ => ⟨rfl, rfl⟩⟩)

theorem setOid_replace {c : Cfg} (g : CfgGood c) {s : HC} (hc : Coherent c s) (p : Str) (o o1 : Oid) (t : OType) {n : Nat}
    (hn : res s (tcomps c p) = some n) (ho1 : (s.nd n).oid = some o1) (hne : o1 ≠ o) (h0 : o ≠ 0)
    (hg : InsGuard c s p (some o)) :
    Holds (setOid c p (some o) t) s (fun s' _ => Coherent c s' ∧
      view s' (tcomps c p) = some ((s.nd n).type, some o) ∧ (∀ r, r ≠ [] → view s' (tcomps c p ++ r) = none) ∧
      ∀ r m om, r ≠ [] → res s (tcomps c p ++ r) = some m → (s.nd m).oid = some om → om ≠ 0 → om ≠ o →
        dget s'.idmap om = none) := by
  have hp : p.isEmpty = false := by
    cases p with
    | nil => exact absurd (tcomps_nil c) hg.1
    | cons x xs => rfl
  refine (setOid_spec g hc p (some o) t hg).mono (fun s' r ⟨hct, _, h⟩ => ?_)
  rw [if_neg (by simp [truthy_iff.2 ⟨o, rfl, h0⟩, hp])] at h
  have hv := h.2 o rfl
  simp only [view_some hn, entOf, ho1] at hv
  unfold SetOidV at hv
  rw [if_neg (fun e => hne (Option.some.inj e))] at hv
  obtain ⟨v1, hva, hvb, hv⟩ := hv
  rw [if_neg (fun e => nomatch e.1)] at hv
  obtain ⟨W', hW, hv⟩ := hv
  refine ⟨hct, by rw [hv]; simp [graftV, leafV], fun r hr => by rw [hv]; simp [graftV, leafV, hr],
    fun r m om hr hm hom hom0 homo => ?_⟩
  cases hd : dget s'.idmap om with
  | none => rfl
  | some m' =>
    -- the holder of a forgotten id would be the new node, or an entry that was there before at another place
    obtain ⟨⟨q', hq'⟩, hmo, _⟩ := hct.dget_idmap.1 hd
    have hh : HolderV (view s') om q' := holderV_view.2 ⟨m', hq', hmo⟩
    rw [hv] at hh
    obtain ⟨t', ht'⟩ := hh
    simp only [graftV] at ht'
    split at ht'
    · simp only [leafV] at ht'
      split at ht'
      · cases ht'; exact absurd rfl homo
      · cases ht'
    · next hpre =>
      have h1 : HolderV v1 om q' := hW.of_holder (HolderV.of_ensureR _ _ ⟨t', ht'⟩)
      have h2 : HolderV (view s) om q' := by
        by_cases hex : ∃ kx, HolderV (view s) o kx
        · obtain ⟨kx, hkx⟩ := hex
          rw [hva kx hkx] at h1; exact h1.of_rm
        · rw [hvb (fun k hk => hex ⟨k, hk⟩)] at h1; exact h1
      obtain ⟨x', hx', hox'⟩ := holderV_view.1 h2
      cases hc.oid_unique ⟨_, hx'⟩ ⟨_, hm⟩ hox' hom hom0
      exact absurd (hc.res_inj hx' hm ▸ List.prefix_append _ _) hpre

theorem step_safe {c : Cfg} (g : CfgGood c) {s : HC} (hc : Coherent c s) (op : Op) (hg : OpGuard c s op) :
    Coherent c (step c s op).1 ∧ (step c s op).2 ≠ .error .fuel := by
  cases op with
  | mkdir p o =>
    show Coherent c (mkdir c p o s).1 ∧ (mkdir c p o s).2 ≠ .error .fuel
    unfold mkdir
    exact (makeNode_drop g hc .dir p o hg).imp_right And.left
  | create p o =>
    show Coherent c (create c p o s).1 ∧ (create c p o s).2 ≠ .error .fuel
    unfold create
    exact (makeNode_drop g hc .file p o hg).imp_right And.left
  | delete o p => exact ⟨(delete_spec g s o p hc).post.coh, delete_ne_fuel g hc o p⟩
  | rename a b => exact (rename_spec g hc a b hg).imp_right And.left
  | setOid p o t => exact (setOid_spec g hc p o t hg).imp_right And.left
  | update p t o => exact (update_spec g hc p t o hg).imp_right And.left

end CS.HCache
