import Csverif.Proofs.HCache.DeleteRec
/- C19 helper lemmas: the dictionary view of a cache (`path ↦ (type, id?)`) and the view-level operations the
   refinement is phrased with. -/
namespace CS.HCache
open CS.Path

abbrev Ent := OType × Option Oid

abbrev V := List Str → Option Ent

def entOf (s : HC) (n : Nat) : Ent := ((s.nd n).type, (s.nd n).oid)

/-- the abstraction function of the refinement -/
def view (s : HC) : V := fun q => (res s q).map (entOf s)

def subview (s : HC) (i : Nat) : V := fun r => (resFrom s i r).map (entOf s)

/-- invalidate the subtree at `k` (the root entry itself is never removed).  `rmV`, `putV`, `graftV`, `ensureR`, `isDirE`
    are, definition by definition, the lookup-function readings of `HDict.rmD`, `putD`, `graftD`, `ensureR`, `isDirD`
    (DictL.lean proves it) -/
def rmV (k : List Str) (v : V) : V := fun q => if k <+: q ∧ q ≠ [] then none else v q

def putV (k : List Str) (x : Ent) (v : V) : V := fun q => if q = k then some x else v q

def graftV (k : List Str) (t : V) (v : V) : V := fun q => if k <+: q then t (q.drop k.length) else v q

def isDirE : Option Ent → Bool
  | some (.dir, _) => true
  | _ => false

/-- the dictionary reading of `_mkdir(parent_path, None)`, on the reversed path: a missing or file entry is replaced
    by an id-less folder, parents first -/
def ensureR : List Str → V → V
  | [], v => v
  | b :: rinit, v =>
    if isDirE (v (b :: rinit).reverse) then v
    else putV (b :: rinit).reverse (.dir, none) (ensureR rinit (rmV (b :: rinit).reverse v))

def ensureV (ks : List Str) (v : V) : V := ensureR ks.reverse v

theorem ensureV_nil (v : V) : ensureV [] v = v := rfl

theorem ensureV_snoc (init : List Str) (b : Str) (v : V) :
    ensureV (init ++ [b]) v =
      if isDirE (v (init ++ [b])) then v else putV (init ++ [b]) (.dir, none) (ensureV init (rmV (init ++ [b]) v)) := by
  simp only [ensureV, List.reverse_append, List.reverse_cons, List.reverse_nil, List.nil_append, List.singleton_append,
    ensureR, List.reverse_reverse]

def HolderV (v : V) (o : Oid) (k : List Str) : Prop := ∃ t, v k = some (t, some o)

/-- the dictionary after the eviction of the previous owners of the path `ks` and of the id `oid`.  A relation, like
    `InsertV` and `SetOidV`: the holder of an id cannot be computed from a lookup function, and that there is at most one
    comes from `Coherent` only -/
def EvictV (v : V) (ks : List Str) (oid : Option Oid) (W : V) : Prop :=
  (truthy oid = false → W = rmV ks v) ∧
  (∀ o, oid = some o → o ≠ 0 →
    (∀ kx, HolderV (rmV ks v) o kx → W = rmV kx (rmV ks v)) ∧ ((∀ k, ¬ HolderV (rmV ks v) o k) → W = rmV ks v))

def leafV (x : Ent) : V := fun r => if r = [] then some x else none

/-- the dictionary after `__make_node` of the entry `x` at `ks` -/
def InsertV (v : V) (ks : List Str) (x : Ent) (W : V) : Prop :=
  ∃ W', EvictV v ks x.2 W' ∧ W = graftV ks (leafV x) (ensureV ks.dropLast W')

/-- the dictionary after `_set_oid` of `o` on the entry `(t0, i0)` at `k`: the previous owner of `o` is evicted; if
    the entry went away with it, or has an id already, it is re-made -/
def SetOidV (v : V) (k : List Str) (t0 : OType) (i0 : Option Oid) (o : Oid) (W : V) : Prop :=
  if i0 = some o then W = v else
    ∃ v1, (∀ kx, HolderV v o kx → v1 = rmV kx v) ∧ ((∀ kx, ¬ HolderV v o kx) → v1 = v) ∧
      if i0 = none ∧ (v1 k).isSome then W = putV k (t0, some o) v1 else InsertV v1 k (t0, some o) W

theorem graft_leaf {ks : List Str} (hne : ks ≠ []) (x : Ent) (w : V) : graftV ks (leafV x) w = putV ks x (rmV ks w) := by
  funext q
  simp only [graftV, leafV, putV, rmV]
  by_cases hp : ks <+: q
  · rw [if_pos hp]
    have hq : q ≠ [] := fun e => by rw [e] at hp; exact hne (List.prefix_nil.1 hp)
    by_cases he : q = ks
    · subst he; simp
    · rw [if_neg he, if_pos (show ks <+: q ∧ q ≠ [] from ⟨hp, hq⟩)]
      obtain ⟨r, rfl⟩ := hp
      have : r ≠ [] := fun e => he (by rw [e]; simp)
      rw [List.drop_left, if_neg this]
  · rw [if_neg hp]
    have he : q ≠ ks := fun e => hp (e ▸ List.prefix_refl _)
    rw [if_neg he, if_neg (fun h => hp h.1)]

theorem rmV_idem (k : List Str) (v : V) : rmV k (rmV k v) = rmV k v := by
  funext q; simp only [rmV]; split <;> simp_all

theorem HolderV.of_rm {v : V} {k q : List Str} {o : Oid} (h : HolderV (rmV k v) o q) : HolderV v o q := by
  obtain ⟨t, ht⟩ := h
  simp only [rmV] at ht
  split at ht
  · cases ht
  · exact ⟨t, ht⟩

theorem view_some {s : HC} {q : List Str} {n : Nat} (h : res s q = some n) : view s q = some (entOf s n) := by
  simp [view, h]

theorem view_eq_some {s : HC} {q : List Str} {x : Ent} (h : view s q = some x) : ∃ n, res s q = some n ∧ entOf s n = x := by
  simp only [view] at h
  cases hr : res s q with
  | none => rw [hr] at h; simp at h
  | some n => rw [hr] at h; exact ⟨n, rfl, by simpa using h⟩

theorem view_eq_none {s : HC} {q : List Str} : view s q = none ↔ res s q = none := by
  cases h : res s q with
  | none => simp [view, h]
  | some n => simp [view, h]

theorem view_none {s : HC} {q : List Str} (h : res s q = none) : view s q = none := view_eq_none.2 h

theorem view_congr {s s' : HC} {q : List Str} (hres : res s' q = res s q) (hent : ∀ n, entOf s' n = entOf s n) :
    view s' q = view s q := by
  simp only [view, hres]
  cases res s q with
  | none => rfl
  | some n => simp only [Option.map_some, hent]

theorem DelPost.entOf {c : Cfg} {s s' : HC} (h : DelPost c s s') (n : Nat) : entOf s' n = entOf s n := by
  simp only [CS.HCache.entOf, (h.fields n).1, (h.fields n).2.1]

theorem holderV_view {s : HC} {o : Oid} {k : List Str} :
    HolderV (view s) o k ↔ ∃ x, res s k = some x ∧ (s.nd x).oid = some o := by
  constructor
  · rintro ⟨t, ht⟩
    obtain ⟨x, hx, he⟩ := view_eq_some ht
    exact ⟨x, hx, congrArg Prod.snd he⟩
  · rintro ⟨x, hx, ho⟩
    exact ⟨(s.nd x).type, by rw [view_some hx, entOf, ho]⟩

theorem rmV_of_none {s : HC} {ks : List Str} (h : res s ks = none) (q : List Str) : rmV ks (view s) q = view s q := by
  simp only [rmV]
  split
  · next hp =>
    obtain ⟨r, rfl⟩ := hp.1
    symm; apply view_none
    cases hr : res s (ks ++ r) with
    | none => rfl
    | some m => obtain ⟨y, hy, _⟩ := res_prefix hr; rw [h] at hy; simp at hy
  · rfl

theorem DelCtx.view_detach {c : Cfg} {s : HC} {init : List Str} {a : Str} {p n : Nat} (d : DelCtx c s init a p n) :
    view (detachSt c s p n a) = rmV (init ++ [a]) (view s) := by
  funext q
  simp only [rmV]
  by_cases hp : (init ++ [a]) <+: q
  · have hq : q ≠ [] := fun e => by rw [e] at hp; have := hp.length_le; simp at this
    rw [if_pos ⟨hp, hq⟩]
    exact view_none (d.res_detach_in q hp)
  · rw [if_neg (fun h => hp h.1)]
    exact view_congr (d.res_detach_out q hp) d.delPost.entOf

/-- no entry carries the falsy-but-not-None id (the empty string) -/
def NoFalsyV (v : V) : Prop := ∀ q t, v q ≠ some (t, some 0)

/-- `hnf`: the root itself is left in place by `_delete`; its children go with the children loop, which has to find
    each of them again: no falsy ids -/
theorem delete_view {c : Cfg} (g : CfgGood c) {s : HC} (hc : Coherent c s) {oid : Option Oid} {path : Option Str}
    {x : Nat} {kx : List Str} (hx : getNode c s oid path = .ok (some x)) (hkx : res s kx = some x)
    (hnf : x = 0 → NoFalsyV (view s)) :
    (delete c oid path s).2 = .ok () ∧ view (delete c oid path s).1 = rmV kx (view s) := by
  have hs := delete_spec g s oid path hc
  have hok := delete_total g hc oid path (getNode_args hx)
  refine ⟨hok, funext fun q => ?_⟩
  simp only [rmV]
  by_cases hp : kx <+: q ∧ q ≠ []
  · rw [if_pos hp]
    apply view_none
    by_cases hx0 : x = 0
    · subst hx0
      cases hc.res_root hkx
      cases q with
      | nil => exact absurd rfl hp.2
      | cons k r =>
        cases hk : dget (s.nd 0).children k with
        | none =>
          rcases hs.post.shrink (k :: r) with a | a
          · exact a
          · rw [a]; simp [res, resFrom, hk]
        | some ch =>
          refine hs.kids hx hkx (k, ch) (dget_mem hk) (fun ho => ?_) (k :: r) (by simp)
          exact hnf rfl [k] (s.nd ch).type (by rw [view_some (n := ch) (by simp [res, resFrom, hk]), entOf, ho])
    · exact (hs.gone hx hkx hx0).1 q hp.1
  · rw [if_neg hp]
    refine view_congr ?_ hs.post.entOf
    by_cases hq : q = []
    · subst hq; rfl
    · exact hs.out hx hkx q (fun h => hp ⟨h, hq⟩)

theorem delete_path_view {c : Cfg} (g : CfgGood c) {s : HC} (hc : Coherent c s) (p : Str)
    (hnf : tcomps c p = [] → NoFalsyV (view s)) :
    (delete c none (some p) s).2 = .ok () ∧ view (delete c none (some p) s).1 = rmV (tcomps c p) (view s) := by
  have hlk := getNode_path g s p
  cases hx : res s (tcomps c p) with
  | some x => exact delete_view g hc (by rw [hlk, hx]) hx (fun e => hnf (hc.res_root (e ▸ hx)))
  | none =>
    refine ⟨delete_total g hc none (some p) (Or.inr rfl), ?_⟩
    rw [(delete_spec g s none (some p) hc).miss (fun x hx' => by rw [hlk, hx] at hx'; cases hx')]
    exact (funext (rmV_of_none hx)).symm

theorem delete_oid_view {c : Cfg} (g : CfgGood c) {s : HC} (hc : Coherent c s) {o : Oid} (h0 : o ≠ 0)
    (hroot : (s.nd 0).oid ≠ some o) :
    (delete c (some o) none s).2 = .ok () ∧
    (∀ kx, HolderV (view s) o kx → view (delete c (some o) none s).1 = rmV kx (view s)) ∧
    ((∀ k, ¬ HolderV (view s) o k) → (delete c (some o) none s).1 = s) := by
  obtain ⟨r, hr, hrx⟩ := hc.getNode_oid o none
  refine ⟨delete_total g hc _ _ (Or.inl rfl), fun kx hh => ?_, fun hno => ?_⟩
  · obtain ⟨x, hx, hox⟩ := holderV_view.1 hh
    exact (delete_view g hc (by rw [hr, (hrx x).2 ⟨⟨_, hx⟩, hox, h0⟩]) hx (fun e => absurd (e ▸ hox) hroot)).2
  · refine (delete_spec g s (some o) none hc).miss (fun x hx => ?_)
    obtain ⟨⟨kx, hkx⟩, hox, _⟩ := (hrx x).1 (Except.ok.inj (hr.symm.trans hx))
    exact hno kx (holderV_view.2 ⟨x, hkx, hox⟩)

theorem delete_oid_gone {c : Cfg} (g : CfgGood c) {s : HC} (hc : Coherent c s) {o : Oid} (h0 : o ≠ 0)
    (hroot : (s.nd 0).oid ≠ some o) : dget (delete c (some o) none s).1.idmap o = none := by
  have hd := delete_spec g s (some o) none hc
  obtain ⟨x, hx, hxx⟩ := hc.getNode_oid o none
  cases x with
  | none =>
    rw [hd.miss (fun y hy => by rw [hx] at hy; cases hy)]
    cases hg : dget s.idmap o with
    | none => rfl
    | some m => exact absurd ((hxx m).2 (hc.dget_idmap.1 hg)) nofun
  | some m =>
    obtain ⟨⟨q, hq⟩, ho, _⟩ := (hxx m).1 rfl
    exact hd.post.forgets hc hq ho h0
      ((hd.gone hx hq (fun e => hroot (e ▸ ho))).1 q (List.prefix_refl _))

theorem ensureR_none : ∀ (rks : List Str) (v : V) (q : List Str), v q = none → ¬ q <+: rks.reverse → ensureR rks v q = none := by
  intro rks
  induction rks with
  | nil => intro v q h _; exact h
  | cons b rinit ih =>
    intro v q h hq
    simp only [ensureR]
    split
    · exact h
    · simp only [putV]
      have hne : q ≠ (b :: rinit).reverse := fun e => hq (e ▸ List.prefix_refl _)
      rw [if_neg hne]
      apply ih
      · simp only [rmV]; split
        · rfl
        · exact h
      · intro hp
        apply hq
        rw [List.reverse_cons]
        exact hp.trans (List.prefix_append _ _)

theorem ensureV_none (ks : List Str) (v : V) (q : List Str) (h : v q = none) (hq : ¬ q <+: ks) : ensureV ks v q = none :=
  ensureR_none ks.reverse v q h (by rw [List.reverse_reverse]; exact hq)

theorem ensureV_isDir (ks : List Str) (v : V) (hroot : isDirE (v []) = true) : isDirE (ensureV ks v ks) = true := by
  induction ks using snoc_induction generalizing v with
  | hnil => exact hroot
  | hsnoc init b ih =>
    rw [ensureV_snoc]
    split
    · next h => exact h
    · simp [putV, isDirE]

theorem HolderV.of_ensureR {o : Oid} {q : List Str} : ∀ (rks : List Str) (v : V), HolderV (ensureR rks v) o q → HolderV v o q
  | [], _, h => h
  | b :: rinit, v, h => by
    simp only [ensureR] at h
    split at h
    · exact h
    · obtain ⟨t, ht⟩ := h
      simp only [putV] at ht
      split at ht
      · cases ht
      · exact (HolderV.of_ensureR rinit _ ⟨t, ht⟩).of_rm

theorem EvictV.of_holder {v W : V} {ks : List Str} {oid : Option Oid} (hW : EvictV v ks oid W) {o : Oid} {q : List Str}
    (h : HolderV W o q) : HolderV v o q := by
  by_cases ht : truthy oid = true
  · obtain ⟨o', rfl, h0⟩ := truthy_iff.1 ht
    by_cases hex : ∃ kx, HolderV (rmV ks v) o' kx
    · obtain ⟨kx, hk⟩ := hex
      rw [(hW.2 o' rfl h0).1 kx hk] at h; exact h.of_rm.of_rm
    · rw [(hW.2 o' rfl h0).2 (fun k hk => hex ⟨k, hk⟩)] at h; exact h.of_rm
  · rw [hW.1 (by simpa using ht)] at h; exact h.of_rm

theorem isDirE_iff {x : Option Ent} : isDirE x = true ↔ ∃ o, x = some (.dir, o) := by
  cases x with
  | none => simp [isDirE]
  | some e =>
    obtain ⟨t, o⟩ := e
    cases t <;> simp [isDirE]

theorem view_root {c : Cfg} {s : HC} (hc : Coherent c s) : isDirE (view s []) = true := by
  simp [view, entOf, hc.root_type, isDirE]

theorem isDirE_view {s : HC} {q : List Str} {p : Nat} (h : res s q = some p) : isDirE (view s q) = true ↔ (s.nd p).type = .dir := by
  rw [view_some h]
  simp only [entOf]
  cases (s.nd p).type <;> simp [isDirE]

end CS.HCache
