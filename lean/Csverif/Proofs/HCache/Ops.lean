import Csverif.Proofs.HCache.Ensure
/- C19 helper lemmas: `__insert_node` and `__make_node` as a whole; writing an id in place; the subtree cut
   off by `_delete`. -/
namespace CS.HCache
open CS.Path

/-- `__insert_node` of a detached subtree at a non-root path; the node's id is not the root's -/
theorem insertNode_spec {c : Cfg} (g : CfgGood c) : ∀ (f : Nat) {s : HC} {i : Nat} {ks : List Str}, KsOk c ks → ks ≠ [] →
    ks.length ≤ f → Coherent c s → Sub c s i → (∀ o, (s.nd i).oid = some o → o ≠ 0 → (s.nd 0).oid ≠ some o) →
    Holds (insertNode c f i (canon c.sep ks)) s (InsPost c s i ks) := by
  intro f
  induction f with
  | zero =>
    intro s i ks _ hne hl
    exact absurd (List.length_eq_zero_iff.1 (Nat.le_zero.1 hl)) hne
  | succ f ih =>
    intro s i ks hk hne hl hc hsub hroot
    obtain ⟨init, a, rfl⟩ := snoc_of_ne_nil hne
    -- the suffix `2` marks the state after the evictions, `b` the state after the parent lookup
    rw [insertNode_succ, hsplit_canon_snoc g hk]
    obtain ⟨dp, hok2, hnone2, hfresh2, htgt2, hev⟩ := insertPre_spec g hk hne hc hsub hroot
    refine Holds.bind_ok hok2 ?_
    generalize (insertPre c i (canon c.sep (init ++ [a])) s).1 = s2 at dp hnone2 hfresh2 htgt2 hev ⊢
    have hsub2 : Sub c s2 i := hsub.del dp
    have hE : ∀ m, InSub s2 i m → ¬ s2.heap.length ≤ m := fun m ⟨r, hr⟩ hm =>
      Nat.lt_irrefl _ (Nat.lt_of_lt_of_le (hsub2.valid_all r m hr) hm)
    have hb : ∀ sb r, EnsPost c s2 init sb r → Sub c sb i ∧ (∀ q, resFrom sb i q = resFrom s i q) ∧
        (∀ m, InSub s i m → sb.nd m = s.nd m) ∧ FrameX s2 sb (fun m => InSub s i m ∨ s.heap.length ≤ m) :=
      fun sb r epb => ⟨hsub2.frame epb.frameX hE epb.idsub,
        fun q => (hsub2.resFrom_frame epb.frameX hE q).trans (hsub.resFrom_del dp q),
        fun m ⟨q, hq⟩ => by
          have hq2 : resFrom s2 i q = some m := (hsub.resFrom_del dp q).trans hq
          rw [epb.frameX.nd m (hsub2.valid_all q m hq2) (hsub2.unreach q m hq2) (hE m ⟨q, hq2⟩),
            dp.frame m (hsub.unreach q m hq)],
        epb.frameX.mono (fun m hm => Or.inr (dp.len ▸ hm))⟩
    refine Holds.bind (ensurePar_spec g (fun t i ks hk hne hl hct hs hr => ih hk hne hl hct hs hr) hk.left
        (by simp at hl; omega) dp.coh)
      (fun sb j epb => ?_) (fun sb e epb => epb.ok.elim (fun _ h => nomatch h.1))
    · obtain ⟨hsubb, hresb, hndb, hfb⟩ := hb sb _ epb
      obtain ⟨_, hjj, hj, hvb⟩ := epb.ok
      cases hjj
      have hjdir : (sb.nd j).type = .dir := by
        rw [← isDirE_view hj, hvb]
        exact ensureV_isDir init _ (view_root dp.coh)
      have hnoneb : res sb (init ++ [a]) = none := view_eq_none.1 (by
        rw [hvb]
        exact ensureV_none init _ _ (view_none hnone2) (not_snoc_prefix init a))
      have hfreshb : ∀ o, (sb.nd i).oid = some o → o ≠ 0 → dget sb.idmap o = none := fun o ho h0 =>
        dget_none_of_sub epb.idsub (hfresh2 o (by rw [← hndb i ⟨[], rfl⟩]; exact ho) h0)
      refine (insertTail_spec g epb.coh hsubb (hk a (by simp)) hj hjdir hnoneb hfreshb).mono (fun s' r ⟨cp, hsubres, hsucc, hnf, htot⟩ => ?_)
      have hins : ∀ m, InSub sb i m → InSub s i m := fun m ⟨q, hq⟩ => ⟨q, (hresb q).symm.trans hq⟩
      have hf2 : FrameX s2 s' (fun m => InSub s i m ∨ s.heap.length ≤ m) :=
        hfb.trans (cp.frameX.mono (fun m hm => Or.inl (hins m hm)))
      have hent : ∀ m, entOf s' m = entOf sb m := fun m => by simp only [entOf, cp.type_same, cp.oid_same]
      refine ⟨cp.coh, (dp.frameX _).trans hf2, fun e he => (cp.frameX.ids e he).imp (fun h => dp.idsub e (epb.idsub e h)) (hins e.2),
        fun q => (hsubres q).trans (hresb q), fun m hm => by rw [hent, entOf, hndb m hm, entOf], hnf,
        fun hno0 => htot ?_, fun h => ⟨(hsucc h).1, ⟨_, hev, ?_⟩, fun x hx => ?_⟩⟩
      · -- the parent does not hold the node's (truthy) id: the id was evicted, so the id map, hence no reachable node, has it
        rw [hndb i ⟨[], rfl⟩]
        cases hoi : (s.nd i).oid with
        | none => exact Or.inl rfl
        | some o =>
          have h0 : o ≠ 0 := fun e => hno0 (by rw [hoi, e])
          refine Or.inr (fun e => ?_)
          have := epb.coh.dget_idmap.2 ⟨⟨_, hj⟩, e.symm, h0⟩
          rw [hfreshb o (by rw [hndb i ⟨[], rfl⟩]; exact hoi) h0] at this
          cases this
      · -- the view: the subtree grafted at the target over the ensured parents
        rw [List.dropLast_concat, ← hvb]
        funext q
        simp only [view, (hsucc h).2 q, graftV, subview, hresb]
        by_cases hp : (init ++ [a]) <+: q
        · rw [if_pos hp, if_pos hp]
          cases hr : resFrom s i (q.drop (init ++ [a]).length) with
          | none => rfl
          | some m => simp only [Option.map_some, hent]; rw [entOf, hndb m ⟨_, hr⟩, entOf]
        · rw [if_neg hp, if_neg hp]
          cases hr : res sb q with
          | none => rfl
          | some m => simp only [Option.map_some, hent]
      · obtain ⟨a1, a2⟩ := htgt2 x hx
        rw [hf2.nd x (by rw [dp.len]; exact hc.valid ⟨_, hx⟩) a2
          (fun h => h.elim (fun ⟨r, hr⟩ => hsub.unreach r x hr ⟨_, hx⟩) (fun hl => Nat.lt_irrefl _ (Nat.lt_of_lt_of_le (hc.valid ⟨_, hx⟩) hl)))]
        exact ⟨a1, (dp.fields x).2.2.2⟩

theorem makeNode_spec {c : Cfg} (g : CfgGood c) {s : HC} (hc : Coherent c s) (otype : OType) (path : Str) (oid : Option Oid)
    (hne : tcomps c path ≠ []) (hroot : ∀ o, oid = some o → o ≠ 0 → (s.nd 0).oid ≠ some o) :
    Holds (makeNode c otype path oid) s (MkPost c s (tcomps c path) (otype, oid)) :=
  makeNodeWith_spec g hc _ otype path oid (normalizePath_tcomps g path) hroot (fun t hct hsub hr =>
    insertNode_spec g _ (tcomps_ok g path) hne (by
      have := length_lt_canon (tcomps_ok g path); simp only [insFuel]; omega) hct hsub hr)

/-- the state after the oid setter and the indexing of `_set_oid` -/
def assignSt (s : HC) (n : Nat) (o : Oid) : HC :=
  { s.setNd n { s.nd n with oid := some o } with idmap := dset s.idmap o n }

theorem nd_assign (s : HC) {n : Nat} (h : n < s.heap.length) (o : Oid) (m : Nat) :
    (assignSt s n o).nd m = if m = n then { s.nd n with oid := some o } else s.nd m :=
  nd_setNd_of_lt s h _ m

theorem res_assign (s : HC) (n : Nat) (o : Oid) (q : List Str) : res (assignSt s n o) q = res s q :=
  (AttachCtx.res_with_idmap _ _ q).trans (res_setNd_keep s n (by rfl) q)

theorem Coherent.assignOid {c : Cfg} {s : HC} {n : Nat} {o : Oid} (hc : Coherent c s) (hn : Reach s n)
    (hnone : (s.nd n).oid = none) (h0 : o ≠ 0) (hfresh : dget s.idmap o = none) : Coherent c (assignSt s n o) := by
  have hnd := nd_assign s (hc.valid hn) o
  have hres := res_assign s n o
  have hreach := reach_congr hres
  -- no reachable node holds `o`, since the id map has no entry for it: both id clauses of `link` and `map_sound` rest on this
  have hnoholder : ∀ m, Reach s m → (s.nd m).oid ≠ some o := by
    intro m hm ho
    have := hc.dget_idmap.2 ⟨hm, ho, h0⟩
    rw [hfresh] at this; simp at this
  have hn0 : n ≠ 0 := by
    intro e; subst e
    obtain ⟨r, hr, _⟩ := hc.root_oid
    rw [hr] at hnone; simp at hnone
  have hnd0 := hnd 0
  rw [if_neg (Ne.symm hn0)] at hnd0
  refine ⟨by show (s.setNd n _).heap.length > 0; simp; exact hc.root_valid, by rw [hnd0]; exact hc.root_isRoot,
    by rw [hnd0]; exact hc.root_parent, by rw [hnd0]; exact hc.root_type, by rw [hnd0]; exact hc.root_name,
    by rw [hnd0]; exact hc.root_oid, ?_, ?_, ?_, nodup_keys_dset hc.map_keys o n, ?_, ?_⟩
  · intro p k ch hp hmem
    have hp' := (hreach p).1 hp
    have hmem' : (k, ch) ∈ (s.nd p).children := by
      rw [hnd] at hmem; split at hmem
      · next e => subst e; exact hmem
      · exact hmem
    have l := hc.linked hp' hmem'
    have hch := hc.child hp' hmem'
    have hpc : p ≠ ch := by
      obtain ⟨q, hq⟩ := hp'
      exact hc.child_ne hq (dget_of_mem (hc.keys_nodup ⟨q, hq⟩) hmem')
    show ch < (s.setNd n _).heap.length ∧ _
    rw [setNd_len, hnd ch, hnd p]
    by_cases e1 : ch = n
    · subst e1
      have : p ≠ ch := hpc
      simp only [if_true, this, if_false]
      exact ⟨l.valid, l.parent, l.name, l.notRoot, l.nameOk, Or.inr (fun e => hnoholder p hp' e.symm)⟩
    · simp only [e1, if_false]
      by_cases e2 : p = n
      · subst e2
        simp only [if_true]
        refine ⟨l.valid, l.parent, l.name, l.notRoot, l.nameOk, ?_⟩
        cases hco : (s.nd ch).oid with
        | none => exact Or.inl rfl
        | some o' => exact Or.inr (fun e => hnoholder ch hch (by rw [hco, e]))
      · simp only [e2, if_false]; exact hc.link hp' hmem'
  · intro p hp
    rw [hnd]; split
    · next e => subst e; exact hc.keys_nodup ((hreach _).1 hp)
    · exact hc.keys_nodup ((hreach _).1 hp)
  · intro p hp ht
    rw [hnd] at ht ⊢; split
    · next e => subst e; simp only [if_true] at ht; exact hc.file_leaf ((hreach _).1 hp) ht
    · next e => simp only [e, if_false] at ht; exact hc.file_leaf ((hreach _).1 hp) ht
  · intro o' m hm
    show Reach _ m ∧ _
    rcases mem_dset hc.map_keys hm with e | ⟨h1, h2⟩
    · cases e
      refine ⟨(hreach _).2 hn, ?_, h0⟩
      rw [hnd]; simp
    · have hs := hc.map_sound h1
      have : m ≠ n := fun e => by rw [e, hnone] at hs; simp at hs
      refine ⟨(hreach m).2 hs.1, ?_, hs.2.2⟩
      rw [hnd]; simp only [this, if_false]; exact hs.2.1
  · intro m o' hm ho h0'
    show (o', m) ∈ dset s.idmap o n
    rw [hnd] at ho
    by_cases e : m = n
    · subst e
      simp only [if_true] at ho
      cases ho
      exact mem_dset_self _ _ _
    · simp only [e, if_false] at ho
      have hm' := (hreach m).1 hm
      exact mem_dset_of_mem hc.map_keys (hc.map_complete hm' ho h0') (fun e' => hnoholder m hm' (by rw [ho]; exact congrArg some e'))

theorem DelCtx.sub {c : Cfg} {s : HC} {init : List Str} {a : Str} {p n : Nat} (d : DelCtx c s init a p n) :
    Sub c (detachSt c s p n a) n := by
  have hc := d.hc
  have hres := d.resFrom_detach
  have hreach : ∀ q m, resFrom s n q = some m → Reach s m := fun q m h => ⟨_, res_of_resFrom d.hn h⟩
  have hndsame : ∀ q m, q ≠ [] → resFrom s n q = some m → (detachSt c s p n a).nd m = s.nd m := by
    intro q m hq hm
    rw [d.nd_detach]
    have h1 : m ≠ n := by
      intro e; subst e
      have := hc.res_inj (res_of_resFrom d.hn hm) d.hn
      simp at this; exact hq this
    have h2 : m ≠ p := fun e => d.p_not_below q (e ▸ hm)
    simp [h1, h2]
  have hoid : ∀ m, ((detachSt c s p n a).nd m).oid = (s.nd m).oid := fun m => (d.delPost.fields m).2.1
  have htype : ∀ m, ((detachSt c s p n a).nd m).type = (s.nd m).type := fun m => (d.delPost.fields m).1
  have hchild : ∀ q m, resFrom s n q = some m → ((detachSt c s p n a).nd m).children = (s.nd m).children := by
    intro q m hm
    rw [d.children_detach]
    have : m ≠ p := fun e => d.p_not_below q (e ▸ hm)
    simp [this]
  refine ⟨by rw [DelCtx.detach_len]; exact d.nlt, by rw [(d.delPost.fields n).2.2.2]; exact d.lnk.notRoot, ?_, ?_, ?_, ?_, ?_, ?_, ?_⟩
  · intro q m hm hr
    rw [hres] at hm
    exact d.not_below_of_reach hr q hm
  · intro q m k ch hm hmem
    rw [hres] at hm
    rw [hchild q m hm] at hmem
    have l := hc.link (hreach q m hm) hmem
    have hch : resFrom s n (q ++ [k]) = some ch := by
      rw [resFrom_snoc, hm]; exact dget_of_mem (hc.keys_nodup (hreach q m hm)) hmem
    rw [hndsame (q ++ [k]) ch (by simp) hch, hoid m, DelCtx.detach_len]
    exact l
  · intro q m hm
    rw [hres] at hm; rw [hchild q m hm]; exact hc.keys_nodup (hreach q m hm)
  · intro q m hm ht
    rw [hres] at hm; rw [htype] at ht; rw [hchild q m hm]; exact hc.file_leaf (hreach q m hm) ht
  · intro q1 q2 m h1 h2
    rw [hres] at h1 h2
    have := hc.res_inj (res_of_resFrom d.hn h1) (res_of_resFrom d.hn h2)
    exact List.append_cancel_left this
  · intro q1 q2 m1 m2 o h1 h2 o1 o2 h0
    rw [hres] at h1 h2; rw [hoid] at o1 o2
    exact hc.oid_unique (hreach q1 m1 h1) (hreach q2 m2 h2) o1 o2 h0
  · intro q m o _ hm ho h0
    rw [hres] at hm; rw [hoid] at ho
    exact dget_none.2 fun hk => (List.mem_map.1 hk).elim fun e he =>
      (d.mem_detach_idmap.1 he.1).2 ⟨q, m, hm, he.2 ▸ ho, he.2 ▸ h0⟩

end CS.HCache
