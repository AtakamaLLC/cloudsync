import Csverif.Proofs.HCache.PathL
/- C19 helper lemmas: the exception-and-state monad (with the rules for running a program step by step),
   `full_path`, `_walk`, id popping. -/
namespace CS.HCache
open CS.Path

theorem bind_run {α β} (m : M α) (f : α → M β) (s : HC) :
    (m >>= f) s = match m s with
      | (s', .ok a) => f a s'
      | (s', .error e) => (s', .error e) := rfl

@[simp] theorem pure_run {α} (a : α) (s : HC) : (pure a : M α) s = (s, .ok a) := rfl
@[simp] theorem getS_run (s : HC) : getS s = (s, .ok s) := rfl
@[simp] theorem modS_run (f : HC → HC) (s : HC) : modS f s = (f s, .ok ()) := rfl
@[simp] theorem raise_run {α} (e : Err) (s : HC) : (raise e : M α) s = (s, .error e) := rfl
@[simp] theorem fullPathM_run (c : Cfg) (i : Nat) (s : HC) : fullPathM c i s = (s, fullPath c s i) := rfl
@[simp] theorem getNodeM_run (c : Cfg) (o : Option Oid) (p : Option Str) (s : HC) :
    getNodeM c o p s = (s, getNode c s o p) := rfl
@[simp] theorem walkM_run (c : Cfg) (n : Nat) (s : HC) : walkM c n s = (s, walk c s n) := rfl

theorem bind_ok {α β} {m : M α} {f : α → M β} {s s' : HC} {a : α} (h : m s = (s', .ok a)) :
    (m >>= f) s = f a s' := by rw [bind_run, h]

theorem bind_err {α β} {m : M α} {f : α → M β} {s s' : HC} {e : Err} (h : m s = (s', .error e)) :
    (m >>= f) s = (s', .error e) := by rw [bind_run, h]

theorem bindM_assoc {α β γ} (m : M α) (f : α → M β) (k : β → M γ) : (m >>= f) >>= k = m >>= fun a => f a >>= k := by
  funext s
  simp only [bind_run]
  cases m s with
  | mk t r => cases r <;> rfl

abbrev Holds {α} (m : M α) (s : HC) (Q : HC → Except Err α → Prop) : Prop := Q (m s).1 (m s).2

theorem Holds.mono {α} {m : M α} {s : HC} {Q R : HC → Except Err α → Prop} (h : Holds m s Q)
    (hQR : ∀ t r, Q t r → R t r) : Holds m s R := hQR _ _ h

theorem Holds.pure {α} {a : α} {s : HC} {R : HC → Except Err α → Prop} (h : R s (.ok a)) : Holds (pure a) s R := h

theorem Holds.bind {α β} {m : M α} {f : α → M β} {s : HC} {Q : HC → Except Err α → Prop}
    {R : HC → Except Err β → Prop} (hm : Holds m s Q) (hok : ∀ t a, Q t (.ok a) → Holds (f a) t R)
    (herr : ∀ t e, Q t (.error e) → R t (.error e)) : Holds (m >>= f) s R := by
  unfold Holds at hm ⊢
  rw [bind_run]
  cases h : m s with
  | mk t r =>
    rw [h] at hm
    cases r with
    | ok a => exact hok t a hm
    | error e => exact herr t e hm

theorem Holds.bind_eq {α β} {m : M α} {f : α → M β} {s t : HC} {a : α} {R : HC → Except Err β → Prop}
    (h : m s = (t, .ok a)) (hf : Holds (f a) t R) : Holds (m >>= f) s R := by
  unfold Holds; rw [bind_ok h]; exact hf

theorem Holds.of_eq {α} {m : M α} {s t : HC} {r : Except Err α} {R : HC → Except Err α → Prop} (h : m s = (t, r))
    (hR : R t r) : Holds m s R := by
  unfold Holds; rw [h]; exact hR

theorem Holds.bind_ok {α β} {m : M α} {f : α → M β} {s : HC} {a : α} {R : HC → Except Err β → Prop}
    (h : (m s).2 = .ok a) (hf : Holds (f a) (m s).1 R) : Holds (m >>= f) s R :=
  Holds.bind_eq (Prod.ext rfl h) hf

theorem Holds.bind_err_eq {α β} {m : M α} {f : α → M β} {s t : HC} {e : Err} {R : HC → Except Err β → Prop}
    (h : m s = (t, .error e)) (hR : R t (.error e)) : Holds (m >>= f) s R := by
  unfold Holds; rw [bind_err h]; exact hR

theorem Coherent.ksOk {c : Cfg} {s : HC} (hc : Coherent c s) : ∀ {ks : List Str} {n : Nat}, res s ks = some n → KsOk c ks := by
  intro ks
  induction ks using snoc_induction with
  | hnil => intro _ _; exact ksOk_nil c
  | hsnoc init a ih =>
    intro n h
    obtain ⟨p, hp, _, l⟩ := hc.link_snoc h
    exact (ih hp).append (ksOk_single l.nameOk)

theorem Coherent.child_ne {c : Cfg} {s : HC} (hc : Coherent c s) {q : List Str} {k : Str} {p n : Nat}
    (hp : res s q = some p) (hk : dget (s.nd p).children k = some n) : p ≠ n := by
  intro e
  subst e
  have h2 : res s (q ++ [k]) = some p := by rw [res_snoc, hp]; exact hk
  have := hc.res_inj hp h2
  simpa using congrArg List.length this

/-- `Node.check` of a node with a parent (hierarchical_cache.py:53-54): the id is None or differs from the parent's, and
    the node is not its own parent -/
theorem checkOk_child {s : HC} {i j : Nat} (hp : (s.nd i).parent = some j) (hji : j ≠ i) :
    checkOk s i = true ↔ ((s.nd i).oid = none ∨ (s.nd i).oid ≠ (s.nd j).oid) := by
  simp only [checkOk, hp, Bool.and_eq_true, Bool.or_eq_true, Option.isNone_iff_eq_none, bne_iff_ne, ne_eq]
  exact ⟨fun h => h.1, fun h => ⟨h, hji⟩⟩

theorem Coherent.checkOk {c : Cfg} {s : HC} (hc : Coherent c s) {n : Nat} (h : Reach s n) : checkOk s n = true := by
  obtain ⟨q, hq⟩ := h
  rcases snoc_cases q with rfl | ⟨i, k, rfl⟩
  · simp at hq; subst hq; simp [CS.HCache.checkOk, hc.root_parent]
  · obtain ⟨p, hp, hk, l⟩ := hc.link_snoc hq
    exact (checkOk_child l.parent (hc.child_ne hp hk)).2 l.oid

theorem check_ok {s : HC} {i : Nat} (h : checkOk s i = true) : check i s = (s, .ok ()) := by
  rw [check, if_pos h]

theorem Coherent.fullPathNodes {c : Cfg} {s : HC} (hc : Coherent c s) : ∀ {ks : List Str} {n : Nat}, res s ks = some n →
    ∀ f seen, ks.length < f → ∃ t, CS.HCache.fullPathNodes s f n seen = .ok (0 :: t ++ seen) ∧
      (0 :: t).map (fun j => (s.nd j).name) = [] :: ks := by
  intro ks
  induction ks using snoc_induction with
  | hnil =>
    intro n h f seen hf
    cases h
    cases f with
    | zero => omega
    | succ f =>
      exact ⟨[], by simp [CS.HCache.fullPathNodes, hc.checkOk (Reach.root s), hc.root_parent], by simp [hc.root_name]⟩
  | hsnoc init a ih =>
    intro n h f seen hf
    obtain ⟨p, hp, _, l⟩ := hc.link_snoc h
    cases f with
    | zero => omega
    | succ f =>
      simp only [List.length_append, List.length_singleton] at hf
      obtain ⟨t, ht, hnames⟩ := ih hp f (n :: seen) (by omega)
      refine ⟨t ++ [n], ?_, ?_⟩
      · simp only [CS.HCache.fullPathNodes, hc.checkOk ⟨_, h⟩, l.parent, Bool.not_true, Bool.false_eq_true, if_false, ht]
        simp
      · rw [← List.cons_append, List.map_append, hnames]
        simp [l.name]

theorem Coherent.fullPath {c : Cfg} (g : CfgGood c) {s : HC} (hc : Coherent c s) {ks : List Str} {n : Nat}
    (h : res s ks = some n) : CS.HCache.fullPath c s n = .ok (some (canon c.sep ks)) := by
  obtain ⟨t, hn, hnames⟩ := hc.fullPathNodes h (s.heap.length + 1) [] (by have := hc.depth_lt h; omega)
  simp only [CS.HCache.fullPath, hn, List.append_nil, hc.root_isRoot, Bool.not_true, Bool.false_eq_true, if_false]
  rw [hnames, join_root_names g (hc.ksOk h)]

theorem checkFull_ok {c : Cfg} (g : CfgGood c) {s : HC} (hc : Coherent c s) {i : Nat} (hi : Reach s i) :
    checkFull c i s = (s, .ok ()) := by
  obtain ⟨q, hq⟩ := hi
  simp only [checkFull, bind_run, check, hc.checkOk ⟨q, hq⟩, if_true, fullPathM_run, hc.fullPath g hq]

theorem fullPathNodes_congr {s s' : HC}
    (h : ∀ i, (s'.nd i).parent = (s.nd i).parent ∧ (s'.nd i).oid = (s.nd i).oid) :
    ∀ f i seen, fullPathNodes s' f i seen = fullPathNodes s f i seen := by
  intro f
  induction f with
  | zero => intro i seen; rfl
  | succ f ih =>
    intro i seen
    have hck : checkOk s' i = checkOk s i := by
      simp only [checkOk, (h i).1, (h i).2]
      cases (s.nd i).parent with
      | none => rfl
      | some p => simp [(h p).2]
    simp only [fullPathNodes, hck, (h i).1, ih]

theorem fullPath_congr (c : Cfg) {s s' : HC} (hl : s'.heap.length = s.heap.length)
    (h : ∀ i, (s'.nd i).parent = (s.nd i).parent ∧ (s'.nd i).oid = (s.nd i).oid ∧
      (s'.nd i).name = (s.nd i).name ∧ (s'.nd i).isRoot = (s.nd i).isRoot) (n : Nat) :
    fullPath c s' n = fullPath c s n := by
  simp only [fullPath, hl, fullPathNodes_congr (fun i => ⟨(h i).1, (h i).2.1⟩)]
  cases fullPathNodes s (s.heap.length + 1) n [] with
  | error e => rfl
  | ok l =>
    cases l with
    | nil => rfl
    | cons r rest =>
      simp only [(h r).2.2.2]
      have : (r :: rest).map (fun j => (s'.nd j).name) = (r :: rest).map (fun j => (s.nd j).name) :=
        List.map_congr_left (fun j _ => (h j).2.2.1)
      rw [this]

/-- holds for reachable nodes of a coherent cache and for a detached subtree -/
def SubOk (s : HC) (n : Nat) : Prop :=
  ∀ q m, resFrom s n q = some m →
    (keys (s.nd m).children).Nodup ∧ ((s.nd m).type = .file → (s.nd m).children = [])

def walkNodes (c : Cfg) (s : HC) (f n : Nat) (p : Option Str) : List Nat := (walkAux c s f n p).map (·.1)

theorem walkNodes_succ (c : Cfg) (s : HC) (f n : Nat) (p : Option Str) :
    walkNodes c s (f + 1) n p = n :: (if (s.nd n).type = .file then [] else
      (s.nd n).children.flatMap (fun kc =>
        if (s.nd kc.2).type = .dir then walkNodes c s f kc.2 (some (joinOpt c p kc.1)) else [kc.2])) := by
  simp only [walkNodes, walkAux, List.map_cons]
  congr 1
  split
  · rfl
  · rw [List.map_flatMap]
    congr 1
    funext kc
    split <;> rfl

theorem mem_walkNodes {c : Cfg} {s : HC} : ∀ {f n : Nat}, SubOk s n → (∀ q m, resFrom s n q = some m → q.length < f) →
    ∀ (p : Option Str) (m : Nat), m ∈ walkNodes c s f n p ↔ InSub s n m := by
  intro f
  induction f with
  | zero => intro n _ hd; exact absurd (hd [] n rfl) (Nat.lt_irrefl 0)
  | succ f ih =>
    intro n hok hd p m
    have hch : ∀ {k ch}, dget (s.nd n).children k = some ch → ∀ m, m ∈ walkNodes c s f ch (some (joinOpt c p k)) ↔ InSub s ch m :=
      fun hk => ih (fun q x hx => hok (_ :: q) x ((resFrom_cons hk q).trans hx))
        (fun q x hx => Nat.lt_of_succ_lt_succ (hd (_ :: q) x ((resFrom_cons hk q).trans hx))) _
    rw [walkNodes_succ, List.mem_cons]
    constructor
    · rintro (rfl | hm)
      · exact ⟨[], rfl⟩
      · split at hm
        · cases hm
        · obtain ⟨kc, hkc, hm⟩ := List.mem_flatMap.1 hm
          have hk : dget (s.nd n).children kc.1 = some kc.2 := dget_of_mem (hok [] n rfl).1 hkc
          split at hm
          · obtain ⟨q, hr⟩ := (hch hk m).1 hm
            exact ⟨kc.1 :: q, (resFrom_cons hk q).trans hr⟩
          · cases List.mem_singleton.1 hm
            exact ⟨[kc.1], resFrom_cons hk []⟩
    · rintro ⟨q, hr⟩
      cases q with
      | nil => exact Or.inl (Option.some.inj hr).symm
      | cons k r =>
        refine Or.inr ?_
        cases hk : dget (s.nd n).children k with
        | none => simp [resFrom, hk] at hr
        | some ch =>
          rw [resFrom_cons hk] at hr
          have hmem := dget_mem hk
          rw [if_neg (fun e => by rw [(hok [] n rfl).2 e] at hmem; cases hmem)]
          refine List.mem_flatMap.2 ⟨(k, ch), hmem, ?_⟩
          by_cases hdir : (s.nd ch).type = .dir
          · rw [if_pos hdir]
            exact (hch hk m).2 ⟨r, hr⟩
          · -- a file child is listed without recursion (`[kc.2]`); nothing is lost by that because a file has no children
            rw [if_neg hdir, List.mem_singleton]
            cases r with
            | nil => exact (Option.some.inj hr).symm
            | cons k2 r2 => simp [resFrom, (hok [k] ch (resFrom_cons hk [])).2 (OType.eq_file hdir), dget] at hr

def oidsOf (s : HC) (l : List Nat) : List Oid :=
  l.filterMap (fun n => if truthy (s.nd n).oid then (s.nd n).oid else none)

def eraseAll (d : List (Oid × Nat)) : List Oid → List (Oid × Nat)
  | [] => d
  | o :: os => eraseAll (derase d o) os

theorem oidsOf_idmap (s : HC) (d : List (Oid × Nat)) (l : List Nat) : oidsOf { s with idmap := d } l = oidsOf s l := rfl

theorem popIds_run (l : List Nat) (s : HC) :
    popIds l s = ({ s with idmap := eraseAll s.idmap (oidsOf s l) }, .ok ()) := by
  induction l generalizing s with
  | nil => simp [popIds, oidsOf, eraseAll]
  | cons n rest ih =>
    simp only [popIds, bind_run, modS_run]
    rw [ih]
    by_cases ht : truthy (s.nd n).oid = true
    · obtain ⟨o, ho, _⟩ := truthy_iff.1 ht
      rw [ho] at ht
      have e1 : oidsOf s (n :: rest) = o :: oidsOf s rest := by
        simp [oidsOf, ho, ht]
      simp only [ho, ht, if_true, e1, eraseAll, oidsOf_idmap]
    · have e1 : oidsOf s (n :: rest) = oidsOf s rest := by
        simp [oidsOf, ht]
      simp only [ht, Bool.false_eq_true, if_false, e1]

theorem nodup_eraseAll {d : List (Oid × Nat)} (hn : (keys d).Nodup) (os : List Oid) : (keys (eraseAll d os)).Nodup := by
  induction os generalizing d with
  | nil => exact hn
  | cons o os ih => exact ih (nodup_keys_derase hn o)

theorem mem_eraseAll_iff {d : List (Oid × Nat)} (hn : (keys d).Nodup) {os : List Oid} {e : Oid × Nat} :
    e ∈ eraseAll d os ↔ e ∈ d ∧ e.1 ∉ os := by
  induction os generalizing d with
  | nil => simp [eraseAll]
  | cons o os ih => rw [eraseAll, ih (nodup_keys_derase hn o), mem_derase_iff hn, List.mem_cons, not_or, and_assoc]

theorem mem_oidsOf {s : HC} {l : List Nat} {o : Oid} : o ∈ oidsOf s l ↔ ∃ n ∈ l, (s.nd n).oid = some o ∧ o ≠ 0 := by
  simp only [oidsOf, List.mem_filterMap]
  constructor
  · rintro ⟨n, hn, h⟩
    split at h
    · next ht =>
      obtain ⟨o', ho', h0⟩ := truthy_iff.1 ht
      cases ho'.symm.trans h
      exact ⟨n, hn, h, h0⟩
    · cases h
  · rintro ⟨n, hn, h, h0⟩
    exact ⟨n, hn, by rw [if_pos (truthy_iff.2 ⟨o, h, h0⟩), h]⟩

end CS.HCache
