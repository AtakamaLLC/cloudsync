import Csverif.Proofs.HCache.Refine
/- C19 helper lemmas: one refinement step for every operation under the guard on id arguments (`OpOidOk`, and `opOidOk`
   to run), and the lookups of the cache in terms of the dictionary. -/
namespace CS.HCache
open CS.Path CS.HDict

/-- the id argument of an operation is None or truthy (never the empty string) -/
def OpOidOk : Op → Prop
  | .mkdir _ o => o ≠ some 0
  | .create _ o => o ≠ some 0
  | .update _ _ o => o ≠ some 0
  | _ => True

def opOidOk : Op → Bool
  | .mkdir _ o => decide (o ≠ some 0)
  | .create _ o => decide (o ≠ some 0)
  | .update _ _ o => decide (o ≠ some 0)
  | _ => true

theorem opOidOk_iff (op : Op) : opOidOk op = true ↔ OpOidOk op := by
  cases op <;> simp [opOidOk, OpOidOk]

theorem noFalsy_rmD {d : D} (h : NoFalsyV (dlook d)) (k : Key) : NoFalsyV (dlook (rmD k d)) := by
  rw [dlook_rmD]; exact h.rm k

theorem noFalsy_evictD {d : D} (h : NoFalsyV (dlook d)) (ks : Key) (oid : Option Oid) : NoFalsyV (dlook (evictD ks oid d)) := by
  simp only [evictD]
  cases oid with
  | none => exact noFalsy_rmD h ks
  | some o =>
    cases o with
    | zero => exact noFalsy_rmD h ks
    | succ n =>
      simp only
      cases holderD (rmD ks d) (n + 1) with
      | some kx => exact noFalsy_rmD (noFalsy_rmD h ks) kx
      | none => exact noFalsy_rmD h ks

theorem noFalsy_insertD {d : D} (h : NoFalsyV (dlook d)) (ks : Key) (x : HDict.Ent) (hx : x.2 ≠ some 0) :
    NoFalsyV (dlook (insertD ks x d)) := by
  simp only [insertD]
  rw [dlook_putD, dlook_rmD, dlook_ensureD]
  exact (((noFalsy_evictD h ks x.2).ensure _).rm ks).put ks hx

theorem noFalsy_evictOidD {d : D} (h : NoFalsyV (dlook d)) (o : Oid) : NoFalsyV (dlook (evictOidD o d)) := by
  simp only [evictOidD]
  cases holderD d o with
  | some kx => exact noFalsy_rmD h kx
  | none => exact h

theorem noFalsy_setOidD {d : D} (h : NoFalsyV (dlook d)) (k : Key) (t0 : OType) (i0 : Option Oid) {o : Oid} (h0 : o ≠ 0) :
    NoFalsyV (dlook (setOidD k t0 i0 o d)) := by
  have hx : ((t0, some o) : HDict.Ent).2 ≠ some 0 := by intro e; exact h0 (by cases e; rfl)
  simp only [setOidD]
  split
  · exact h
  · split
    · rw [dlook_putD]; exact (noFalsy_evictOidD h o).put k hx
    · exact noFalsy_insertD (noFalsy_evictOidD h o) k _ hx

theorem specStep_noFalsy {c : Cfg} (g : CfgGood c) {d : D} (h : NoFalsyV (dlook d)) (op : Op) (hoid : OpOidOk op)
    (hren : ∀ a b, op = .rename a b → tcomps c b ≠ []) : NoFalsyV (dlook (specStep c d op).1) := by
  cases op with
  | mkdir p o => exact noFalsy_insertD h _ _ hoid
  | create p o => exact noFalsy_insertD h _ _ hoid
  | delete oid path =>
    simp only [specStep]
    cases oid with
    | some o =>
      simp only
      cases holderD d o with
      | some kx => exact noFalsy_rmD h kx
      | none => exact h
    | none =>
      cases path with
      | some p => simp only; split
                  · exact noFalsy_rmD h _
                  · exact h
      | none => exact h
  | rename a b =>
    simp only [specStep]
    cases dlook d (pcomps c a) with
    | none => exact noFalsy_rmD h _
    | some e =>
      simp only
      split
      · exact h
      · have hb : pcomps c b ≠ [] := by rw [pcomps_eq g]; exact hren a b rfl
        rw [dlook_graftD hb, dlook_ensureD]
        refine ((noFalsy_rmD (noFalsy_rmD h _) _).ensure _).graft ?_ _
        intro r t
        rw [dlook_subD]; exact h _ t
  | setOid p oid t =>
    simp only [specStep]
    split
    · exact h
    · next hcond =>
      cases oid with
      | none => exact h
      | some o =>
        have h0 : o ≠ 0 := by intro e; subst e; simp [truthy] at hcond
        simp only
        cases dlook d (pcomps c p) with
        | some e => obtain ⟨t0, i0⟩ := e; exact noFalsy_setOidD h _ t0 i0 h0
        | none => exact noFalsy_insertD h _ _ (by intro e; exact h0 (by cases e; rfl))
  | update p t oid =>
    simp only [specStep]
    cases dlook d (pcomps c p) with
    | none => exact noFalsy_insertD h _ _ hoid
    | some e =>
      obtain ⟨t0, i0⟩ := e
      simp only
      split
      · exact noFalsy_insertD (noFalsy_rmD h _) _ _ hoid
      · split
        · next hto =>
          cases oid with
          | none => exact h
          | some o =>
            have h0 : o ≠ 0 := by intro e; subst e; simp [truthy] at hto
            exact noFalsy_setOidD h _ t0 i0 h0
        · exact h

theorem refine_step {c : Cfg} (g : CfgGood c) {s : HC} {d : D} (hc : Coherent c s) (habs : Abs s d)
    (hnf : NoFalsyV (view s)) (op : Op) (hg : OpGuard c s op) (hoid : OpOidOk op) :
    ResAgree (step c s op).2 (specStep c d op).2 ∧ Abs (step c s op).1 (specStep c d op).1 ∧
      Coherent c (step c s op).1 ∧ NoFalsyV (view (step c s op).1) := by
  have hstep : ResAgree (step c s op).2 (specStep c d op).2 ∧ Abs (step c s op).1 (specStep c d op).1 := by
    cases op with
    | mkdir p o =>
      show (mkdir c p o s).2 = .ok () ∧ Abs (mkdir c p o s).1 (insertD (pcomps c p) (.dir, o) d)
      unfold mkdir
      exact refine_make g hc habs .dir p o hg hoid
    | create p o =>
      show (create c p o s).2 = .ok () ∧ Abs (create c p o s).1 (insertD (pcomps c p) (.file, o) d)
      unfold create
      exact refine_make g hc habs .file p o hg hoid
    | delete o p => exact refine_delete g hc habs hnf o p
    | rename a b => exact refine_rename g hc habs hnf a b hg
    | setOid p o t => exact refine_setOid g hc habs p o t hg
    | update p t o => exact refine_update g hc habs p t o hg hoid
  refine ⟨hstep.1, hstep.2, (step_safe g hc op hg).1, ?_⟩
  rw [← hstep.2]
  apply specStep_noFalsy g (by rw [show dlook d = view s from habs]; exact hnf) op hoid
  intro a b e
  subst e
  exact hg

theorem getOid_refines {c : Cfg} (g : CfgGood c) {s : HC} {d : D} (habs : Abs s d) (p : Str) :
    getOid c s p = .ok (getOidD c d p) := by
  have hd : dlook d = view s := habs
  simp only [getOid, getNode_path g, getOidD, pcomps_eq g, hd]
  cases hr : res s (tcomps c p) with
  | none => simp [view, hr]
  | some n => simp [view, hr, entOf]

theorem getType_refines {c : Cfg} (g : CfgGood c) {s : HC} {d : D} (habs : Abs s d) (p : Str) :
    getType c s none (some p) = .ok (getTypeD c d p) := by
  have hd : dlook d = view s := habs
  simp only [getType, getNode_path g, getTypeD, pcomps_eq g, hd]
  cases hr : res s (tcomps c p) with
  | none => simp [view, hr]
  | some n => simp [view, hr, entOf]

theorem getPath_refines {c : Cfg} (g : CfgGood c) {s : HC} {d : D} (hc : Coherent c s) (habs : Abs s d)
    (hnf : NoFalsyV (view s)) (o : Oid) :
    getPath c s o = .ok ((getPathD d o).map (canon c.sep)) := by
  simp only [getPath, getPathD]
  cases hh : holderD d o with
  | some k =>
    obtain ⟨x, hx, hox⟩ := holderV_view.1 (habs ▸ holderD_some hh)
    have h0 : o ≠ 0 := fun e => by
      subst e; exact hnf k (s.nd x).type (by rw [view_some hx]; simp [entOf, hox])
    rw [hc.dget_idmap.2 ⟨⟨_, hx⟩, hox, h0⟩]
    simp only [Option.map_some]
    exact hc.fullPath g hx
  | none =>
    cases hd : dget s.idmap o with
    | none => rfl
    | some n =>
      exfalso
      obtain ⟨⟨k, hk⟩, hon, _⟩ := hc.dget_idmap.1 hd
      exact holderD_none hh k ⟨(s.nd n).type, by rw [habs, view_some hk]; simp [entOf, hon]⟩

theorem listdir_refines {c : Cfg} (g : CfgGood c) {s : HC} {d : D} (hc : Coherent c s) (habs : Abs s d) (p : Str) :
    ∃ l, listdir c s none (some p) = .ok l ∧ ∀ a, a ∈ l ↔ hasChildD d (pcomps c p) a = true := by
  have hd : dlook d = view s := habs
  simp only [listdir, getNode_path g, hasChildD, pcomps_eq g, hd]
  cases hr : res s (tcomps c p) with
  | none =>
    refine ⟨[], rfl, fun a => ?_⟩
    have : res s (tcomps c p ++ [a]) = none := by rw [res_snoc, hr]; rfl
    simp [view, this]
  | some n =>
    refine ⟨_, rfl, fun a => ?_⟩
    have hrn : Reach s n := ⟨_, hr⟩
    simp only [view, res_snoc, hr, Option.bind_some, List.mem_map]
    constructor
    · rintro ⟨kc, hkc, rfl⟩
      rw [(hc.linked hrn hkc).name, dget_of_mem (hc.keys_nodup hrn) hkc]; rfl
    · intro h
      cases hd : dget (s.nd n).children a with
      | none => rw [hd] at h; simp at h
      | some ch =>
        have hm := dget_mem hd
        exact ⟨(a, ch), hm, (hc.linked hrn hm).name⟩

theorem abs_init (r : Oid) : Abs (CS.HCache.init r) (HDict.init r) := by
  unfold Abs
  funext q
  cases q with
  | nil => simp [HDict.init, dlook, dget, view, entOf, CS.HCache.init, HC.nd]
  | cons k ks => simp [HDict.init, dlook, dget, view, res, resFrom, CS.HCache.init, HC.nd]

theorem noFalsy_init (r : Oid) (hr : r ≠ 0) : NoFalsyV (view (CS.HCache.init r)) := by
  rw [← abs_init r]
  intro q t
  cases q with
  | nil =>
    simp only [HDict.init, dlook, dget, if_true]
    intro e
    have := Option.some.inj e
    exact hr (by cases this; rfl)
  | cons k ks => simp [HDict.init, dlook, dget]

end CS.HCache
