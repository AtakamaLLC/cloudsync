import Csverif.Model.HCache
import Csverif.Proofs.Assoc
/- C19 helper lemmas: association-list dictionaries and heap access. -/
namespace CS.HCache
set_option linter.unusedSectionVars false

section dict
variable {κ ν : Type} [DecidableEq κ]

def keys (d : List (κ × ν)) : List κ := d.map (·.1)

@[simp] theorem keys_nil : keys ([] : List (κ × ν)) = [] := rfl
@[simp] theorem keys_cons (a : κ × ν) (d : List (κ × ν)) : keys (a :: d) = a.1 :: keys d := rfl

theorem dget_eq [BEq κ] [LawfulBEq κ] (d : List (κ × ν)) (k : κ) : dget d k = Assoc.get d k := by
  induction d with
  | nil => rfl
  | cons a d ih => rw [Assoc.get_cons, ← ih]; rfl

theorem dset_eq (d : List (κ × ν)) (k : κ) (v : ν) : dset d k v = Assoc.set d k v := by
  induction d with
  | nil => rfl
  | cons a d ih =>
    rw [Assoc.set, ← ih]
    by_cases h : a.1 = k
    · subst h; simp [dset]
    · simp [dset, h]

theorem dget_mem {d : List (κ × ν)} {k : κ} {v : ν} (h : dget d k = some v) : (k, v) ∈ d :=
  Assoc.mem_of_get (dget_eq d k ▸ h)

theorem dget_none {d : List (κ × ν)} {k : κ} : dget d k = none ↔ k ∉ keys d :=
  dget_eq d k ▸ Assoc.get_eq_none_iff

theorem dget_none_of_sub {d d' : List (κ × ν)} (h : ∀ e, e ∈ d' → e ∈ d) {k : κ} (hk : dget d k = none) : dget d' k = none := by
  rw [dget_none] at hk ⊢
  exact fun hm => (List.mem_map.1 hm).elim fun e he => hk (List.mem_map.2 ⟨e, h e he.1, he.2⟩)

theorem mem_keys_of_mem {d : List (κ × ν)} {k : κ} {v : ν} (h : (k, v) ∈ d) : k ∈ keys d :=
  List.mem_map.2 ⟨(k, v), h, rfl⟩

theorem dget_of_mem {d : List (κ × ν)} (hn : (keys d).Nodup) {k : κ} {v : ν} (h : (k, v) ∈ d) :
    dget d k = some v :=
  dget_eq d k ▸ Assoc.get_of_mem hn h

theorem dget_iff_mem {d : List (κ × ν)} (hn : (keys d).Nodup) {k : κ} {v : ν} :
    dget d k = some v ↔ (k, v) ∈ d := ⟨dget_mem, dget_of_mem hn⟩

theorem derase_sublist (d : List (κ × ν)) (k : κ) : (derase d k).Sublist d := by
  induction d with
  | nil => simp [derase]
  | cons a d ih =>
    obtain ⟨k', v'⟩ := a
    simp only [derase]
    split
    · exact List.sublist_cons_self _ _
    · exact ih.cons_cons _

theorem mem_derase {d : List (κ × ν)} {k : κ} {e : κ × ν} (h : e ∈ derase d k) : e ∈ d :=
  (derase_sublist d k).subset h

theorem keys_derase_sub {d : List (κ × ν)} {k x : κ} (h : x ∈ keys (derase d k)) : x ∈ keys d :=
  ((derase_sublist d k).map _).subset h

theorem nodup_keys_derase {d : List (κ × ν)} (hn : (keys d).Nodup) (k : κ) : (keys (derase d k)).Nodup :=
  List.Nodup.sublist ((derase_sublist d k).map _) hn

theorem not_mem_keys_derase {d : List (κ × ν)} (hn : (keys d).Nodup) (k : κ) : k ∉ keys (derase d k) := by
  induction d with
  | nil => simp [derase]
  | cons a d ih =>
    obtain ⟨k', v'⟩ := a
    simp only [keys_cons, List.nodup_cons] at hn
    simp only [derase]
    split
    · next hk => subst hk; exact hn.1
    · next hk =>
      simp only [keys_cons, List.mem_cons, not_or]
      exact ⟨fun e => hk e.symm, ih hn.2⟩

theorem mem_derase_of_ne {d : List (κ × ν)} {k : κ} {e : κ × ν} (h : e ∈ d) (hne : e.1 ≠ k) : e ∈ derase d k := by
  induction d with
  | nil => simp at h
  | cons a d ih =>
    obtain ⟨k', v'⟩ := a
    simp only [derase]
    rcases List.mem_cons.1 h with e' | h'
    · subst e'
      rw [if_neg hne]; exact List.mem_cons_self
    · split
      · exact h'
      · exact List.mem_cons_of_mem _ (ih h')

theorem mem_derase_iff {d : List (κ × ν)} (hn : (keys d).Nodup) {k : κ} {e : κ × ν} : e ∈ derase d k ↔ e ∈ d ∧ e.1 ≠ k :=
  ⟨fun h => ⟨mem_derase h, fun e' => not_mem_keys_derase hn k (List.mem_map.2 ⟨e, h, e'⟩)⟩,
   fun h => mem_derase_of_ne h.1 h.2⟩

theorem dget_derase_self {d : List (κ × ν)} (hn : (keys d).Nodup) (k : κ) : dget (derase d k) k = none :=
  dget_none.2 (not_mem_keys_derase hn k)

theorem dget_derase_ne {d : List (κ × ν)} {k k' : κ} (hne : k' ≠ k) : dget (derase d k) k' = dget d k' := by
  induction d with
  | nil => simp [derase]
  | cons a d ih =>
    obtain ⟨k1, v1⟩ := a
    simp only [derase]
    split
    · next hk => subst hk; simp [dget, Ne.symm hne]
    · simp only [dget]; rw [ih]

theorem dget_dset (d : List (κ × ν)) (k k' : κ) (v : ν) : dget (dset d k v) k' = if k' = k then some v else dget d k' := by
  rw [dset_eq, dget_eq, dget_eq, Assoc.get_set]

theorem dget_dset_self (d : List (κ × ν)) (k : κ) (v : ν) : dget (dset d k v) k = some v := by
  rw [dget_dset, if_pos rfl]

theorem dget_dset_ne {d : List (κ × ν)} {k k' : κ} (v : ν) (hne : k' ≠ k) : dget (dset d k v) k' = dget d k' := by
  rw [dget_dset, if_neg hne]

theorem dset_of_not_mem {d : List (κ × ν)} {k : κ} (v : ν) (h : k ∉ keys d) : dset d k v = d ++ [(k, v)] :=
  dset_eq d k v ▸ Assoc.set_of_not_mem v h

theorem keys_dset (d : List (κ × ν)) (k : κ) (v : ν) : keys (dset d k v) = if k ∈ keys d then keys d else keys d ++ [k] :=
  dset_eq d k v ▸ Assoc.keys_set d k v

theorem nodup_keys_dset {d : List (κ × ν)} (hn : (keys d).Nodup) (k : κ) (v : ν) : (keys (dset d k v)).Nodup :=
  dset_eq d k v ▸ Assoc.nodup_set hn k v

theorem mem_dset {d : List (κ × ν)} (hn : (keys d).Nodup) {k : κ} {v : ν} {e : κ × ν} (h : e ∈ dset d k v) :
    e = (k, v) ∨ (e ∈ d ∧ e.1 ≠ k) := by
  have := dget_of_mem (nodup_keys_dset hn k v) (show (e.1, e.2) ∈ _ from h)
  rw [dget_dset] at this
  split at this
  · next hk => exact Or.inl (Prod.ext hk (Option.some.inj this).symm)
  · next hk => exact Or.inr ⟨dget_mem this, hk⟩

theorem mem_dset_self (d : List (κ × ν)) (k : κ) (v : ν) : (k, v) ∈ dset d k v :=
  dget_mem (dget_dset_self d k v)

theorem mem_dset_of_mem {d : List (κ × ν)} (hn : (keys d).Nodup) {k : κ} {v : ν} {e : κ × ν} (h : e ∈ d) (hne : e.1 ≠ k) :
    e ∈ dset d k v :=
  dget_mem (k := e.1) (v := e.2) (by rw [dget_dset_ne v hne]; exact dget_of_mem hn h)

end dict

theorem truthy_iff {x : Option Oid} : truthy x = true ↔ ∃ o, x = some o ∧ o ≠ 0 := by
  cases x with
  | none => simp [truthy]
  | some o => cases o <;> simp [truthy]

theorem OType.eq_file {t : OType} (h : t ≠ .dir) : t = .file := by
  cases t with
  | file => rfl
  | dir => exact absurd rfl h

theorem nd_setNd (s : HC) (i j : Nat) (n : Node) :
    (s.setNd i n).nd j = if i = j ∧ i < s.heap.length then n else s.nd j := by
  simp only [HC.nd, HC.setNd, List.getD_eq_getElem?_getD, List.getElem?_set]
  by_cases h : i = j
  · subst h
    by_cases hl : i < s.heap.length
    · simp [hl]
    · simp [hl]
  · simp [h]

theorem nd_setNd_of_lt (s : HC) {i : Nat} (h : i < s.heap.length) (n : Node) (j : Nat) :
    (s.setNd i n).nd j = if j = i then n else s.nd j := by
  rw [nd_setNd]
  by_cases e : i = j
  · subst e; simp [h]
  · simp [e, Ne.symm e]

theorem nd_setNd_ne (s : HC) {i j : Nat} (h : j ≠ i) (n : Node) : (s.setNd i n).nd j = s.nd j := by
  rw [nd_setNd, if_neg (fun e => h e.1.symm)]

@[simp] theorem setNd_len (s : HC) (i : Nat) (n : Node) : (s.setNd i n).heap.length = s.heap.length := by
  simp [HC.setNd]

@[simp] theorem setNd_idmap (s : HC) (i : Nat) (n : Node) : (s.setNd i n).idmap = s.idmap := rfl

theorem nd_dummy_of_ge (s : HC) {i : Nat} (h : s.heap.length ≤ i) : s.nd i = Node.dummy := by
  simp [HC.nd, List.getD_eq_getElem?_getD, List.getElem?_eq_none h]

end CS.HCache
