import Csverif.Proofs.HCache.Delete
/- C19 helper lemmas: `_get_node` in a coherent cache; the recursive `delete`, with its recursion budget. -/
namespace CS.HCache
open CS.Path

theorem getNode_ok {c : Cfg} (g : CfgGood c) (s : HC) {oid : Option Oid} {path : Option Str}
    (harg : oid.isSome ∨ path.isSome) : ∃ r, getNode c s oid path = .ok r := by
  cases oid with
  | some o => simp only [getNode]; split <;> exact ⟨_, rfl⟩
  | none =>
    cases path with
    | some p => exact ⟨_, getNode_path g s p⟩
    | none => simp at harg

theorem getNode_args {c : Cfg} {s : HC} {oid : Option Oid} {path : Option Str} {r : Option Nat}
    (h : getNode c s oid path = .ok r) : oid.isSome ∨ path.isSome := by
  cases oid with
  | some o => exact Or.inl rfl
  | none =>
    cases path with
    | some p => exact Or.inr rfl
    | none => simp [getNode] at h

theorem Coherent.getNode_oid {c : Cfg} {s : HC} (hc : Coherent c s) (o : Oid) (path : Option Str) :
    ∃ r, getNode c s (some o) path = .ok r ∧ ∀ x, r = some x ↔ (Reach s x ∧ (s.nd x).oid = some o ∧ o ≠ 0) := by
  simp only [getNode]
  split
  · next h =>
    obtain ⟨r0, hr0, hne⟩ := hc.root_oid
    have ho : (s.nd 0).oid = some o := h.symm
    have h0 : o ≠ 0 := by rw [hr0] at ho; cases ho; exact hne
    refine ⟨some 0, rfl, fun x => ⟨fun hx => ?_, fun hx => ?_⟩⟩
    · cases hx; exact ⟨Reach.root s, ho, h0⟩
    · rw [hc.oid_unique hx.1 (Reach.root s) hx.2.1 ho h0]
  · exact ⟨dget s.idmap o, rfl, fun x => hc.dget_idmap⟩

/-- the lookup of the children loop's call `delete(oid=child.oid, path=child.full_path())`: a child with the falsy
    non-None id is not found -/
theorem Coherent.kid_lookup {c : Cfg} (g : CfgGood c) {s : HC} (hc : Coherent c s) {ky : List Str} {ch : Nat}
    (h : res s ky = some ch) :
    getNode c s (s.nd ch).oid (some (canon c.sep ky)) = .ok (if (s.nd ch).oid = some 0 then none else some ch) := by
  cases ho : (s.nd ch).oid with
  | none => rw [getNode_canon g s (hc.ksOk h), h]; rfl
  | some o =>
    obtain ⟨r, hr, hx⟩ := hc.getNode_oid o (some (canon c.sep ky))
    rw [hr]
    by_cases h0 : o = 0
    · rw [if_pos (by rw [h0])]
      cases r with
      | none => rfl
      | some x => exact absurd h0 ((hx x).1 rfl).2.2
    · rw [if_neg (fun e => h0 (Option.some.inj e)), (hx ch).2 ⟨⟨_, h⟩, ho, h0⟩]

theorem Coherent.getNode_reach {c : Cfg} (g : CfgGood c) {s : HC} (hc : Coherent c s) {oid : Option Oid}
    {path : Option Str} {x : Nat} (h : getNode c s oid path = .ok (some x)) : Reach s x := by
  cases oid with
  | some o =>
    obtain ⟨r, hr, hx⟩ := hc.getNode_oid o path
    rw [hr] at h
    exact ((hx x).1 (Except.ok.inj h)).1
  | none =>
    cases path with
    | none => simp [getNode] at h
    | some p =>
      rw [getNode_path g] at h
      exact ⟨_, Except.ok.inj h⟩

/-- what every `delete` guarantees, whatever it finds.  `len`, `frame`, `shrink`, `idsub` are the footprint (`FrameX`,
    Frame.lean); `parents` serves `_check` on nodes that went away with a deleted ancestor (`check_detached`) -/
structure DelPost (c : Cfg) (s s' : HC) : Prop where
  coh : Coherent c s'
  len : s'.heap.length = s.heap.length
  frame : ∀ m, ¬ Reach s m → s'.nd m = s.nd m
  shrink : ∀ q, res s' q = none ∨ res s' q = res s q
  fields : ∀ m, (s'.nd m).type = (s.nd m).type ∧ (s'.nd m).oid = (s.nd m).oid ∧
    (s'.nd m).name = (s.nd m).name ∧ (s'.nd m).isRoot = (s.nd m).isRoot
  idsub : ∀ e, e ∈ s'.idmap → e ∈ s.idmap
  parents : ∀ m, (s'.nd m).parent = (s.nd m).parent ∨ (s'.nd m).parent = none

theorem DelPost.refl {c : Cfg} {s : HC} (hc : Coherent c s) : DelPost c s s :=
  ⟨hc, rfl, fun _ _ => rfl, fun _ => Or.inr rfl, fun _ => ⟨rfl, rfl, rfl, rfl⟩, fun _ h => h, fun _ => Or.inl rfl⟩

theorem DelPost.res_some {c : Cfg} {s s' : HC} (h : DelPost c s s') {q : List Str} {m : Nat} (hm : res s' q = some m) :
    res s q = some m := by
  rcases h.shrink q with a | a
  · rw [a] at hm; cases hm
  · rw [← a]; exact hm

theorem DelPost.reach {c : Cfg} {s s' : HC} (h : DelPost c s s') {m : Nat} (hm : Reach s' m) : Reach s m :=
  hm.elim fun q hq => ⟨q, h.res_some hq⟩

theorem DelPost.forgets {c : Cfg} {s s' : HC} (hc : Coherent c s) (h : DelPost c s s') {q : List Str} {m : Nat} {o : Oid}
    (hm : res s q = some m) (ho : (s.nd m).oid = some o) (h0 : o ≠ 0) (hgone : res s' q = none) :
    dget s'.idmap o = none := by
  cases hg : dget s'.idmap o with
  | none => rfl
  | some m' =>
    obtain ⟨⟨q', hq'⟩, ho', _⟩ := h.coh.dget_idmap.1 hg
    have hq's := h.res_some hq'
    cases hc.oid_unique ⟨_, hq's⟩ ⟨_, hm⟩ (by rw [← (h.fields m').2.1]; exact ho') ho h0
    rw [hc.res_inj hq's hm, hgone] at hq'
    cases hq'

theorem DelPost.trans {c : Cfg} {s s1 s2 : HC} (h1 : DelPost c s s1) (h2 : DelPost c s1 s2) : DelPost c s s2 where
  coh := h2.coh
  len := h2.len.trans h1.len
  frame := fun m hm => by
    rw [h2.frame m (fun h => hm (h1.reach h)), h1.frame m hm]
  shrink := fun q => by
    rcases h2.shrink q with a | a
    · exact Or.inl a
    · rcases h1.shrink q with b | b
      · left; rw [a, b]
      · right; rw [a, b]
  fields := fun m => by
    have a := h2.fields m
    have b := h1.fields m
    exact ⟨a.1.trans b.1, a.2.1.trans b.2.1, a.2.2.1.trans b.2.2.1, a.2.2.2.trans b.2.2.2⟩
  idsub := fun e he => h1.idsub e (h2.idsub e he)
  parents := fun m => by
    rcases h2.parents m with a | a
    · rcases h1.parents m with b | b
      · exact Or.inl (a.trans b)
      · exact Or.inr (a.trans b)
    · exact Or.inr a

theorem DelCtx.delPost {c : Cfg} {s : HC} {init : List Str} {a : Str} {p n : Nat} (d : DelCtx c s init a p n) :
    DelPost c s (detachSt c s p n a) where
  coh := d.coherent_detach
  len := DelCtx.detach_len
  frame := fun m hm => by
    have h1 : m ≠ n := fun e => hm (e ▸ ⟨_, d.hn⟩)
    have h2 : m ≠ p := fun e => hm (e ▸ ⟨_, d.hp⟩)
    rw [d.nd_detach]; simp [h1, h2]
  shrink := fun q => by
    by_cases h : (init ++ [a]) <+: q
    · exact Or.inl (d.res_detach_in q h)
    · exact Or.inr (d.res_detach_out q h)
  fields := d.fields_detach
  idsub := fun e he => (d.mem_detach_idmap.1 he).1
  parents := fun m => by
    rw [d.parent_detach]
    split
    · exact Or.inr rfl
    · exact Or.inl rfl

theorem deleteNode_ctx {c : Cfg} {s : HC} {init : List Str} {a : Str} {p n : Nat} (d : DelCtx c s init a p n) :
    deleteNode c (some n) s = (detachSt c s p n a, .ok (some n)) := by
  -- `full_path()` of `n`, read after its entry was popped from `p`, is still its path: it only follows parent links
  have hfp : fullPath c (DelCtx.s1 s p a) n = .ok (some (canon c.sep (init ++ [a]))) := by
    rw [fullPath_congr c (s := s) (s' := DelCtx.s1 s p a) (by simp [DelCtx.s1])
      (fun i => by rw [d.nd_s1]; split <;> simp_all)]
    exact d.hc.fullPath d.g d.hn
  exact deleteNode_eq c s n p a d.lnk.notRoot d.lnk.parent d.lnk.name d.hk ⟨_, hfp⟩

def Shallow (s : HC) (x F : Nat) : Prop := ∀ q m, resFrom s x q = some m → q.length < F

theorem prefix_snoc_ne {α} {kx : List α} {k k' : α} {r : List α} (h : (kx ++ [k]) <+: (kx ++ [k'] ++ r)) : k = k' := by
  obtain ⟨t, ht⟩ := h
  simp only [List.append_assoc, List.append_cancel_left_eq, List.cons_append, List.nil_append, List.cons.injEq] at ht
  exact ht.1

/-- the budget `f` exceeds the depth of the subtree of the target of `delete(oid, path)` in `s`; `deleteRec_spec` assumes it;
    `delete_spec` discharges it for the budget `delete` passes, heap size + 1 -/
structure Enough (c : Cfg) (s : HC) (oid : Option Oid) (path : Option Str) (f : Nat) : Prop where
  pos : 0 < f
  shallow : ∀ x, getNode c s oid path = .ok (some x) → Shallow s x f

/-- one `delete(oid, path)` call: the subtree of the target is cut off (the root is never cut off: only its children go,
    and of those only the ones the lookup by id-and-path finds again), the rest stays; the only failure is the
    ValueError of a call without arguments -/
structure DelSpec (c : Cfg) (s : HC) (oid : Option Oid) (path : Option Str) (s' : HC) (r : Except Err Unit) : Prop where
  post : DelPost c s s'
  miss : (∀ x, getNode c s oid path ≠ .ok (some x)) → s' = s
  result : r = .ok () ∨ ∃ e, getNode c s oid path = .error e ∧ r = .error e
  out : ∀ {x kx}, getNode c s oid path = .ok (some x) → res s kx = some x → ∀ q, ¬ kx <+: q → res s' q = res s q
  gone : ∀ {x kx}, getNode c s oid path = .ok (some x) → res s kx = some x → x ≠ 0 →
    (∀ q, kx <+: q → res s' q = none) ∧ (s'.nd x).parent = none
  -- a child with the falsy id is not found again by the loop's lookup (`Coherent.kid_lookup`) and stays
  kids : ∀ {x kx}, getNode c s oid path = .ok (some x) → res s kx = some x →
    ∀ e ∈ (s.nd x).children, (s.nd e.2).oid ≠ some 0 → ∀ q, (kx ++ [e.1]) <+: q → res s' q = none

theorem DelSpec.unchanged {c : Cfg} {s : HC} {oid : Option Oid} {path : Option Str} {r : Except Err Unit} (hc : Coherent c s)
    (hr : r = .ok () ∨ ∃ e, getNode c s oid path = .error e ∧ r = .error e)
    (hno : ∀ x, getNode c s oid path ≠ .ok (some x)) : DelSpec c s oid path s r :=
  ⟨DelPost.refl hc, fun _ => rfl, hr, fun _ _ _ _ => rfl, fun hx => absurd hx (hno _), fun hx => absurd hx (hno _)⟩

theorem DelSpec.target {c : Cfg} {s s' : HC} {oid : Option Oid} {path : Option Str} {x : Nat} {kx : List Str}
    (hc : Coherent c s) (hg : getNode c s oid path = .ok (some x)) (hkx : res s kx = some x) (post : DelPost c s s')
    (out : ∀ q, ¬ kx <+: q → res s' q = res s q)
    (gone : x ≠ 0 → (∀ q, kx <+: q → res s' q = none) ∧ (s'.nd x).parent = none)
    (kids : ∀ e ∈ (s.nd x).children, (s.nd e.2).oid ≠ some 0 → ∀ q, (kx ++ [e.1]) <+: q → res s' q = none) :
    DelSpec c s oid path s' (.ok ()) where
  post := post
  miss := fun h => absurd hg (h x)
  result := Or.inl rfl
  out := fun hy hky => by rw [hg] at hy; cases hy; cases hc.res_inj hky hkx; exact out
  gone := fun hy hky => by rw [hg] at hy; cases hy; cases hc.res_inj hky hkx; exact gone
  kids := fun hy hky => by rw [hg] at hy; cases hy; cases hc.res_inj hky hkx; exact kids

theorem DelSpec.kid {c : Cfg} (g : CfgGood c) {t t1 : HC} {r : Except Err Unit} {ky : List Str} {ch : Nat}
    (hc : Coherent c t) (hch : res t ky = some ch) (hne : ky ≠ [])
    (hs : DelSpec c t (t.nd ch).oid (some (canon c.sep ky)) t1 r) :
    r = .ok () ∧ (∀ q, ¬ ky <+: q → res t1 q = res t q) ∧ ((t.nd ch).oid ≠ some 0 → ∀ q, ky <+: q → res t1 q = none) := by
  have hlook := hc.kid_lookup g hch
  refine ⟨hs.result.resolve_right (fun ⟨e, he, _⟩ => by rw [hlook] at he; cases he), ?_⟩
  by_cases h0 : (t.nd ch).oid = some 0
  · rw [if_pos h0] at hlook
    exact ⟨fun _ _ => by rw [hs.miss (fun x hx => by rw [hlook] at hx; cases hx)], fun h => absurd h0 h⟩
  · rw [if_neg h0] at hlook
    exact ⟨hs.out hlook hch, fun _ => (hs.gone hlook hch (hc.ne_zero hch hne)).1⟩

theorem DelSpec.kid_enough {c : Cfg} (g : CfgGood c) {t : HC} {f : Nat} {ky : List Str} {ch : Nat}
    (hc : Coherent c t) (hch : res t ky = some ch) (hsh : Shallow t ch f) :
    Enough c t (t.nd ch).oid (some (canon c.sep ky)) f :=
  ⟨hsh [] ch rfl, fun x hx => by
    rw [hc.kid_lookup g hch] at hx
    split at hx
    · cases hx
    · cases hx; exact hsh⟩

structure LoopPost (c : Cfg) (kx : List Str) (kl : List (Str × Nat)) (t t' : HC) (r : Except Err Unit) : Prop where
  post : DelPost c t t'
  out : ∀ q, (∀ e ∈ kl, ¬ (kx ++ [e.1]) <+: q) → res t' q = res t q
  ok : r = .ok ()
  gone : ∀ e ∈ kl, (t.nd e.2).oid ≠ some 0 → ∀ q, (kx ++ [e.1]) <+: q → res t' q = none

theorem LoopPost.nil {c : Cfg} {kx : List Str} {t : HC} (hc : Coherent c t) : LoopPost c kx [] t t (.ok ()) :=
  ⟨DelPost.refl hc, fun _ _ => rfl, rfl, fun _ he => nomatch he⟩

theorem delLoop_spec {c : Cfg} (g : CfgGood c) {f : Nat} (rec : Option Oid → Option Str → M Unit)
    (hrec : ∀ t oid path, Coherent c t → Enough c t oid path f → Holds (rec oid path) t (DelSpec c t oid path))
    (kx : List Str) :
    ∀ (kl : List (Str × Nat)) (t : HC), Coherent c t → (keys kl).Nodup →
      (∀ e ∈ kl, res t (kx ++ [e.1]) = some e.2) → (∀ e ∈ kl, Shallow t e.2 f) →
      Holds (delLoop c rec (kl.map (·.2))) t (LoopPost c kx kl t) := by
  intro kl
  induction kl with
  | nil => intro t hc _ _ _; exact LoopPost.nil hc
  | cons e rest ih =>
    obtain ⟨k, ch⟩ := e
    intro t hc hnd hres hsh
    have hch : res t (kx ++ [k]) = some ch := hres (k, ch) List.mem_cons_self
    simp only [keys_cons, List.nodup_cons] at hnd
    have hne : ∀ e ∈ rest, ¬ (kx ++ [k]) <+: (kx ++ [e.1]) := by
      intro e he hp
      have : k = e.1 := prefix_snoc_ne (kx := kx) (r := []) (by simpa using hp)
      exact hnd.1 (this ▸ mem_keys_of_mem (show (e.1, e.2) ∈ rest from he))
    simp only [List.map_cons, delLoop]
    refine Holds.bind_eq rfl (Holds.bind_eq (by rw [fullPathM_run, hc.fullPath g hch]) ?_)
    refine Holds.bind (hrec t _ _ hc (DelSpec.kid_enough g hc hch (hsh (k, ch) List.mem_cons_self)))
      (fun t1 u hs => ?_) (fun t1 e hs => nomatch (hs.kid g hc hch (by simp)).1)
    obtain ⟨_, hout, hgone⟩ := hs.kid g hc hch (by simp)
    have hres1 : ∀ e ∈ rest, res t1 (kx ++ [e.1]) = some e.2 := fun e he => by
      rw [hout _ (hne e he)]; exact hres e (List.mem_cons_of_mem _ he)
    refine (ih t1 hs.post.coh hnd.2 hres1 (fun e he q m hm => ?_)).mono (fun t2 r p =>
      ⟨hs.post.trans p.post, fun q hq => ?_, p.ok, fun e he h0 q hq => ?_⟩)
    · -- the subtree of a remaining child can only have shrunk
      obtain ⟨y, hy, hr⟩ := res_prefix (hs.post.res_some (res_of_resFrom (hres1 e he) hm))
      rw [hres e (List.mem_cons_of_mem _ he)] at hy
      cases hy
      exact hsh e (List.mem_cons_of_mem _ he) q m hr
    · rw [p.out q (fun e he => hq e (List.mem_cons_of_mem _ he)), hout q (hq (k, ch) List.mem_cons_self)]
    · rcases List.mem_cons.1 he with rfl | he'
      · -- the child just deleted stays deleted: later iterations only shrink
        rcases p.post.shrink q with a | a
        · exact a
        · rw [a]; exact hgone h0 q hq
      · exact p.gone e he' (by rw [(hs.post.fields e.2).2.1]; exact h0) q hq

theorem deleteRec_spec {c : Cfg} (g : CfgGood c) : ∀ (f : Nat) (s : HC) (oid : Option Oid) (path : Option Str),
    Coherent c s → Enough c s oid path f → Holds (deleteRec c f oid path) s (DelSpec c s oid path) := by
  intro f
  induction f with
  | zero => intro s oid path _ he; exact absurd he.pos (Nat.lt_irrefl 0)
  | succ f ih =>
    intro s oid path hc he
    rw [deleteRec]
    cases hg : getNode c s oid path with
    | error e =>
      exact Holds.bind_err_eq (by rw [getNodeM_run, hg]) (DelSpec.unchanged hc (Or.inr ⟨e, hg, rfl⟩)
        (fun x hx => by rw [hg] at hx; cases hx))
    | ok r =>
      refine Holds.bind_eq (by rw [getNodeM_run, hg]) ?_
      cases r with
      | none => exact DelSpec.unchanged hc (Or.inl rfl) (fun x hx => by rw [hg] at hx; cases hx)
      | some x =>
        obtain ⟨kx, hkx⟩ := hc.getNode_reach g hg
        have hr : Reach s x := ⟨_, hkx⟩
        have hkids : ∀ e ∈ (s.nd x).children, res s (kx ++ [e.1]) = some e.2 := fun e he => by
          rw [res_snoc, hkx]; exact dget_of_mem (hc.keys_nodup hr) he
        have hdeep : ∀ e ∈ (s.nd x).children, Shallow s e.2 f := fun e he' q m hm => by
          have hd : dget (s.nd x).children e.1 = some e.2 := dget_of_mem (hc.keys_nodup hr) he'
          have := he.shallow x hg (e.1 :: q) m ((resFrom_cons hd q).trans hm)
          simpa using this
        have hloop : Holds (if (s.nd x).type = .dir then delLoop c (deleteRec c f) ((s.nd x).children.map (·.2)) else pure ())
            s (LoopPost c kx (s.nd x).children s) := by
          by_cases hd : (s.nd x).type = .dir
          · rw [if_pos hd]; exact delLoop_spec g _ ih kx _ s hc (hc.keys_nodup hr) hkids hdeep
          · rw [if_neg hd, hc.file_leaf hr (OType.eq_file hd)]
            exact LoopPost.nil hc
        refine Holds.bind_eq rfl (Holds.bind hloop (fun t u hl => ?_) (fun t e hl => nomatch hl.ok))
        have hout : ∀ q, ¬ kx <+: q → res t q = res s q := fun q hq =>
          hl.out q (fun e _ hp => hq ((List.prefix_append _ _).trans hp))
        have htx : res t kx = some x := by
          rw [hl.out kx (fun e _ => not_snoc_prefix kx e.1)]; exact hkx
        refine Holds.bind_eq (by rw [fullPathM_run, hl.post.coh.fullPath g htx]) ?_
        rcases snoc_cases kx with rfl | ⟨init, a, rfl⟩
        · -- the root: `_delete` is a no-op
          cases hkx
          exact Holds.bind_eq (deleteNode_root c t 0 hl.post.coh.root_isRoot) (Holds.pure (DelSpec.target hc hg rfl hl.post
            hout (fun h0 => absurd rfl h0) hl.gone))
        · obtain ⟨p, hp, hk⟩ := res_snoc_some htx
          have d : DelCtx c t init a p x := ⟨g, hl.post.coh, hp, hk⟩
          exact Holds.bind_eq (deleteNode_ctx d) (Holds.pure (DelSpec.target hc hg hkx (hl.post.trans d.delPost)
            (fun q hq => by rw [d.res_detach_out q hq, hout q hq])
            (fun _ => ⟨d.res_detach_in, by rw [d.nd_detach]; simp⟩)
            (fun _ _ _ q hq => d.res_detach_in q ((List.prefix_append _ _).trans hq))))

theorem delete_spec {c : Cfg} (g : CfgGood c) (s : HC) (oid : Option Oid) (path : Option Str) (hc : Coherent c s) :
    DelSpec c s oid path (delete c oid path s).1 (delete c oid path s).2 :=
  Holds.bind_eq (m := getS) rfl (deleteRec_spec g _ s oid path hc ⟨Nat.succ_pos _, fun x hx q m hm => by
    obtain ⟨kx, hkx⟩ := hc.getNode_reach g hx
    have := hc.depth_lt (res_of_resFrom hkx hm)
    simp at this; omega⟩)

theorem delete_ne_fuel {c : Cfg} (g : CfgGood c) {s : HC} (hc : Coherent c s) (oid : Option Oid) (path : Option Str) :
    (delete c oid path s).2 ≠ .error .fuel := fun h => by
  rcases (delete_spec g s oid path hc).result with h' | ⟨e, he, h'⟩
  · rw [h'] at h; cases h
  · -- a lookup error is the ValueError of a call without arguments, never the budget
    rw [h'] at h; cases h
    cases oid with
    | some o => obtain ⟨r, hr⟩ := getNode_ok g s (oid := some o) (path := path) (Or.inl rfl); rw [hr] at he; cases he
    | none =>
      cases path with
      | some p => rw [getNode_path g] at he; cases he
      | none => cases he

/-- `delete` always completes in a coherent cache: it returns normally unless called without arguments -/
theorem delete_total {c : Cfg} (g : CfgGood c) {s : HC} (hc : Coherent c s) (oid : Option Oid) (path : Option Str)
    (harg : oid.isSome ∨ path.isSome) : (delete c oid path s).2 = .ok () :=
  (delete_spec g s oid path hc).result.resolve_right (fun ⟨e, he, _⟩ => by
    obtain ⟨r, hr⟩ := getNode_ok g s harg
    rw [hr] at he; cases he)

end CS.HCache
