import Csverif.Proofs.HCache.Insert
/- C19 helper lemmas: what `__insert_node` and `__make_node` guarantee; `__make_node` and the parent
   auto-creation `ensurePar f`, given `__insert_node` at the same budget `f` (it is `__insert_node` at `f + 1` that
   calls `ensurePar f`). -/
namespace CS.HCache
open CS.Path

theorem check_state (i : Nat) (s : HC) : (check i s).1 = s := by
  simp only [check]; split <;> rfl

theorem ensureV_of_dir (ks : List Str) (v : V) (h : isDirE (v ks) = true) : ensureV ks v = v := by
  rcases snoc_cases ks with rfl | ⟨i, b, rfl⟩
  · rfl
  · rw [ensureV_snoc, if_pos h]

theorem rmV_ensureV (init : List Str) (b : Str) (v : V) :
    rmV (init ++ [b]) (ensureV init (rmV (init ++ [b]) v)) = ensureV init (rmV (init ++ [b]) v) := by
  funext q
  simp only [rmV]
  split
  · next h =>
    refine (ensureV_none init _ q (by simp only [rmV, if_pos h]) (fun hp => ?_)).symm
    have := (h.1.trans hp).length_le
    simp at this
    omega
  · rfl

theorem view_alloc {c : Cfg} {s : HC} (hc : Coherent c s) (n : Node) : view ({ s with heap := s.heap ++ [n] } : HC) = view s := by
  funext q
  simp only [view, res_alloc hc]
  cases hr : res s q with
  | none => rfl
  | some m =>
    have := hc.valid ⟨q, hr⟩
    simp [entOf, nd_alloc, Nat.ne_of_lt this]

/-- what the parent lookup / auto-creation of `__insert_node` at `ks` guarantees: only fresh nodes are touched, and
    they get no ids -/
structure EnsPost (c : Cfg) (s : HC) (ks : List Str) (s' : HC) (r : Except Err Nat) : Prop where
  coh : Coherent c s'
  frameX : FrameX s s' (fun m => s.heap.length ≤ m)
  idsub : ∀ e, e ∈ s'.idmap → e ∈ s.idmap
  ok : ∃ j, r = .ok j ∧ res s' ks = some j ∧ view s' = ensureV ks (view s)

/-- what `__insert_node` of the detached subtree at `i` to the path `ks` guarantees, whatever its outcome, when its
    recursion budget is at least the length of `ks` -/
structure InsPost (c : Cfg) (s : HC) (i : Nat) (ks : List Str) (s' : HC) (r : Except Err Unit) : Prop where
  coh : Coherent c s'
  frameX : FrameX s s' (fun m => InSub s i m ∨ s.heap.length ≤ m)
  ids : ∀ e, e ∈ s'.idmap → e ∈ s.idmap ∨ InSub s i e.2
  sub : ∀ q, resFrom s' i q = resFrom s i q
  ent : ∀ m, InSub s i m → entOf s' m = entOf s m
  nofuel : r ≠ .error .fuel
  -- a falsy id is neither evicted nor indexed, so the parent may hold the same one and `Node.check` in `add_child` fires:
  -- the one way `__insert_node` fails
  total : (s.nd i).oid ≠ some 0 → r = .ok ()
  ok : r = .ok () → res s' ks = some i ∧
    (∃ W, EvictV (view s) ks (s.nd i).oid W ∧ view s' = graftV ks (subview s i) (ensureV ks.dropLast W)) ∧
    ∀ x, res s ks = some x → (s'.nd x).parent = none ∧ (s'.nd x).isRoot = (s.nd x).isRoot

/-- what `__make_node` of the entry `x` at `ks` guarantees; the new node is the one allocated first -/
structure MkPost (c : Cfg) (s : HC) (ks : List Str) (x : Ent) (s' : HC) (r : Except Err Nat) : Prop where
  coh : Coherent c s'
  frameX : FrameX s s' (fun m => s.heap.length ≤ m)
  ids : ∀ e, e ∈ s'.idmap → e ∈ s.idmap ∨ e.2 = s.heap.length
  ent : entOf s' s.heap.length = x
  nofuel : r ≠ .error .fuel
  total : x.2 ≠ some 0 → r = .ok s.heap.length
  ok : ∀ i, r = .ok i → i = s.heap.length ∧ res s' ks = some i ∧ InsertV (view s) ks x (view s') ∧
    ∀ y, res s ks = some y → (s'.nd y).parent = none ∧ (s'.nd y).isRoot = (s.nd y).isRoot

theorem makeNodeWith_spec {c : Cfg} (g : CfgGood c) {s : HC} (hc : Coherent c s) (ins : Nat → Str → M Unit) (otype : OType)
    (path : Str) (oid : Option Oid) {ks : List Str} (hks : normalizePath c path false = canon c.sep ks)
    (hroot : ∀ o, oid = some o → o ≠ 0 → (s.nd 0).oid ≠ some o)
    (hP : ∀ t, Coherent c t → Sub c t s.heap.length →
      (∀ o, (t.nd s.heap.length).oid = some o → o ≠ 0 → (t.nd 0).oid ≠ some o) →
      Holds (ins s.heap.length (canon c.sep ks)) t (InsPost c t s.heap.length ks)) :
    Holds (makeNodeWith c ins otype path oid) s (MkPost c s ks (otype, oid)) := by
  unfold makeNodeWith
  dsimp only
  generalize hnn : ({ name := (split c path).2, type := otype, oid := oid, parent := none,
                      children := [], isRoot := false } : Node) = nnode
  have h1 : nnode.children = [] := by rw [← hnn]
  have hnda : ({ s with heap := s.heap ++ [nnode] } : HC).nd s.heap.length = nnode := by rw [nd_alloc, if_pos rfl]
  have h2 : (({ s with heap := s.heap ++ [nnode] } : HC).nd s.heap.length).oid = oid := by rw [hnda, ← hnn]
  have h3 : entOf ({ s with heap := s.heap ++ [nnode] } : HC) s.heap.length = (otype, oid) := by rw [entOf, hnda, ← hnn]
  refine Holds.bind_eq (alloc_run nnode s) ?_
  rw [hks]
  have hsuba : Sub c ({ s with heap := s.heap ++ [nnode] } : HC) s.heap.length := Sub.fresh hc nnode h1 (by rw [← hnn])
  have hold : ∀ m, m < s.heap.length → ({ s with heap := s.heap ++ [nnode] } : HC).nd m = s.nd m := fun m hm => by
    rw [nd_alloc, if_neg (Nat.ne_of_lt hm)]
  have hinsub : ∀ m, InSub ({ s with heap := s.heap ++ [nnode] } : HC) s.heap.length m → m = s.heap.length := by
    rintro m ⟨r, hr⟩
    cases r with
    | nil => exact (Option.some.inj hr).symm
    | cons k ks => simp [resFrom, hnda, h1, dget] at hr
  have hleaf : subview ({ s with heap := s.heap ++ [nnode] } : HC) s.heap.length = leafV (otype, oid) := by
    funext r
    cases r with
    | nil => simp [subview, resFrom, leafV, h3]
    | cons k ks => simp [subview, resFrom, leafV, hnda, h1, dget]
  -- the guarantee of the insertion, read from the state before the allocation
  have key : ∀ t (r : Except Err Unit) (r' : Except Err Nat),
      InsPost c ({ s with heap := s.heap ++ [nnode] } : HC) s.heap.length ks t r →
      (r' = .error .fuel → r = .error .fuel) → (r = .ok () ↔ r' = .ok s.heap.length) →
      (∀ i, r' = .ok i → i = s.heap.length) → MkPost c s ks (otype, oid) t r' := fun t r r' h hf hok hnew =>
    { coh := h.coh
      frameX := FrameX.trans ⟨by simp, fun m hm _ _ => hold m hm, fun m _ hr => Or.inl ((reach_alloc hc nnode m).1 hr),
          fun e he => Or.inl he⟩
        (h.frameX.mono (fun m hm => hm.elim (fun hi => Nat.le_of_eq (hinsub m hi).symm) (fun hl => by simp at hl; omega)))
      ids := fun e he => (h.ids e he).imp_right (hinsub e.2)
      ent := (h.ent _ ⟨[], rfl⟩).trans h3
      nofuel := fun hr' => h.nofuel (hf hr')
      total := fun hx => hok.1 (h.total (by rw [h2]; exact hx))
      ok := fun i hi => by
        have hr : r = .ok () := hok.2 (hnew i hi ▸ hi)
        obtain ⟨a1, ⟨W, hW, hv⟩, a3⟩ := h.ok hr
        rw [view_alloc hc, h2] at hW
        rw [hleaf] at hv
        refine ⟨hnew i hi, hnew i hi ▸ a1, ⟨W, hW, hv⟩, fun y hy => ?_⟩
        rw [← hold y (hc.valid ⟨_, hy⟩)]
        exact a3 y (by rw [res_alloc hc]; exact hy) }
  refine Holds.bind (hP _ (hc.alloc nnode) hsuba (fun o ho h0 => ?_)) (fun t u h => ?_) (fun t e h => ?_)
  · rw [hold 0 hc.root_valid]
    exact hroot o (h2.symm.trans ho) h0
  · exact Holds.bind_eq (checkFull_ok g h.coh ⟨_, (h.ok rfl).1⟩) (Holds.pure
      (key t _ _ h nofun ⟨fun _ => rfl, fun _ => rfl⟩ (fun i hi => (Except.ok.inj hi).symm)))
  · exact key t _ _ h (fun he => by cases he; rfl) ⟨nofun, nofun⟩ nofun

theorem ensurePar_spec {c : Cfg} (g : CfgGood c) {f : Nat}
    (hP : ∀ t i ks, KsOk c ks → ks ≠ [] → ks.length ≤ f → Coherent c t → Sub c t i →
      (∀ o, (t.nd i).oid = some o → o ≠ 0 → (t.nd 0).oid ≠ some o) →
      Holds (insertNode c f i (canon c.sep ks)) t (InsPost c t i ks))
    {s : HC} {ks : List Str} (hk : KsOk c ks) (hf : ks.length ≤ f) (hc : Coherent c s) :
    Holds (ensurePar c f (canon c.sep ks)) s (EnsPost c s ks) := by
  unfold ensurePar
  refine Holds.bind_eq (by rw [getNodeM_run, getNode_canon g s hk]) (Holds.bind_eq rfl ?_)
  by_cases hd : isDirE (view s ks) = true
  · obtain ⟨o, ho⟩ := isDirE_iff.1 hd
    obtain ⟨p, hp, he⟩ := view_eq_some ho
    have ht : (s.nd p).type = .dir := congrArg Prod.fst he
    simp only [hp, ht, reduceCtorEq, if_false]
    exact Holds.pure ⟨hc, FrameX.refl _ _, fun _ h => h, p, rfl, hp, (ensureV_of_dir ks _ hd).symm⟩
  · -- nothing there, or a file: a folder is made, after its missing ancestors
    obtain ⟨init, b, rfl⟩ := snoc_of_ne_nil (l := ks) (fun e => hd (e ▸ view_root hc))
    have hmk : Holds (makeNodeWith c (insertNode c f) .dir (canon c.sep (init ++ [b])) none) s (EnsPost c s (init ++ [b])) := by
      refine (makeNodeWith_spec g hc (insertNode c f) .dir (canon c.sep (init ++ [b])) none (normalizePath_canon g hk)
        nofun (fun t hct hsub hr => hP t _ _ hk (by simp) hf hct hsub hr)).mono (fun s' r h =>
        ⟨h.coh, h.frameX, fun e he => (h.ids e he).elim id (fun e2 => ?_),
          _, h.total nofun, ((h.ok _ (h.total nofun)).2.1), ?_⟩)
      · have := (h.coh.map_sound (o := e.1) (n := e.2) he).2.1
        rw [e2, show (s'.nd s.heap.length).oid = none from congrArg Prod.snd h.ent] at this
        cases this
      · obtain ⟨W, hW, hv⟩ := (h.ok _ (h.total nofun)).2.2.1
        rw [hv, hW.1 rfl, List.dropLast_concat, graft_leaf (by simp), rmV_ensureV, ensureV_snoc,
          if_neg (by simpa using hd)]
    cases hr : res s (init ++ [b]) with
    | none => exact hmk
    | some p =>
      cases h : (s.nd p).type with
      | file => simp only [h, if_true]; exact hmk
      | dir => rw [view_some hr, entOf, h] at hd; exact absurd rfl hd

end CS.HCache
