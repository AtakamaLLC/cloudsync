import Csverif.Proofs.HCache.Dict
import Csverif.Proofs.Path
/- C19 helper lemmas: resolution of key paths in the heap and the coherence invariant. -/
namespace CS.HCache
open CS.Path

def resFrom (s : HC) : Nat → List Str → Option Nat
  | n, [] => some n
  | n, k :: ks =>
    match dget (s.nd n).children k with
    | none => none
    | some ch => resFrom s ch ks

def res (s : HC) (ks : List Str) : Option Nat := resFrom s 0 ks

def Reach (s : HC) (n : Nat) : Prop := ∃ ks, res s ks = some n

def InSub (s : HC) (i m : Nat) : Prop := ∃ r, resFrom s i r = some m

def NameOk (c : Cfg) (k : Str) : Prop := Comps c [k] ∧ fold c k = k

/-- **The coherence invariant of the hierarchical cache.**
The part of the heap reachable from the root is a tree whose child links carry the matching parent
link and whose child keys equal the child names (and are normalised path components); the id map
contains exactly the reachable nodes that have a (truthy) id, each under its own id.
The last clause of `link` (a child's id is not its parent's) is the first assertion of `Node.check`
(hierarchical_cache.py:53); it is part of the invariant so that every `check` passes.  `NameOk` is in `link` because it
is what makes `full_path()` the canonical path of the keys (`Coherent.fullPath`).  `root_oid` asks for a truthy root id:
the code asserts only `root_oid is not None` (hierarchical_cache.py:111); a truthy one is an assumption of the whole
development (`coherent_init` takes `r ≠ 0`). -/
structure Coherent (c : Cfg) (s : HC) : Prop where
  root_valid  : 0 < s.heap.length
  root_isRoot : (s.nd 0).isRoot = true
  root_parent : (s.nd 0).parent = none
  root_type   : (s.nd 0).type = .dir
  root_name   : (s.nd 0).name = []
  root_oid    : ∃ r, (s.nd 0).oid = some r ∧ r ≠ 0
  link : ∀ {p k ch}, Reach s p → (k, ch) ∈ (s.nd p).children →
    ch < s.heap.length ∧ (s.nd ch).parent = some p ∧ (s.nd ch).name = k ∧ (s.nd ch).isRoot = false ∧
      NameOk c k ∧ ((s.nd ch).oid = none ∨ (s.nd ch).oid ≠ (s.nd p).oid)
  keys_nodup : ∀ {p}, Reach s p → (keys (s.nd p).children).Nodup
  file_leaf : ∀ {p}, Reach s p → (s.nd p).type = .file → (s.nd p).children = []
  map_keys : (keys s.idmap).Nodup
  map_sound : ∀ {o n}, (o, n) ∈ s.idmap → Reach s n ∧ (s.nd n).oid = some o ∧ o ≠ 0
  map_complete : ∀ {n o}, Reach s n → (s.nd n).oid = some o → o ≠ 0 → (o, n) ∈ s.idmap

theorem snoc_induction {α : Type} {P : List α → Prop} (hnil : P [])
    (hsnoc : ∀ l a, P l → P (l ++ [a])) : ∀ l, P l := by
  intro l
  rw [← l.reverse_reverse]
  induction l.reverse with
  | nil => exact hnil
  | cons a l ih => rw [List.reverse_cons]; exact hsnoc _ _ ih

theorem snoc_of_ne_nil {α : Type} {l : List α} (h : l ≠ []) : ∃ init a, l = init ++ [a] := by
  induction l using snoc_induction with
  | hnil => exact absurd rfl h
  | hsnoc init a _ => exact ⟨init, a, rfl⟩

theorem snoc_cases {α : Type} (l : List α) : l = [] ∨ ∃ init a, l = init ++ [a] :=
  concat_cases (P := fun l => l = [] ∨ ∃ init a, l = init ++ [a]) (Or.inl rfl) (fun init a => Or.inr ⟨init, a, rfl⟩) l

theorem not_snoc_prefix {α : Type} (l : List α) (a : α) : ¬ (l ++ [a]) <+: l := fun h => by
  have := h.length_le
  simp at this
  omega

theorem resFrom_cons {s : HC} {n ch : Nat} {k : Str} (h : dget (s.nd n).children k = some ch) (q : List Str) :
    resFrom s n (k :: q) = resFrom s ch q := by
  simp only [resFrom, h]

theorem resFrom_append (s : HC) (n : Nat) (a b : List Str) :
    resFrom s n (a ++ b) = (resFrom s n a).bind (fun m => resFrom s m b) := by
  induction a generalizing n with
  | nil => rfl
  | cons k ks ih =>
    simp only [List.cons_append, resFrom]
    cases dget (s.nd n).children k with
    | none => rfl
    | some ch => exact ih ch

theorem resFrom_snoc (s : HC) (n : Nat) (q : List Str) (k : Str) :
    resFrom s n (q ++ [k]) = (resFrom s n q).bind (fun p => dget (s.nd p).children k) := by
  rw [resFrom_append]
  congr 1
  funext m
  simp only [resFrom]
  cases dget (s.nd m).children k <;> rfl

theorem res_snoc (s : HC) (q : List Str) (k : Str) :
    res s (q ++ [k]) = (res s q).bind (fun p => dget (s.nd p).children k) := resFrom_snoc s 0 q k

@[simp] theorem res_nil (s : HC) : res s [] = some 0 := rfl

theorem Reach.root (s : HC) : Reach s 0 := ⟨[], rfl⟩

theorem Reach.child_dget {s : HC} {p ch : Nat} {k : Str} (hp : Reach s p) (h : dget (s.nd p).children k = some ch) :
    Reach s ch := by
  obtain ⟨q, hq⟩ := hp
  exact ⟨q ++ [k], by rw [res_snoc, hq]; exact h⟩

theorem Coherent.child {c : Cfg} {s : HC} (hc : Coherent c s) {p ch : Nat} {k : Str} (hp : Reach s p)
    (h : (k, ch) ∈ (s.nd p).children) : Reach s ch :=
  hp.child_dget (dget_of_mem (hc.keys_nodup hp) h)

theorem res_snoc_some {s : HC} {q : List Str} {k : Str} {n : Nat} (h : res s (q ++ [k]) = some n) :
    ∃ p, res s q = some p ∧ dget (s.nd p).children k = some n :=
  Option.bind_eq_some_iff.1 (res_snoc s q k ▸ h)

/-- the clauses of `Coherent.link` (and of `Sub.link`) for the child entry `(k, ch)` of `p`, by name -/
structure Linked (c : Cfg) (s : HC) (p : Nat) (k : Str) (ch : Nat) : Prop where
  valid : ch < s.heap.length
  parent : (s.nd ch).parent = some p
  name : (s.nd ch).name = k
  notRoot : (s.nd ch).isRoot = false
  nameOk : NameOk c k
  oid : (s.nd ch).oid = none ∨ (s.nd ch).oid ≠ (s.nd p).oid

theorem Coherent.linked {c : Cfg} {s : HC} (hc : Coherent c s) {p ch : Nat} {k : Str} (hp : Reach s p)
    (hm : (k, ch) ∈ (s.nd p).children) : Linked c s p k ch :=
  have h := hc.link hp hm
  ⟨h.1, h.2.1, h.2.2.1, h.2.2.2.1, h.2.2.2.2.1, h.2.2.2.2.2⟩

theorem Coherent.link_snoc {c : Cfg} {s : HC} (hc : Coherent c s) {q : List Str} {k : Str} {n : Nat}
    (h : res s (q ++ [k]) = some n) : ∃ p, res s q = some p ∧ dget (s.nd p).children k = some n ∧ Linked c s p k n :=
  have ⟨p, hp, hk⟩ := res_snoc_some h
  ⟨p, hp, hk, hc.linked ⟨q, hp⟩ (dget_mem hk)⟩

theorem Coherent.valid {c : Cfg} {s : HC} (hc : Coherent c s) {n : Nat} (h : Reach s n) : n < s.heap.length := by
  obtain ⟨q, hq⟩ := h
  induction q using snoc_induction with
  | hnil => cases hq; exact hc.root_valid
  | hsnoc q k _ => exact (hc.link_snoc hq).elim fun _ h => h.2.2.valid

theorem Coherent.res_root {c : Cfg} {s : HC} (hc : Coherent c s) {q : List Str} (h : res s q = some 0) : q = [] := by
  induction q using snoc_induction with
  | hnil => rfl
  | hsnoc q k _ =>
    obtain ⟨_, _, _, l⟩ := hc.link_snoc h
    cases hc.root_isRoot.symm.trans l.notRoot

theorem Coherent.ne_zero {c : Cfg} {s : HC} (hc : Coherent c s) {q : List Str} {n : Nat} (h : res s q = some n)
    (hne : q ≠ []) : n ≠ 0 :=
  fun e => hne (hc.res_root (e ▸ h))

theorem Coherent.res_zero_iff {c : Cfg} {s : HC} (hc : Coherent c s) {q : List Str} {n : Nat} (h : res s q = some n) :
    n = 0 ↔ q = [] :=
  ⟨fun e => hc.res_root (e ▸ h), fun e => by rw [e] at h; exact (Option.some.inj h).symm⟩

theorem Coherent.res_inj {c : Cfg} {s : HC} (hc : Coherent c s) :
    ∀ {q1 q2 : List Str} {n : Nat}, res s q1 = some n → res s q2 = some n → q1 = q2 := by
  intro q1
  induction q1 using snoc_induction with
  | hnil =>
    intro q2 n h1 h2
    cases h1
    exact (hc.res_root h2).symm
  | hsnoc i1 k1 ih =>
    intro q2 n h1 h2
    obtain ⟨p1, hp1, _, l1⟩ := hc.link_snoc h1
    induction q2 using snoc_induction with
    | hnil =>
      cases h2
      cases hc.root_isRoot.symm.trans l1.notRoot
    | hsnoc i2 k2 _ =>
      obtain ⟨p2, hp2, _, l2⟩ := hc.link_snoc h2
      cases l1.parent.symm.trans l2.parent
      rw [ih hp1 hp2, ← l1.name, l2.name]

theorem Coherent.res_out {c : Cfg} {s s' : HC} (hc : Coherent c s) {init : List Str} {a : Str} {p : Nat}
    (hp : res s init = some p) (hother : ∀ m, m ≠ p → (s'.nd m).children = (s.nd m).children)
    (hkey : ∀ k, k ≠ a → dget (s'.nd p).children k = dget (s.nd p).children k) :
    ∀ (q : List Str), ¬ (init ++ [a]) <+: q → res s' q = res s q := by
  intro q
  induction q using snoc_induction with
  | hnil => intro _; rfl
  | hsnoc i k ih =>
    intro hq
    rw [res_snoc, res_snoc, ih (fun h => hq (h.trans (List.prefix_append _ _)))]
    cases hm : res s i with
    | none => rfl
    | some m =>
      by_cases hmp : m = p
      · subst hmp
        cases hc.res_inj hm hp
        exact hkey k (fun e => hq (e ▸ List.prefix_refl _))
      · exact congrArg (dget · k) (hother m hmp)

theorem res_prefix {s : HC} {a b : List Str} {n : Nat} (h : res s (a ++ b) = some n) :
    ∃ m, res s a = some m ∧ resFrom s m b = some n :=
  Option.bind_eq_some_iff.1 (resFrom_append s 0 a b ▸ h)

theorem res_of_resFrom {s : HC} {a b : List Str} {m n : Nat} (ha : res s a = some m) (hb : resFrom s m b = some n) :
    res s (a ++ b) = some n :=
  (resFrom_append s 0 a b).trans (Option.bind_eq_some_iff.2 ⟨m, ha, hb⟩)

/-- pigeonhole: the nodes met along the path are pairwise different -/
theorem depth_lt_gen (s : HC) (n : Nat) (hinj : ∀ q1 q2 m, resFrom s n q1 = some m → resFrom s n q2 = some m → q1 = q2)
    (hvalid : ∀ q m, resFrom s n q = some m → m < s.heap.length) {q : List Str} {m : Nat} (h : resFrom s n q = some m) :
    q.length < s.heap.length := by
  have hpre j : ∃ x, resFrom s n (q.take j) = some x := by
    rw [← List.take_append_drop j q, resFrom_append] at h
    exact (Option.bind_eq_some_iff.1 h).imp fun _ hx => hx.1
  let node j := (resFrom s n (q.take j)).getD 0
  have hnd : ((List.range (q.length + 1)).map node).Nodup :=
    List.pairwise_map.2 <| List.nodup_range.imp_of_mem fun {i j} hi hj _ e => by
      obtain ⟨x, hx⟩ := hpre i
      obtain ⟨y, hy⟩ := hpre j
      simp only [node, hx, hy, Option.getD_some] at e
      have := congrArg List.length (hinj _ _ _ hx (e ▸ hy))
      simp only [List.length_take, List.mem_range] at this hi hj
      omega
  have hsub : (List.range (q.length + 1)).map node ⊆ List.range s.heap.length := fun x hx => by
    obtain ⟨j, _, rfl⟩ := List.mem_map.1 hx
    obtain ⟨y, hy⟩ := hpre j
    simpa [node, hy] using hvalid _ _ hy
  simpa [Nat.succ_le_iff] using hnd.length_le_of_subset hsub

theorem Coherent.depth_lt {c : Cfg} {s : HC} (hc : Coherent c s) {q : List Str} {n : Nat} (h : res s q = some n) :
    q.length < s.heap.length :=
  depth_lt_gen s 0 (fun _ _ _ => hc.res_inj) (fun q _ hm => hc.valid ⟨q, hm⟩) h

theorem Coherent.dget_idmap {c : Cfg} {s : HC} (hc : Coherent c s) {o n : Nat} :
    dget s.idmap o = some n ↔ (Reach s n ∧ (s.nd n).oid = some o ∧ o ≠ 0) := by
  rw [dget_iff_mem hc.map_keys]
  exact ⟨hc.map_sound, fun ⟨h1, h2, h3⟩ => hc.map_complete h1 h2 h3⟩

theorem Coherent.oid_unique {c : Cfg} {s : HC} (hc : Coherent c s) {n m o : Nat} (hn : Reach s n) (hm : Reach s m)
    (h1 : (s.nd n).oid = some o) (h2 : (s.nd m).oid = some o) (ho : o ≠ 0) : n = m := by
  have a := hc.dget_idmap.2 ⟨hn, h1, ho⟩
  have b := hc.dget_idmap.2 ⟨hm, h2, ho⟩
  exact Option.some.inj (a.symm.trans b)

theorem coherent_init (c : Cfg) (r : Oid) (hr : r ≠ 0) : Coherent c (init r) := by
  have hreach : ∀ n, Reach (init r) n → n = 0 := fun n ⟨q, hq⟩ => by
    cases q with
    | nil => exact (Option.some.inj hq).symm
    | cons k ks => cases hq
  refine
    { root_valid := Nat.one_pos, root_isRoot := rfl, root_parent := rfl, root_type := rfl, root_name := rfl,
      root_oid := ⟨r, rfl, hr⟩, link := ?link, keys_nodup := ?keys_nodup, file_leaf := ?file_leaf, map_keys := ?map_keys,
      map_sound := ?map_sound, map_complete := ?map_complete }
  case link =>
    intro p k ch hp hm
    rw [hreach p hp] at hm
    cases hm
  case keys_nodup =>
    intro p hp
    rw [hreach p hp]
    exact List.nodup_nil
  case file_leaf =>
    intro p hp _
    rw [hreach p hp]
    rfl
  case map_keys =>
    exact List.pairwise_singleton _ _
  case map_sound =>
    intro o n h
    cases List.mem_singleton.1 h
    exact ⟨Reach.root _, rfl, hr⟩
  case map_complete =>
    intro n o hn ho _
    rw [hreach n hn] at ho ⊢
    cases ho
    exact List.mem_singleton.2 rfl

end CS.HCache
