import Csverif.Proofs.HCache.DictL
import Csverif.Proofs.HCache.OpsMain
/- C19 helper lemmas: the cache refines the dictionary specification, operation by operation. -/
namespace CS.HCache
open CS.Path CS.HDict

def Abs (s : HC) (d : D) : Prop := dlook d = view s

/- `NoFalsyV` is a hypothesis of the refinement because the specification's `holderD` finds an entry holding the id `0`
   while the cache's id map never files one. -/

theorem NoFalsyV.rm {v : V} (h : NoFalsyV v) (k : Key) : NoFalsyV (rmV k v) :=
  fun q t e => (HolderV.of_rm (k := k) ⟨t, e⟩).elim (h q)

theorem NoFalsyV.put {v : V} (h : NoFalsyV v) (k : Key) {x : HDict.Ent} (hx : x.2 ≠ some 0) : NoFalsyV (putV k x v) := by
  intro q t; simp only [putV]; split
  · intro e
    have := Option.some.inj e
    exact hx (by rw [this])
  · exact h q t

theorem NoFalsyV.ensure {v : V} (h : NoFalsyV v) (ks : Key) : NoFalsyV (ensureV ks v) :=
  fun q t e => (HolderV.of_ensureR _ _ ⟨t, e⟩).elim (h q)

theorem NoFalsyV.graft {v t : V} (h : NoFalsyV v) (ht : NoFalsyV t) (k : Key) : NoFalsyV (graftV k t v) := by
  intro q x; simp only [graftV]; split
  · exact ht _ x
  · exact h q x

theorem NoFalsyV.leaf {x : HDict.Ent} (hx : x.2 ≠ some 0) : NoFalsyV (leafV x) := by
  intro q t; simp only [leafV]; split
  · intro e
    have := Option.some.inj e
    exact hx (by rw [this])
  · simp

theorem EvictV.noFalsy {v W : V} {ks : Key} {oid : Option Oid} (hW : EvictV v ks oid W) (h : NoFalsyV v)
    (hex : ∀ o, oid = some o → o ≠ 0 → (∃ kx, HolderV (rmV ks v) o kx) ∨ (∀ k, ¬ HolderV (rmV ks v) o k)) :
    NoFalsyV W :=
  fun q t e => (hW.of_holder ⟨t, e⟩).elim (h q)

def ResAgree (r : Except Err Unit) : SRes → Prop
  | .ok => r = .ok ()
  | .valueError => r = .error .value
  | .assertionError => r = .error .assertion

theorem refine_make {c : Cfg} (g : CfgGood c) {s : HC} {d : D} (hc : Coherent c s) (habs : Abs s d)
    (otype : OType) (p : Str) (o : Option Oid) (hg : InsGuard c s p o) (hoid : o ≠ some 0) :
    Holds (makeNode c otype p o >>= fun _ => pure ()) s (fun s' r =>
      r = .ok () ∧ Abs s' (insertD (pcomps c p) (otype, o) d)) :=
  (makeNode_drop g hc otype p o hg).mono (fun _ _ h =>
    ⟨(h.2.2 hoid).1, by rw [pcomps_eq g]; exact dlook_insertD hg.1 (h.2.2 hoid).2 habs⟩)

theorem refine_delete {c : Cfg} (g : CfgGood c) {s : HC} {d : D} (hc : Coherent c s) (habs : Abs s d)
    (hnf : NoFalsyV (view s)) (oid : Option Oid) (path : Option Str) :
    ResAgree (delete c oid path s).2 (specStep c d (.delete oid path)).2 ∧
      Abs (delete c oid path s).1 (specStep c d (.delete oid path)).1 := by
  cases oid with
  | some o =>
    obtain ⟨r, hr, hrx⟩ := hc.getNode_oid o path
    simp only [specStep]
    cases hh : holderD d o with
    | some kx =>
      simp only
      obtain ⟨x, hx, hox⟩ := holderV_view.1 (habs ▸ holderD_some hh)
      have h0 : o ≠ 0 := fun e => hnf kx (s.nd x).type (by rw [view_some hx, entOf, hox, e])
      obtain ⟨a1, a2⟩ := delete_view g hc (by rw [hr, (hrx x).2 ⟨⟨_, hx⟩, hox, h0⟩]) hx (fun _ => hnf)
      exact ⟨a1, by unfold Abs; rw [dlook_rmD, habs, a2]⟩
    | none =>
      simp only
      have hmiss := (delete_spec g s (some o) path hc).miss (fun x hx => by
        obtain ⟨⟨kx, hkx⟩, hox, _⟩ := (hrx x).1 (Except.ok.inj (hr.symm.trans hx))
        exact holderD_none hh kx (habs ▸ holderV_view.2 ⟨x, hkx, hox⟩))
      exact ⟨delete_total g hc (some o) path (Or.inl rfl), by rw [hmiss]; exact habs⟩
  | none =>
    cases path with
    | none =>
      have : delete c none none s = (s, .error .value) := by simp [delete, deleteRec, bind_run, getNode]
      rw [this]
      exact ⟨rfl, habs⟩
    | some p =>
      obtain ⟨a1, a2⟩ := delete_path_view g hc p (fun _ => hnf)
      refine ⟨a1, ?_⟩
      simp only [specStep, pcomps_eq g]
      unfold Abs
      rw [a2]
      split
      · rw [dlook_rmD, habs]
      · next h =>
        rw [habs]
        cases hx : res s (tcomps c p) with
        | none => exact (funext (rmV_of_none hx)).symm
        | some x => rw [habs, view_some hx] at h; exact absurd rfl h

theorem refine_rename {c : Cfg} (g : CfgGood c) {s : HC} {d : D} (hc : Coherent c s) (habs : Abs s d)
    (hnf : NoFalsyV (view s)) (old new : Str) (hg : tcomps c new ≠ []) :
    ResAgree (rename c old new s).2 (specStep c d (.rename old new)).2 ∧
      Abs (rename c old new s).1 (specStep c d (.rename old new)).1 := by
  obtain ⟨_, _, h⟩ := rename_spec g hc old new hg
  simp only [specStep, pcomps_eq g, show dlook d = view s from habs]
  cases hn : res s (tcomps c old) with
  | none =>
    simp only [hn] at h
    rw [view_none hn]
    exact ⟨h.1, by unfold Abs; rw [dlook_rmD, habs, h.2]⟩
  | some n =>
    simp only [hn] at h
    rw [view_some hn]
    by_cases hn0 : n = 0
    · rw [if_pos hn0] at h
      rw [if_pos ((hc.res_zero_iff hn).1 hn0), h.1, h.2]
      exact ⟨rfl, habs⟩
    · rw [if_neg hn0] at h
      rw [if_neg (fun e => hn0 ((hc.res_zero_iff hn).2 e))]
      obtain ⟨a1, a2⟩ := h.2 hnf
      refine ⟨a1, ?_⟩
      unfold Abs
      rw [a2, dlook_graftD hg, dlook_ensureD, dlook_rmD, dlook_rmD, habs]
      congr 1
      funext r
      rw [dlook_subD, habs]

theorem refine_setOid {c : Cfg} (g : CfgGood c) {s : HC} {d : D} (hc : Coherent c s) (habs : Abs s d)
    (p : Str) (oid : Option Oid) (t : OType) (hg : InsGuard c s p oid) :
    ResAgree (setOid c p oid t s).2 (specStep c d (.setOid p oid t)).2 ∧
      Abs (setOid c p oid t s).1 (specStep c d (.setOid p oid t)).1 := by
  obtain ⟨_, _, h⟩ := setOid_spec g hc p oid t hg
  simp only [specStep]
  by_cases hcond : (!truthy oid || p.isEmpty) = true
  · rw [if_pos hcond] at h ⊢
    rw [h.1, h.2]
    exact ⟨rfl, habs⟩
  · rw [if_neg hcond] at h ⊢
    cases oid with
    | none => exact absurd (by simp [truthy]) hcond
    | some o =>
      have hv := h.2 o rfl
      simp only [pcomps_eq g, show dlook d = view s from habs]
      cases hvw : view s (tcomps c p) with
      | none => rw [hvw] at hv; exact ⟨h.1, dlook_insertD hg.1 hv habs⟩
      | some e => rw [hvw] at hv; exact ⟨h.1, dlook_setOidD hg.1 hv habs⟩

theorem refine_update {c : Cfg} (g : CfgGood c) {s : HC} {d : D} (hc : Coherent c s) (habs : Abs s d)
    (p : Str) (t : OType) (oid : Option Oid) (hg : InsGuard c s p oid) (hoid : oid ≠ some 0) :
    ResAgree (update c p t oid s).2 (specStep c d (.update p t oid)).2 ∧
      Abs (update c p t oid s).1 (specStep c d (.update p t oid)).1 := by
  obtain ⟨hok, hv⟩ := (update_spec g hc p t oid hg).2.2 hoid
  simp only [specStep, pcomps_eq g, show dlook d = view s from habs]
  cases hvw : view s (tcomps c p) with
  | none => rw [hvw] at hv; exact ⟨hok, dlook_insertD hg.1 hv habs⟩
  | some e =>
    obtain ⟨t0, i0⟩ := e
    rw [hvw] at hv
    simp only at hv ⊢
    split
    · next ht => rw [if_pos ht] at hv; exact ⟨hok, dlook_insertD hg.1 hv (by rw [dlook_rmD, habs])⟩
    · next ht =>
      rw [if_neg ht] at hv
      split
      · next hto =>
        rw [if_pos hto] at hv
        obtain ⟨o, rfl, _⟩ := truthy_iff.1 hto
        exact ⟨hok, dlook_setOidD hg.1 (hv o rfl) habs⟩
      · next hto => rw [if_neg hto] at hv; rw [hv]; exact ⟨hok, habs⟩

end CS.HCache
