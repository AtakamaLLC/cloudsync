import Csverif.Proofs.HCache.Walk
/- C19 helper lemmas: `_delete` (detach a child with its subtree and pop the subtree's ids). -/
namespace CS.HCache
open CS.Path

/-- state after `_delete` of the child `n` (key `a`) of `p`; the `.error` arm of the `match` is a dummy, `deleteNode_eq`
    asks that `full_path()` succeeds -/
def detachSt (c : Cfg) (s : HC) (p n : Nat) (a : Str) : HC :=
  let s1 := s.setNd p { s.nd p with children := derase (s.nd p).children a }
  let w := walkNodes c s1 (s1.heap.length + 1) n (match fullPath c s1 n with | .ok x => x | .error _ => none)
  let s2 : HC := { s1 with idmap := eraseAll s1.idmap (oidsOf s1 w) }
  s2.setNd n { s2.nd n with parent := none }

theorem deleteNode_eq (c : Cfg) (s : HC) (n p : Nat) (a : Str) (h1 : (s.nd n).isRoot = false) (h2 : (s.nd n).parent = some p)
    (h3 : (s.nd n).name = a) (h4 : dget (s.nd p).children a = some n)
    (h5 : ∃ x, fullPath c (s.setNd p { s.nd p with children := derase (s.nd p).children a }) n = .ok x) :
    deleteNode c (some n) s = (detachSt c s p n a, .ok (some n)) := by
  obtain ⟨x, hx⟩ := h5
  simp only [deleteNode, bind_run, getS_run, h1, h2, h3, h4, modS_run, walkM_run, Bool.false_eq_true, if_false,
    walk, hx, popIds_run, ne_eq, not_true_eq_false, pure_run, detachSt, walkNodes]

theorem deleteNode_none (c : Cfg) (s : HC) : deleteNode c none s = (s, .ok none) := rfl

theorem deleteNode_root (c : Cfg) (s : HC) (n : Nat) (h : (s.nd n).isRoot = true) :
    deleteNode c (some n) s = (s, .ok none) := by
  simp [deleteNode, bind_run, h]

theorem resFrom_congr {s s' : HC} : ∀ (q : List Str) (m : Nat),
    (∀ r x, resFrom s m r = some x → (s'.nd x).children = (s.nd x).children) → resFrom s' m q = resFrom s m q := by
  intro q
  induction q with
  | nil => intro m _; rfl
  | cons k r ih =>
    intro m h
    simp only [resFrom, h [] m rfl]
    cases hd : dget (s.nd m).children k with
    | none => rfl
    | some ch => exact ih ch (fun r x hx => h (k :: r) x ((resFrom_cons hd r).trans hx))

/-- the situation in which `_delete` is called: `n` is the child with key `a` of the node `p` at `init` -/
structure DelCtx (c : Cfg) (s : HC) (init : List Str) (a : Str) (p n : Nat) : Prop where
  g  : CfgGood c
  hc : Coherent c s
  hp : res s init = some p
  hk : dget (s.nd p).children a = some n

namespace DelCtx
variable {c : Cfg} {s : HC} {init : List Str} {a : Str} {p n : Nat}

theorem hn (d : DelCtx c s init a p n) : res s (init ++ [a]) = some n := by
  rw [res_snoc, d.hp]; exact d.hk

theorem lnk (d : DelCtx c s init a p n) : Linked c s p a n := d.hc.linked ⟨init, d.hp⟩ (dget_mem d.hk)

theorem pne (d : DelCtx c s init a p n) : p ≠ n := d.hc.child_ne d.hp d.hk

theorem plt (d : DelCtx c s init a p n) : p < s.heap.length := d.hc.valid ⟨_, d.hp⟩

theorem nlt (d : DelCtx c s init a p n) : n < s.heap.length := d.lnk.valid

theorem p_not_below (d : DelCtx c s init a p n) : ∀ r, resFrom s n r ≠ some p := by
  intro r h
  have h2 := res_of_resFrom d.hn h
  have := d.hc.res_inj d.hp h2
  have := congrArg List.length this
  simp at this

def s1 (s : HC) (p : Nat) (a : Str) : HC := s.setNd p { s.nd p with children := derase (s.nd p).children a }

theorem nd_s1 (d : DelCtx c s init a p n) (m : Nat) :
    (s1 s p a).nd m = if m = p then { s.nd p with children := derase (s.nd p).children a } else s.nd m :=
  nd_setNd_of_lt s d.plt _ m

theorem resFrom_s1 (d : DelCtx c s init a p n) (q : List Str) : resFrom (s1 s p a) n q = resFrom s n q :=
  resFrom_congr q n (fun r x hx => by
    rw [d.nd_s1]
    have : x ≠ p := fun e => d.p_not_below r (e ▸ hx)
    simp [this])

theorem subOk (d : DelCtx c s init a p n) : SubOk s n := fun _ m h =>
  have hr : Reach s m := ⟨_, res_of_resFrom d.hn h⟩
  ⟨d.hc.keys_nodup hr, d.hc.file_leaf hr⟩

theorem mem_popped (d : DelCtx c s init a p n) (o : Oid) :
    o ∈ oidsOf (s1 s p a) (walkNodes c (s1 s p a) ((s1 s p a).heap.length + 1) n
        (match fullPath c (s1 s p a) n with | .ok x => x | .error _ => none)) ↔
      ∃ r m, resFrom s n r = some m ∧ (s.nd m).oid = some o ∧ o ≠ 0 := by
  have hsub : SubOk (s1 s p a) n := fun q m h => by
    rw [d.resFrom_s1] at h
    have hm : m ≠ p := fun e => d.p_not_below q (e ▸ h)
    rw [d.nd_s1]; simp only [hm, if_false]
    exact d.subOk q m h
  have hw := mem_walkNodes (c := c) hsub (f := (s1 s p a).heap.length + 1) (fun q m hm => by
    rw [d.resFrom_s1] at hm
    have := d.hc.depth_lt (res_of_resFrom d.hn hm)
    simp only [s1, setNd_len, List.length_append, List.length_singleton] at this ⊢
    omega)
  have hoid : ∀ r m, resFrom s n r = some m → ((s1 s p a).nd m).oid = (s.nd m).oid := fun r m hr => by
    rw [d.nd_s1, if_neg (fun e : m = p => d.p_not_below r (e ▸ hr))]
  rw [mem_oidsOf]
  constructor
  · rintro ⟨m, hm, ho, h0⟩
    obtain ⟨r, hr⟩ := (hw _ m).1 hm
    rw [d.resFrom_s1] at hr
    exact ⟨r, m, hr, (hoid r m hr).symm.trans ho, h0⟩
  · rintro ⟨r, m, hr, ho, h0⟩
    exact ⟨m, (hw _ m).2 ⟨r, (d.resFrom_s1 r).trans hr⟩, (hoid r m hr).trans ho, h0⟩

theorem detach_len : (detachSt c s p n a).heap.length = s.heap.length := by
  simp [detachSt]

theorem nd_with_idmap (s : HC) (dd : List (Oid × Nat)) (m : Nat) : ({ s with idmap := dd } : HC).nd m = s.nd m := rfl

theorem nd_detach (d : DelCtx c s init a p n) (m : Nat) :
    (detachSt c s p n a).nd m =
      if m = n then { s.nd n with parent := none }
      else if m = p then { s.nd p with children := derase (s.nd p).children a }
      else s.nd m := by
  unfold detachSt
  rw [nd_setNd_of_lt _ (by simpa using d.nlt)]
  by_cases h : m = n
  · rw [if_pos h, if_pos h, nd_with_idmap, nd_setNd_ne _ d.pne.symm]
  · rw [if_neg h, if_neg h, nd_with_idmap, nd_setNd_of_lt _ d.plt]

theorem fields_detach (d : DelCtx c s init a p n) (m : Nat) :
    ((detachSt c s p n a).nd m).type = (s.nd m).type ∧ ((detachSt c s p n a).nd m).oid = (s.nd m).oid ∧
      ((detachSt c s p n a).nd m).name = (s.nd m).name ∧ ((detachSt c s p n a).nd m).isRoot = (s.nd m).isRoot := by
  rw [d.nd_detach]
  split
  · next h => rw [h]; exact ⟨rfl, rfl, rfl, rfl⟩
  · split
    · next h => rw [h]; exact ⟨rfl, rfl, rfl, rfl⟩
    · exact ⟨rfl, rfl, rfl, rfl⟩

theorem parent_detach (d : DelCtx c s init a p n) (m : Nat) :
    ((detachSt c s p n a).nd m).parent = if m = n then none else (s.nd m).parent := by
  rw [d.nd_detach]
  split
  · rfl
  · split
    · next h => rw [h]
    · rfl

theorem mem_detach_idmap (d : DelCtx c s init a p n) {e : Oid × Nat} :
    e ∈ (detachSt c s p n a).idmap ↔
      e ∈ s.idmap ∧ ¬ ∃ r m, resFrom s n r = some m ∧ (s.nd m).oid = some e.1 ∧ e.1 ≠ 0 := by
  have := d.mem_popped e.1
  simp only [s1] at this
  simp only [detachSt, setNd_idmap]
  exact (mem_eraseAll_iff d.hc.map_keys).trans (and_congr_right fun _ => not_congr this)

theorem children_detach (d : DelCtx c s init a p n) (m : Nat) :
    ((detachSt c s p n a).nd m).children = if m = p then derase (s.nd p).children a else (s.nd m).children := by
  rw [d.nd_detach]
  by_cases h1 : m = n
  · subst h1; simp [Ne.symm d.pne]
  · by_cases h2 : m = p
    · subst h2; simp [h1]
    · simp [h1, h2]

theorem resFrom_detach (d : DelCtx c s init a p n) (q : List Str) : resFrom (detachSt c s p n a) n q = resFrom s n q :=
  resFrom_congr q n (fun r x hx => by
    rw [d.children_detach, if_neg (fun e : x = p => d.p_not_below r (e ▸ hx))])

theorem res_detach_out (d : DelCtx c s init a p n) : ∀ (q : List Str), ¬ (init ++ [a]) <+: q →
    res (detachSt c s p n a) q = res s q :=
  d.hc.res_out d.hp (fun m hm => by rw [d.children_detach, if_neg hm])
    (fun k hk => by rw [d.children_detach, if_pos rfl]; exact dget_derase_ne hk)

theorem res_detach_in (d : DelCtx c s init a p n) (q : List Str) (h : (init ++ [a]) <+: q) :
    res (detachSt c s p n a) q = none := by
  obtain ⟨r, rfl⟩ := h
  have hinit : res (detachSt c s p n a) init = some p := by
    rw [d.res_detach_out init (not_snoc_prefix init a), d.hp]
  have : res (detachSt c s p n a) (init ++ [a]) = none := by
    rw [res_snoc, hinit]
    simp only [Option.bind_some, d.children_detach, if_true]
    exact dget_derase_self (d.hc.keys_nodup ⟨_, d.hp⟩) a
  unfold res at this ⊢
  rw [resFrom_append, this]; rfl

theorem reach_detach (d : DelCtx c s init a p n) {m : Nat} :
    Reach (detachSt c s p n a) m ↔ ∃ q, ¬ (init ++ [a]) <+: q ∧ res s q = some m := by
  constructor
  · rintro ⟨q, hq⟩
    by_cases h : (init ++ [a]) <+: q
    · rw [d.res_detach_in q h] at hq; simp at hq
    · exact ⟨q, h, by rw [← d.res_detach_out q h]; exact hq⟩
  · rintro ⟨q, h, hq⟩
    exact ⟨q, by rw [d.res_detach_out q h]; exact hq⟩

theorem reach_detach_old (d : DelCtx c s init a p n) {m : Nat} (h : Reach (detachSt c s p n a) m) : Reach s m := by
  obtain ⟨q, _, hq⟩ := d.reach_detach.1 h
  exact ⟨q, hq⟩

theorem not_below_of_reach (d : DelCtx c s init a p n) {m : Nat} (h : Reach (detachSt c s p n a) m) :
    ∀ r, resFrom s n r ≠ some m := by
  intro r hr
  obtain ⟨q, hq, hm⟩ := d.reach_detach.1 h
  have := d.hc.res_inj hm (res_of_resFrom d.hn hr)
  exact hq (this ▸ List.prefix_append _ _)

theorem coherent_detach (d : DelCtx c s init a p n) : Coherent c (detachSt c s p n a) := by
  have hc := d.hc
  have hn0 : n ≠ 0 := hc.ne_zero d.hn (by simp)
  have hf := d.fields_detach
  have oid_all := fun m => (hf m).2.1
  have type_all := fun m => (hf m).1
  have par : ∀ m, m ≠ n → ((detachSt c s p n a).nd m).parent = (s.nd m).parent := fun m hm => by
    rw [d.parent_detach, if_neg hm]
  have ch_sub : ∀ m e, e ∈ ((detachSt c s p n a).nd m).children → e ∈ (s.nd m).children := by
    intro m e he
    rw [d.children_detach] at he
    split at he
    · next h => subst h; exact mem_derase he
    · exact he
  refine
    { root_valid := by rw [detach_len]; exact hc.root_valid, root_isRoot := ?root_isRoot, root_parent := ?root_parent,
      root_type := ?root_type, root_name := ?root_name, root_oid := ?root_oid, link := ?link, keys_nodup := ?keys_nodup,
      file_leaf := ?file_leaf, map_keys := ?map_keys, map_sound := ?map_sound, map_complete := ?map_complete }
  case map_keys =>
    simp only [detachSt, setNd_idmap]
    exact nodup_eraseAll hc.map_keys _
  case root_isRoot =>
    rw [(hf 0).2.2.2]; exact hc.root_isRoot
  case root_parent =>
    rw [par 0 (Ne.symm hn0)]; exact hc.root_parent
  case root_type =>
    rw [type_all]; exact hc.root_type
  case root_name =>
    rw [(hf 0).2.2.1]; exact hc.root_name
  case root_oid =>
    rw [oid_all]; exact hc.root_oid
  case link =>
    intro p' k ch hp' hmem
    have hp's := d.reach_detach_old hp'
    have hmem_s := ch_sub p' (k, ch) hmem
    have l := hc.link hp's hmem_s
    have hch : ch ≠ n := by
      intro e
      subst e
      -- then p' = p and k = a, but the key a has been erased from p
      have l' := hc.linked hp's hmem_s
      have e1 : p' = p := Option.some.inj (l'.parent.symm.trans d.lnk.parent)
      have e2 : k = a := l'.name.symm.trans d.lnk.name
      subst e1; subst e2
      rw [d.children_detach] at hmem
      simp only [if_true] at hmem
      exact not_mem_keys_derase (hc.keys_nodup hp's) k (mem_keys_of_mem hmem)
    rw [detach_len, par ch hch, (hf ch).2.2.1, (hf ch).2.2.2, oid_all, oid_all]
    exact l
  case keys_nodup =>
    intro p' hp'
    have hp's := d.reach_detach_old hp'
    rw [d.children_detach]
    split
    · next h => subst h; exact nodup_keys_derase (hc.keys_nodup hp's) a
    · exact hc.keys_nodup hp's
  case file_leaf =>
    intro p' hp' ht
    have hp's := d.reach_detach_old hp'
    rw [type_all] at ht
    have := hc.file_leaf hp's ht
    rw [d.children_detach]
    split
    · next h => subst h; rw [this]; rfl
    · exact this
  -- an entry that survives the popping belongs to a node outside the subtree, which is still reachable; conversely a
  -- reachable holder that survives cannot be below `n`, by `oid_unique`
  case map_sound =>
    intro o m hm
    obtain ⟨hin, hout⟩ := d.mem_detach_idmap.1 hm
    have hs := hc.map_sound hin
    rw [oid_all]
    refine ⟨?_, hs.2⟩
    obtain ⟨q, hq⟩ := hs.1
    apply d.reach_detach.2
    refine ⟨q, ?_, hq⟩
    intro hpre
    obtain ⟨r, rfl⟩ := hpre
    obtain ⟨x, hx, hr⟩ := res_prefix hq
    rw [d.hn] at hx
    cases hx
    exact hout ⟨r, m, hr, hs.2.1, hs.2.2⟩
  case map_complete =>
    intro m o hm ho h0
    rw [oid_all] at ho
    have hms := d.reach_detach_old hm
    have hin := hc.map_complete hms ho h0
    refine d.mem_detach_idmap.2 ⟨hin, ?_⟩
    rintro ⟨r, m', hr, ho', _⟩
    have hm' : Reach s m' := ⟨_, res_of_resFrom d.hn hr⟩
    have := hc.oid_unique hm' hms ho' ho h0
    subst this
    exact d.not_below_of_reach hm r hr

end DelCtx

theorem DelCtx.of_res {c : Cfg} (g : CfgGood c) {s : HC} (hc : Coherent c s) {ks : List Str} {n : Nat}
    (hn : res s ks = some n) (hne : ks ≠ []) : ∃ init a p, ks = init ++ [a] ∧ DelCtx c s init a p n := by
  obtain ⟨init, a, rfl⟩ := snoc_of_ne_nil hne
  obtain ⟨p, hp, hk⟩ := res_snoc_some hn
  exact ⟨init, a, p, rfl, g, hc, hp, hk⟩

end CS.HCache
