import Csverif.Proofs.HCache.Tree
/- C19 helper lemmas: the cache's path helpers on canonical paths. -/
namespace CS.HCache
open CS.Path

/-- configuration guard of the C19 theorems: `Cfg.Ok` plus, for case-insensitive providers, case folding does
    not produce the alternate separator (the hypothesis `hla` of the partial theorems of Props/C13.lean) -/
structure CfgGood (c : Cfg) : Prop where
  ok : c.Ok
  la : c.cs = false → LowerAltOk c

def KsOk (c : Cfg) (ks : List Str) : Prop := ∀ k ∈ ks, NameOk c k

/-- components of `normalize_path(p)` -/
def tcomps (c : Cfg) (p : Str) : List Str := (C c p).map (fold c)

theorem KsOk.comps {c : Cfg} {ks : List Str} (h : KsOk c ks) : Comps c ks :=
  ⟨fun f hf => (h f hf).1.1 f (.head _), fun f hf => (h f hf).1.2 f (.head _)⟩

theorem KsOk.map_fold {c : Cfg} {ks : List Str} (h : KsOk c ks) : ks.map (fold c) = ks :=
  map_eq_self fun k hk => (h k hk).2

theorem KsOk.append {c : Cfg} {a b : List Str} (ha : KsOk c a) (hb : KsOk c b) : KsOk c (a ++ b) :=
  fun k hk => (List.mem_append.1 hk).elim (ha k) (hb k)

theorem KsOk.left {c : Cfg} {a b : List Str} (h : KsOk c (a ++ b)) : KsOk c a :=
  fun k hk => h k (List.mem_append_left _ hk)

theorem KsOk.right {c : Cfg} {a b : List Str} (h : KsOk c (a ++ b)) : KsOk c b :=
  fun k hk => h k (List.mem_append_right _ hk)

theorem ksOk_nil (c : Cfg) : KsOk c [] := nofun

theorem ksOk_single {c : Cfg} {k : Str} (h : NameOk c k) : KsOk c [k] :=
  fun _ hx => List.mem_singleton.1 hx ▸ h

theorem tcomps_ok {c : Cfg} (g : CfgGood c) (p : Str) : KsOk c (tcomps c p) := fun k hk =>
  have hC := (comps_C' g.ok p).mapFold g.ok g.la
  have ⟨k0, _, e⟩ := List.mem_map.1 hk
  ⟨⟨fun _ hf => List.mem_singleton.1 hf ▸ hC.1 k hk, fun _ hf => List.mem_singleton.1 hf ▸ hC.2 k hk⟩,
    e ▸ fold_idem g.ok k0⟩

theorem normalizePath_tcomps {c : Cfg} (g : CfgGood c) (p : Str) :
    normalizePath c p false = canon c.sep (tcomps c p) := normalizePath_false_form g.ok p

theorem tcomps_canon {c : Cfg} (g : CfgGood c) {ks : List Str} (h : KsOk c ks) : tcomps c (canon c.sep ks) = ks := by
  rw [tcomps, C_canon g.ok h.comps, h.map_fold]

theorem normalizePath_canon {c : Cfg} (g : CfgGood c) {ks : List Str} (h : KsOk c ks) :
    normalizePath c (canon c.sep ks) false = canon c.sep ks := by
  rw [normalizePath_tcomps g, tcomps_canon g h]

theorem tcomps_nil (c : Cfg) : tcomps c [] = [] := by
  have : replaceAlt c [] = [] := replaceAlt_eq_nil.2 rfl
  simp [tcomps, C, this, comps, splitAll, CS.Path.ne]

/-- a canonical path has fewer components than characters, so the budgets `p.length + 2` of the model
    (`unsafePathToNode`, `pcomps`, `insFuel`) are never used up -/
theorem length_lt_canon {c : Cfg} {ks : List Str} (h : KsOk c ks) : ks.length < (canon c.sep ks).length + 2 := by
  cases ks with
  | nil => exact Nat.succ_pos _
  | cons k ks =>
    have := length_le_stem c.sep (k :: ks)
    rw [canon_eq_stem (List.cons_ne_nil _ _)]
    omega

theorem pathIsRoot_canon {c : Cfg} (g : CfgGood c) {ks : List Str} (h : KsOk c ks) :
    pathIsRoot c (canon c.sep ks) = decide (ks = []) := by
  induction ks using snoc_induction with
  | hnil =>
    rw [pathIsRoot, split_canon_nil g.ok]
    exact beq_self_eq_true _
  | hsnoc init a _ =>
    suffices canon c.sep init ≠ canon c.sep (init ++ [a]) by
      simpa [pathIsRoot, split_canon_concat g.ok init a h.comps]
    intro e
    have := congrArg (comps c.sep) e
    rw [comps_canon _ _ h.left.comps.1, comps_canon _ _ h.comps.1] at this
    simpa using congrArg List.length this

theorem hsplit_canon_snoc {c : Cfg} (g : CfgGood c) {init : List Str} {a : Str} (h : KsOk c (init ++ [a])) :
    hsplit c (canon c.sep (init ++ [a])) = (canon c.sep init, a) := by
  have ha : a ≠ [] := ((h a (by simp)).1.1 a (.head _)).1
  -- the leaf is not empty, so the loop of `_split` stops at its first test
  simp [hsplit, splitLoop, split_canon_concat g.ok init a h.comps, ha]

theorem unsafePathToNode_canon {c : Cfg} (g : CfgGood c) (s : HC) {ks : List Str} (h : KsOk c ks) {f : Nat}
    (hf : ks.length ≤ f) : unsafePathToNode c s (f + 1) (canon c.sep ks) = .ok (res s ks) := by
  induction ks using snoc_induction generalizing f with
  | hnil => simp [unsafePathToNode, pathIsRoot_canon g h]
  | hsnoc init a ih =>
    cases f with
    | zero => simp at hf
    | succ f =>
      rw [unsafePathToNode, pathIsRoot_canon g h, hsplit_canon_snoc g h]
      simp only [ih h.left (by simpa using hf), res_snoc]
      cases res s init <;> simp

theorem getNode_path {c : Cfg} (g : CfgGood c) (s : HC) (p : Str) :
    getNode c s none (some p) = .ok (res s (tcomps c p)) := by
  have hk := tcomps_ok g p
  simp only [getNode, normalizePath_tcomps g, pathIsRoot_canon g hk, decide_eq_true_eq]
  split
  · next hr => rw [hr]; rfl
  · exact unsafePathToNode_canon g s hk (Nat.le_of_lt_succ (length_lt_canon hk))

theorem getNode_canon {c : Cfg} (g : CfgGood c) (s : HC) {ks : List Str} (h : KsOk c ks) :
    getNode c s none (some (canon c.sep ks)) = .ok (res s ks) := by
  rw [getNode_path g, tcomps_canon g h]

theorem compsAux_canon {c : Cfg} (g : CfgGood c) {ks : List Str} (h : KsOk c ks) {f : Nat} (hf : ks.length ≤ f)
    (acc : List Str) : compsAux c (f + 1) (canon c.sep ks) acc = ks ++ acc := by
  induction ks using snoc_induction generalizing f acc with
  | hnil => simp [compsAux, pathIsRoot_canon g h]
  | hsnoc init a ih =>
    cases f with
    | zero => simp at hf
    | succ f =>
      rw [compsAux, pathIsRoot_canon g h, hsplit_canon_snoc g h]
      simp [ih h.left (by simpa using hf)]

theorem pcomps_eq {c : Cfg} (g : CfgGood c) (p : Str) : pcomps c p = tcomps c p := by
  have hk := tcomps_ok g p
  rw [pcomps, normalizePath_tcomps g, compsAux_canon g hk (Nat.le_of_lt_succ (length_lt_canon hk)), List.append_nil]

theorem join_root_names {c : Cfg} (g : CfgGood c) {ks : List Str} (h : KsOk c ks) :
    join c ([] :: ks) = canon c.sep ks := by
  rw [← join_ne, ne_cons_nil, join_ne]
  exact join_good g.ok ks h.comps.1 h.comps.2

theorem joinOpt_canon {c : Cfg} (g : CfgGood c) {init : List Str} {a : Str} (h : KsOk c (init ++ [a])) :
    joinOpt c (some (canon c.sep init)) a = canon c.sep (init ++ [a]) :=
  join_canon_concat g.ok init a h.comps

-- `mkCfg cs false` is `mkCfg cs false true`: the alternate separator is present unless switched off
theorem mkCfg_good (cs : Bool) : CfgGood (mkCfg cs false) :=
  ⟨mkCfg_ok cs true, fun _ => mkCfg_lowerAltOk cs false true⟩

end CS.HCache
