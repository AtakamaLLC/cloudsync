import Csverif.Proofs.HCache.Frame
/- C19 helper lemmas: re-labelling the root of a detached subtree, attaching it under a
   reachable directory, and re-indexing its ids. -/
namespace CS.HCache
open CS.Path

theorem Coherent.setNd_unreach {c : Cfg} {s : HC} (hc : Coherent c s) {i : Nat} (hi : ¬ Reach s i) (n' : Node) :
    Coherent c (s.setNd i n') :=
  hc.congr (by simp) rfl (fun m hm => nd_setNd_ne s (fun e : m = i => hi (e ▸ hm)) n')

theorem Sub.setRoot {c : Cfg} {s : HC} {i : Nat} (h : Sub c s i) (n' : Node)
    (h1 : n'.children = (s.nd i).children) (h2 : n'.oid = (s.nd i).oid) (h3 : n'.type = (s.nd i).type)
    (h4 : n'.isRoot = (s.nd i).isRoot) : Sub c (s.setNd i n') i := by
  have hnd := nd_setNd_of_lt s h.valid n'
  refine h.congr (by simp) (fun m _ => ?_) (fun m _ hm => by rw [hnd, if_neg hm]; exact ⟨rfl, rfl⟩)
    (fun m ⟨q, hq⟩ hr => h.unreach q m hq ((reach_congr (res_setNd_keep s i h1) m).1 hr)) (fun _ he => he)
  rw [hnd]
  split
  · next e => subst e; exact ⟨h1, h2, h3, h4⟩
  · exact ⟨rfl, rfl, rfl, rfl⟩

structure AttachCtx (c : Cfg) (s : HC) (init : List Str) (a : Str) (j i : Nat) : Prop where
  g : CfgGood c
  hc : Coherent c s
  hsub : Sub c s i
  hj : res s init = some j
  hdir : (s.nd j).type = .dir
  hnone : dget (s.nd j).children a = none
  hname : (s.nd i).name = a
  hpar : (s.nd i).parent = some j
  hok : NameOk c a
  hoid : (s.nd i).oid = none ∨ (s.nd i).oid ≠ (s.nd j).oid
  hfresh : ∀ o, (s.nd i).oid = some o → o ≠ 0 → dget s.idmap o = none

/-- state after `parent.add_child(node)` -/
def attachSt (s : HC) (j i : Nat) (a : Str) : HC :=
  s.setNd j { s.nd j with children := dset (s.nd j).children a i }

namespace AttachCtx
variable {c : Cfg} {s : HC} {init : List Str} {a : Str} {j i : Nat}

theorem j_not_sub (x : AttachCtx c s init a j i) : ∀ r, resFrom s i r ≠ some j :=
  fun r h => x.hsub.unreach r j h ⟨_, x.hj⟩
theorem ji (x : AttachCtx c s init a j i) : j ≠ i := fun e => x.j_not_sub [] (by rw [e]; rfl)

theorem nd_attach (x : AttachCtx c s init a j i) (m : Nat) :
    (attachSt s j i a).nd m = if m = j then { s.nd j with children := dset (s.nd j).children a i } else s.nd m :=
  nd_setNd_of_lt s (x.hc.valid ⟨_, x.hj⟩) _ m

theorem children_attach (x : AttachCtx c s init a j i) (m : Nat) :
    ((attachSt s j i a).nd m).children = if m = j then (s.nd j).children ++ [(a, i)] else (s.nd m).children := by
  rw [x.nd_attach]
  split
  · simp only; exact dset_of_not_mem i (dget_none.1 x.hnone)
  · rfl

theorem fields_attach (x : AttachCtx c s init a j i) (m : Nat) :
    ((attachSt s j i a).nd m).type = (s.nd m).type ∧ ((attachSt s j i a).nd m).oid = (s.nd m).oid ∧
    ((attachSt s j i a).nd m).name = (s.nd m).name ∧ ((attachSt s j i a).nd m).isRoot = (s.nd m).isRoot ∧
    ((attachSt s j i a).nd m).parent = (s.nd m).parent := by
  rw [x.nd_attach]; split
  · next e => subst e; simp
  · simp

theorem resFrom_sub_attach (x : AttachCtx c s init a j i) (q : List Str) :
    resFrom (attachSt s j i a) i q = resFrom s i q :=
  resFrom_congr q i (fun r m hm => by
    rw [x.children_attach]
    have : m ≠ j := fun e => x.j_not_sub r (e ▸ hm)
    simp [this])

theorem res_attach_out (x : AttachCtx c s init a j i) : ∀ (q : List Str), ¬ (init ++ [a]) <+: q →
    res (attachSt s j i a) q = res s q :=
  x.hc.res_out x.hj (fun m hm => by rw [x.children_attach, if_neg hm]) (fun k hk => by
    rw [x.children_attach, if_pos rfl, ← dset_of_not_mem i (dget_none.1 x.hnone)]
    exact dget_dset_ne i hk)

theorem res_attach_at (x : AttachCtx c s init a j i) : res (attachSt s j i a) (init ++ [a]) = some i := by
  have h1 : res (attachSt s j i a) init = some j := by
    rw [x.res_attach_out init (not_snoc_prefix init a), x.hj]
  rw [res_snoc, h1]
  simp only [Option.bind_some, x.children_attach, if_true]
  rw [← dset_of_not_mem i (dget_none.1 x.hnone)]
  exact dget_dset_self _ _ _

theorem res_attach_in (x : AttachCtx c s init a j i) (r : List Str) :
    res (attachSt s j i a) (init ++ [a] ++ r) = resFrom s i r := by
  unfold res
  rw [resFrom_append]
  have := x.res_attach_at
  unfold res at this
  rw [this]
  exact x.resFrom_sub_attach r

theorem reach_attach (x : AttachCtx c s init a j i) {m : Nat} :
    Reach (attachSt s j i a) m ↔ Reach s m ∨ InSub s i m := by
  constructor
  · rintro ⟨q, hq⟩
    by_cases h : (init ++ [a]) <+: q
    · obtain ⟨r, rfl⟩ := h
      rw [x.res_attach_in] at hq
      exact Or.inr ⟨r, hq⟩
    · rw [x.res_attach_out q h] at hq
      exact Or.inl ⟨q, hq⟩
  · rintro (⟨q, hq⟩ | ⟨r, hr⟩)
    · refine ⟨q, ?_⟩
      rw [x.res_attach_out q ?_]; exact hq
      intro hpre
      obtain ⟨r, rfl⟩ := hpre
      -- in `s` nothing resolves at init ++ [a]
      obtain ⟨y, hy, _⟩ := res_prefix hq
      rw [res_snoc, x.hj] at hy
      simp only [Option.bind_some, x.hnone] at hy
      exact absurd hy (by simp)
    · exact ⟨init ++ [a] ++ r, by rw [x.res_attach_in]; exact hr⟩

theorem res_with_idmap (s : HC) (dd : List (Oid × Nat)) (q : List Str) : res ({ s with idmap := dd } : HC) q = res s q :=
  res_congr_reach (s := s) (s' := { s with idmap := dd }) (fun _ _ => rfl) q

theorem reach_with_idmap (s : HC) (dd : List (Oid × Nat)) (m : Nat) : Reach ({ s with idmap := dd } : HC) m ↔ Reach s m :=
  reach_congr (res_with_idmap s dd) m

theorem coherent (x : AttachCtx c s init a j i) (M' : List (Oid × Nat)) (hk : (keys M').Nodup)
    (hM : ∀ o m, (o, m) ∈ M' ↔ ((o, m) ∈ s.idmap ∨ (InSub s i m ∧ (s.nd m).oid = some o ∧ o ≠ 0))) :
    Coherent c { attachSt s j i a with idmap := M' } := by
  have hc := x.hc
  have hsub := x.hsub
  have hreach : ∀ m, Reach ({ attachSt s j i a with idmap := M' } : HC) m ↔ Reach s m ∨ InSub s i m := by
    intro m
    rw [reach_with_idmap]; exact x.reach_attach
  have hnd : ∀ m, ({ attachSt s j i a with idmap := M' } : HC).nd m = (attachSt s j i a).nd m := fun m => rfl
  have hf := x.fields_attach
  have i0 : (0 : Nat) ≠ i := fun e => hsub.unreach [] i rfl (e ▸ Reach.root s)
  refine ⟨by simp [attachSt]; exact hc.root_valid, ?_, ?_, ?_, ?_, ?_, ?_, ?_, ?_, hk, ?_, ?_⟩
  · rw [hnd, (hf 0).2.2.2.1]; exact hc.root_isRoot
  · rw [hnd, (hf 0).2.2.2.2]; exact hc.root_parent
  · rw [hnd, (hf 0).1]; exact hc.root_type
  · rw [hnd, (hf 0).2.2.1]; exact hc.root_name
  · rw [hnd, (hf 0).2.1]; exact hc.root_oid
  · intro p k ch hp hmem
    rw [hnd, x.children_attach] at hmem
    rw [hnd, hnd, (hf ch).2.2.2.2, (hf ch).2.2.1, (hf ch).2.2.2.1, (hf ch).2.1, (hf p).2.1]
    simp only [attachSt, setNd_len]
    rcases (hreach p).1 hp with hp' | ⟨r, hr⟩
    · by_cases hpj : p = j
      · subst hpj
        simp only [if_true, List.mem_append, List.mem_singleton, Prod.mk.injEq] at hmem
        rcases hmem with hmem | ⟨rfl, rfl⟩
        · exact hc.link hp' hmem
        · exact ⟨hsub.valid, x.hpar, x.hname, hsub.notRoot, x.hok, x.hoid⟩
      · simp only [hpj, if_false] at hmem
        exact hc.link hp' hmem
    · have hpj : p ≠ j := fun e => x.j_not_sub r (e ▸ hr)
      simp only [hpj, if_false] at hmem
      exact hsub.link r p k ch hr hmem
  · intro p hp
    rw [hnd, x.nd_attach]
    rcases (hreach p).1 hp with hp' | ⟨r, hr⟩
    · split
      · next e => subst e; exact nodup_keys_dset (hc.keys_nodup hp') a i
      · exact hc.keys_nodup hp'
    · have hpj : p ≠ j := fun e => x.j_not_sub r (e ▸ hr)
      simp only [hpj, if_false]
      exact hsub.keys_nodup r p hr
  · intro p hp ht
    rw [hnd, (hf p).1] at ht
    rw [hnd, x.children_attach]
    rcases (hreach p).1 hp with hp' | ⟨r, hr⟩
    · split
      · next e => subst e; rw [x.hdir] at ht; exact absurd ht (by simp)
      · exact hc.file_leaf hp' ht
    · have hpj : p ≠ j := fun e => x.j_not_sub r (e ▸ hr)
      simp only [hpj, if_false]
      exact hsub.file_leaf r p hr ht
  · intro o m hm
    rw [hnd, (hf m).2.1]
    rcases (hM o m).1 hm with h | ⟨h1, h2, h3⟩
    · have := hc.map_sound h
      exact ⟨(hreach m).2 (Or.inl this.1), this.2⟩
    · exact ⟨(hreach m).2 (Or.inr h1), h2, h3⟩
  · intro m o hm ho h0
    rw [hnd, (hf m).2.1] at ho
    apply (hM o m).2
    rcases (hreach m).1 hm with h | h
    · exact Or.inl (hc.map_complete h ho h0)
    · exact Or.inr ⟨h, ho, h0⟩

end AttachCtx

theorem delete_miss (c : Cfg) (s : HC) (o : Oid) (h1 : some o ≠ s.rootOid) (h2 : dget s.idmap o = none) :
    delete c (some o) none s = (s, .ok ()) := by
  have hg : getNodeM c (some o) none s = (s, .ok none) := by rw [getNodeM_run, getNode, if_neg h1, h2]
  rw [delete, bind_ok (getS_run s), deleteRec, bind_ok hg]; rfl

/-- the second hypothesis (each id of `l` is absent from the id map or already filed under its node) is the loop
    invariant, the caller starts with all absent: no `delete` inside the loop finds anything -/
theorem reindex_spec (c : Cfg) : ∀ (l : List Nat) (s : HC),
    (∀ m ∈ l, ∀ o, (s.nd m).oid = some o → o ≠ 0 → some o ≠ s.rootOid) →
    (∀ m ∈ l, ∀ o, (s.nd m).oid = some o → o ≠ 0 → dget s.idmap o = none ∨ dget s.idmap o = some m) →
    (∀ m1 ∈ l, ∀ m2 ∈ l, ∀ o, (s.nd m1).oid = some o → (s.nd m2).oid = some o → o ≠ 0 → m1 = m2) →
    (keys s.idmap).Nodup →
    ∃ M', reindex c l s = ({ s with idmap := M' }, .ok ()) ∧ (keys M').Nodup ∧
      ∀ o m, (o, m) ∈ M' ↔ ((o, m) ∈ s.idmap ∨ (m ∈ l ∧ (s.nd m).oid = some o ∧ o ≠ 0)) := by
  intro l
  induction l with
  | nil =>
    intro s _ _ _ hk
    exact ⟨s.idmap, rfl, hk, fun o m => by simp⟩
  | cons cur rest ih =>
    intro s hroot hfresh hinj hk
    have hroot' := fun m hm => hroot m (List.mem_cons_of_mem _ hm)
    have hinj' := fun m1 h1 m2 h2 => hinj m1 (List.mem_cons_of_mem cur h1) m2 (List.mem_cons_of_mem cur h2)
    by_cases ht : truthy (s.nd cur).oid = true
    · obtain ⟨o, ho, h0⟩ := truthy_iff.1 ht
      -- this iteration indexes `cur`; the lookup of a previous owner of its id finds nothing to delete
      have hstep : reindex c (cur :: rest) s = reindex c rest { s with idmap := dset s.idmap o cur } := by
        rw [reindex, bind_ok (getS_run s), if_pos ht]
        simp only [ho]
        rcases hfresh cur List.mem_cons_self o ho h0 with h | h
        · rw [if_pos (by rw [h]; nofun), bindM_assoc, bind_ok (delete_miss c s o (hroot cur List.mem_cons_self o ho h0) h)]
          rfl
        · rw [if_neg (by rw [h]; exact fun e => e rfl)]; rfl
      obtain ⟨M', hrun, hk', hM'⟩ := ih { s with idmap := dset s.idmap o cur } hroot'
        (fun m hm o' ho' h0' => by
          show dget (dset s.idmap o cur) o' = none ∨ dget (dset s.idmap o cur) o' = some m
          by_cases e : o' = o
          · subst e
            cases hinj m (List.mem_cons_of_mem _ hm) cur List.mem_cons_self o' ho' ho h0'
            exact Or.inr (dget_dset_self _ _ _)
          · rw [dget_dset_ne cur e]
            exact hfresh m (List.mem_cons_of_mem _ hm) o' ho' h0')
        hinj' (nodup_keys_dset hk o cur)
      refine ⟨M', hstep.trans hrun, hk', fun o' m => ?_⟩
      rw [hM' o' m]
      show ((o', m) ∈ dset s.idmap o cur ∨ _) ↔ _
      constructor
      · rintro (h | ⟨h1, h2, h3⟩)
        · rcases mem_dset hk h with e | ⟨e1, _⟩
          · cases e
            exact Or.inr ⟨List.mem_cons_self, ho, h0⟩
          · exact Or.inl e1
        · exact Or.inr ⟨List.mem_cons_of_mem _ h1, h2, h3⟩
      · rintro (h | ⟨h1, h2, h3⟩)
        · by_cases e : o' = o
          · subst e
            -- an existing entry under this id is the entry of `cur`
            rcases hfresh cur List.mem_cons_self o' ho h0 with hn | hs
            · exact absurd (mem_keys_of_mem h) (dget_none.1 hn)
            · cases (dget_of_mem hk h).symm.trans hs
              exact Or.inl (mem_dset_self _ _ _)
          · exact Or.inl (mem_dset_of_mem hk h e)
        · rcases List.mem_cons.1 h1 with e | h1'
          · subst e
            cases ho.symm.trans h2
            exact Or.inl (mem_dset_self _ _ _)
          · exact Or.inr ⟨h1', h2, h3⟩
    · have hstep : reindex c (cur :: rest) s = reindex c rest s := by
        rw [reindex, bind_ok (getS_run s), if_neg ht]; rfl
      obtain ⟨M', hrun, hk', hM'⟩ := ih s hroot' (fun m hm => hfresh m (List.mem_cons_of_mem _ hm)) hinj' hk
      refine ⟨M', hstep.trans hrun, hk', fun o m => ?_⟩
      rw [hM' o m]
      constructor
      · rintro (h | ⟨h1, h2, h3⟩)
        · exact Or.inl h
        · exact Or.inr ⟨List.mem_cons_of_mem _ h1, h2, h3⟩
      · rintro (h | ⟨h1, h2, h3⟩)
        · exact Or.inl h
        · rcases List.mem_cons.1 h1 with e | h1'
          · exact absurd (truthy_iff.2 ⟨o, e ▸ h2, h3⟩) ht
          · exact Or.inr ⟨h1', h2, h3⟩

/-- what the part of `__insert_node` from the re-labelling on (`insertTail`, Insert.lean) guarantees whatever its outcome -/
structure CorePost (c : Cfg) (s : HC) (init : List Str) (a : Str) (i : Nat) (s' : HC) : Prop where
  coh : Coherent c s'
  frameX : FrameX s s' (InSub s i)
  fi : (s'.nd i).oid = (s.nd i).oid ∧ (s'.nd i).type = (s.nd i).type
  shrink : ∀ q m, res s' q = some m → res s q = some m ∨ ∃ r, q = init ++ [a] ++ r ∧ resFrom s i r = some m
  oid_same : ∀ m, (s'.nd m).oid = (s.nd m).oid
  type_same : ∀ m, (s'.nd m).type = (s.nd m).type

namespace AttachCtx
variable {c : Cfg} {s : HC} {init : List Str} {a : Str} {j i : Nat}

theorem reindexed (x : AttachCtx c s init a j i) :
    ∃ M', (walkM c i >>= fun w => reindex c (w.map (·.1))) (attachSt s j i a) =
        ({ attachSt s j i a with idmap := M' }, .ok ()) ∧ (keys M').Nodup ∧
      ∀ o m, (o, m) ∈ M' ↔ ((o, m) ∈ s.idmap ∨ (InSub s i m ∧ (s.nd m).oid = some o ∧ o ≠ 0)) := by
  have hsubok : SubOk (attachSt s j i a) i := by
    intro q m hm
    rw [x.resFrom_sub_attach] at hm
    rw [x.nd_attach, if_neg (fun e : m = j => x.j_not_sub q (e ▸ hm))]
    exact x.hsub.subOk q m hm
  have hwalk : ∀ pth m, m ∈ walkNodes c (attachSt s j i a) ((attachSt s j i a).heap.length + 1) i pth ↔ InSub s i m :=
    fun pth m => (mem_walkNodes hsubok (fun q m hq => by
      rw [x.resFrom_sub_attach] at hq
      have := x.hsub.depth_lt hq
      simp only [attachSt, setNd_len]; omega) pth m).trans
    ⟨fun ⟨q, hq⟩ => ⟨q, (x.resFrom_sub_attach q).symm.trans hq⟩, fun ⟨q, hq⟩ => ⟨q, (x.resFrom_sub_attach q).trans hq⟩⟩
  have hoid : ∀ m, ((attachSt s j i a).nd m).oid = (s.nd m).oid := fun m => (x.fields_attach m).2.1
  have hfresh : ∀ m, InSub s i m → ∀ o, (s.nd m).oid = some o → o ≠ 0 → dget s.idmap o = none := by
    rintro m ⟨q, hq⟩ o ho h0
    cases q with
    | nil => cases hq; exact x.hfresh o ho h0
    | cons k q' => exact x.hsub.ids_fresh (k :: q') m o nofun hq ho h0
  obtain ⟨M', hrun, hkM, hM⟩ := reindex_spec c
    (walkNodes c (attachSt s j i a) ((attachSt s j i a).heap.length + 1) i (some (canon c.sep (init ++ [a]))))
    (attachSt s j i a)
    (fun m hm o ho h0 hroot => by
      rw [hoid] at ho
      obtain ⟨rr, hrr, hr0⟩ := x.hc.root_oid
      rw [HC.rootOid, hoid, hrr] at hroot
      cases hroot
      have := x.hc.dget_idmap.2 ⟨Reach.root s, hrr, hr0⟩
      rw [hfresh m ((hwalk _ m).1 hm) o ho h0] at this
      cases this)
    (fun m hm o ho h0 => Or.inl (hfresh m ((hwalk _ m).1 hm) o (hoid m ▸ ho) h0))
    (fun m1 h1 m2 h2 o o1 o2 h0 => by
      rw [hoid] at o1 o2
      obtain ⟨q1, hq1⟩ := (hwalk _ m1).1 h1
      obtain ⟨q2, hq2⟩ := (hwalk _ m2).1 h2
      exact x.hsub.ids_inj q1 q2 m1 m2 o hq1 hq2 o1 o2 h0)
    x.hc.map_keys
  have hM' : ∀ o m, (o, m) ∈ M' ↔ ((o, m) ∈ s.idmap ∨ (InSub s i m ∧ (s.nd m).oid = some o ∧ o ≠ 0)) := fun o m => by
    rw [hM o m, hwalk _ m, hoid]; rfl
  -- `_walk` starts from `full_path()` of the node, which is the target path: read off the coherent re-indexed state
  -- and carried back, since `full_path` does not read the id map
  have hfp : fullPath c (attachSt s j i a) i = .ok (some (canon c.sep (init ++ [a]))) := by
    rw [← (x.coherent M' hkM hM').fullPath x.g (s := { attachSt s j i a with idmap := M' })
      ((res_with_idmap _ _ _).trans x.res_attach_at)]
    exact (fullPath_congr c (s := attachSt s j i a) (s' := { attachSt s j i a with idmap := M' }) rfl
      (fun _ => ⟨rfl, rfl, rfl, rfl⟩) i).symm
  exact ⟨M', by rw [bind_ok (show walkM c i (attachSt s j i a) = (_, .ok _) by rw [walkM_run, walk, hfp])]; exact hrun,
    hkM, hM'⟩

theorem linked (x : AttachCtx c s init a j i) {M' : List (Oid × Nat)} (hk : (keys M').Nodup)
    (hM : ∀ o m, (o, m) ∈ M' ↔ ((o, m) ∈ s.idmap ∨ (InSub s i m ∧ (s.nd m).oid = some o ∧ o ≠ 0))) :
    CorePost c s init a i { attachSt s j i a with idmap := M' } ∧
      (∀ q, resFrom ({ attachSt s j i a with idmap := M' } : HC) i q = resFrom s i q) ∧
      ∀ q, res ({ attachSt s j i a with idmap := M' } : HC) q =
        if (init ++ [a]) <+: q then resFrom s i (q.drop (init ++ [a]).length) else res s q := by
  have hres : ∀ q, res ({ attachSt s j i a with idmap := M' } : HC) q =
      if (init ++ [a]) <+: q then resFrom s i (q.drop (init ++ [a]).length) else res s q := fun q => by
    rw [res_with_idmap]
    split
    · next hp => obtain ⟨r, rfl⟩ := hp; rw [x.res_attach_in, List.drop_left]
    · next hp => exact x.res_attach_out q hp
  refine ⟨⟨x.coherent M' hk hM, ⟨by simp [attachSt], fun m _ hr hE => ?_, fun m _ hr =>
      x.reach_attach.1 ((reach_with_idmap _ _ _).1 hr), fun e he => ((hM e.1 e.2).1 he).imp_right And.left⟩,
    ⟨(x.fields_attach i).2.1, (x.fields_attach i).1⟩, fun q m hm => ?_, fun m => (x.fields_attach m).2.1,
    fun m => (x.fields_attach m).1⟩, fun q => (resFrom_congr (s := attachSt s j i a) (s' := { attachSt s j i a with idmap := M' }) q i
      (fun _ _ _ => rfl)).trans (x.resFrom_sub_attach q), hres⟩
  · exact (x.nd_attach m).trans (if_neg (fun e : m = j => hr (e ▸ ⟨_, x.hj⟩)))
  · rw [hres] at hm
    split at hm
    · next hp => obtain ⟨r, rfl⟩ := hp; exact Or.inr ⟨r, rfl, by rwa [List.drop_left] at hm⟩
    · exact Or.inl hm

end AttachCtx

end CS.HCache
