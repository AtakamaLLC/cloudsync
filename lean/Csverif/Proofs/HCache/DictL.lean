import Csverif.Proofs.HCache.View
import Csverif.Model.HDict
/- C19 helper lemmas: lookups of the dictionary specification in terms of the view-level operations. -/
namespace CS.HCache
open CS.Path CS.HDict

theorem dlook_eq (d : D) (k : Key) : dlook d k = Assoc.get d k := dget_eq d k

theorem dlook_cons (e : Key × HDict.Ent) (d : D) (k : Key) : dlook (e :: d) k = if e.1 = k then some e.2 else dlook d k := by
  rw [dlook_eq, dlook_eq, Assoc.get_cons]

theorem dlook_filter_key (d : D) (p : Key → Bool) (k : Key) :
    dlook (d.filter (fun e => p e.1)) k = if p k then dlook d k else none := by
  rw [dlook_eq, dlook_eq, Assoc.get_filter_key]

theorem dlook_rmD (k : Key) (d : D) : dlook (rmD k d) = rmV k (dlook d) := by
  funext q
  have := dlook_filter_key d (fun x => !(decide (k <+: x) && decide (x ≠ []))) q
  simp only [rmD, rmV]
  rw [this]
  by_cases h : k <+: q ∧ q ≠ []
  · simp [h.1, h.2]
  · rw [if_neg h]
    have : (!(decide (k <+: q) && decide (q ≠ []))) = true := by
      simp only [Bool.not_eq_true', Bool.and_eq_false_iff, decide_eq_false_iff_not]
      by_cases h1 : k <+: q
      · exact Or.inr (fun h2 => h ⟨h1, h2⟩)
      · exact Or.inl h1
    rw [if_pos this]

theorem dlook_putD (k : Key) (x : HDict.Ent) (d : D) : dlook (putD k x d) = putV k x (dlook d) := by
  funext q
  simp only [putD, dlook_cons, putV]
  by_cases h : k = q
  · subst h; simp
  · simp [h, Ne.symm h]

theorem isDirD_eq (x : Option HDict.Ent) : isDirD x = isDirE x := by
  cases x with
  | none => rfl
  | some e => obtain ⟨t, o⟩ := e; cases t <;> rfl

theorem dlook_ensureR : ∀ (rks : List Str) (d : D), dlook (HDict.ensureR rks d) = CS.HCache.ensureR rks (dlook d) := by
  intro rks
  induction rks with
  | nil => intro d; rfl
  | cons b rinit ih =>
    intro d
    simp only [HDict.ensureR, CS.HCache.ensureR, isDirD_eq]
    split
    · rfl
    · rw [dlook_putD, ih, dlook_rmD]

theorem dlook_ensureD (ks : Key) (d : D) : dlook (ensureD ks d) = ensureV ks (dlook d) :=
  dlook_ensureR ks.reverse d

theorem dlook_mem {d : D} {k : Key} {x : HDict.Ent} (h : dlook d k = some x) : (k, x) ∈ d := dget_mem h

theorem holderD_some {d : D} {o : Oid} {k : Key} (h : holderD d o = some k) : HolderV (dlook d) o k := by
  simp only [holderD, Option.map_eq_some_iff] at h
  obtain ⟨e, he, rfl⟩ := h
  have := List.find?_some he
  simp only [Bool.and_eq_true, decide_eq_true_eq] at this
  refine ⟨e.2.1, ?_⟩
  rw [this.2, ← this.1]

theorem holderD_none {d : D} {o : Oid} (h : holderD d o = none) : ∀ k, ¬ HolderV (dlook d) o k := by
  intro k ⟨t, hk⟩
  simp only [holderD, Option.map_eq_none_iff, List.find?_eq_none] at h
  have := h (k, (t, some o)) (dlook_mem hk)
  simp [hk] at this

theorem dlook_evictD {v : V} {ks : Key} {oid : Option Oid} {W : V} (hW : EvictV v ks oid W) {d : D} (hd : dlook d = v) :
    dlook (evictD ks oid d) = W := by
  have hd1 : dlook (rmD ks d) = rmV ks v := by rw [dlook_rmD, hd]
  simp only [evictD]
  cases oid with
  | none => rw [hW.1 rfl]; exact hd1
  | some o =>
    cases o with
    | zero => rw [hW.1 rfl]; exact hd1
    | succ n =>
      simp only
      obtain ⟨h1, h2⟩ := hW.2 (n + 1) rfl (by simp)
      cases hh : holderD (rmD ks d) (n + 1) with
      | some kx =>
        simp only
        rw [h1 kx (hd1 ▸ holderD_some hh), dlook_rmD, hd1]
      | none =>
        simp only
        rw [h2 (fun k => hd1 ▸ holderD_none hh k)]; exact hd1

theorem dlook_insertD {v W : V} {ks : Key} {x : HDict.Ent} (hne : ks ≠ []) (hW : InsertV v ks x W) {d : D} (hd : dlook d = v) :
    dlook (insertD ks x d) = W := by
  obtain ⟨W', hW', rfl⟩ := hW
  rw [graft_leaf hne]
  simp only [insertD]
  rw [dlook_putD, dlook_rmD, dlook_ensureD, dlook_evictD hW' hd]

theorem dlook_setOidD {v W : V} {k : Key} {t0 : OType} {i0 : Option Oid} {o : Oid} (hne : k ≠ [])
    (hW : SetOidV v k t0 i0 o W) {d : D} (hd : dlook d = v) : dlook (setOidD k t0 i0 o d) = W := by
  unfold SetOidV at hW
  unfold setOidD
  split
  · next h => rw [if_pos h] at hW; rw [hW, hd]
  · next h =>
    rw [if_neg h] at hW
    obtain ⟨v1, hva, hvb, hW⟩ := hW
    have hd1 : dlook (evictOidD o d) = v1 := by
      unfold evictOidD
      cases hh : holderD d o with
      | some kx => simp only; rw [dlook_rmD, hd, hva kx (hd ▸ holderD_some hh)]
      | none => simp only; rw [hd, hvb (fun k => hd ▸ holderD_none hh k)]
    rw [hd1]
    split
    · next hc => rw [if_pos hc] at hW; rw [dlook_putD, hd1, hW]
    · next hc => rw [if_neg hc] at hW; exact dlook_insertD hne hW hd1

theorem dlook_map_prefix (k : Key) : ∀ (t : D) (r : Key), dlook (t.map (fun e => (k ++ e.1, e.2))) (k ++ r) = dlook t r := by
  intro t
  induction t with
  | nil => intro r; rfl
  | cons e t ih =>
    intro r
    simp only [List.map_cons, dlook_cons, List.append_cancel_left_eq, ih]

theorem dlook_map_prefix_out (k : Key) : ∀ (t : D) (q : Key), ¬ k <+: q → dlook (t.map (fun e => (k ++ e.1, e.2))) q = none := by
  intro t
  induction t with
  | nil => intro q _; rfl
  | cons e t ih =>
    intro q hq
    simp only [List.map_cons, dlook_cons]
    rw [if_neg (fun h : k ++ e.1 = q => hq (by rw [← h]; exact List.prefix_append _ _)), ih q hq]

theorem dlook_append (a b : D) (q : Key) : dlook (a ++ b) q = (dlook a q).or (dlook b q) := by
  rw [dlook_eq, dlook_eq, dlook_eq, Assoc.get_append]

theorem dlook_graftD {k : Key} (hk : k ≠ []) (t w : D) : dlook (graftD k t w) = graftV k (dlook t) (dlook w) := by
  funext q
  simp only [graftD, dlook_append, graftV]
  by_cases hp : k <+: q
  · rw [if_pos hp]
    obtain ⟨r, rfl⟩ := hp
    rw [dlook_map_prefix, List.drop_left, dlook_rmD]
    have hq : k ++ r ≠ [] := by simp [hk]
    simp only [rmV, List.prefix_append, true_and, hq, ne_eq, not_false_eq_true, if_true, Option.or_none]
  · rw [if_neg hp, dlook_map_prefix_out k t q hp, dlook_rmD]
    simp only [Option.none_or, rmV]
    rw [if_neg (fun h => hp h.1)]

theorem dlook_subD (k : Key) (d : D) (r : Key) : dlook (subD k d) r = dlook d (k ++ r) := by
  rw [dlook_eq, subD, Assoc.get, List.find?_filterMap]
  cases hf : d.find? _ with
  | some e =>
    have h := List.find?_some hf
    split at h
    · next hl =>
      obtain ⟨r', hr'⟩ := hl.1
      have : e.1.drop k.length = r := by simpa using h
      rw [Option.bind_some, if_pos hl, ← this, ← hr', List.drop_left, hr', hl.2]; rfl
    · cases h
  | none =>
    cases hd : dlook d (k ++ r) with
    | none => rfl
    | some x =>
      have := List.find?_eq_none.1 hf (k ++ r, x) (dlook_mem hd)
      simp [hd] at this

end CS.HCache
