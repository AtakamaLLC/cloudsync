import Csverif.Proofs.HCache.DeleteRec
/- C19 helper lemmas: frames, detached subtrees, allocation. -/
namespace CS.HCache
open CS.Path

theorem res_congr_reach {s s' : HC} (h : ∀ m, Reach s m → (s'.nd m).children = (s.nd m).children) (q : List Str) :
    res s' q = res s q :=
  resFrom_congr q 0 (fun r x hx => h x ⟨r, hx⟩)

theorem reach_congr {s s' : HC} (h : ∀ q, res s' q = res s q) (m : Nat) : Reach s' m ↔ Reach s m :=
  ⟨fun ⟨q, hq⟩ => ⟨q, (h q).symm.trans hq⟩, fun ⟨q, hq⟩ => ⟨q, (h q).trans hq⟩⟩

theorem res_setNd_keep (s : HC) (i : Nat) {n' : Node} (h : n'.children = (s.nd i).children) (q : List Str) :
    res (s.setNd i n') q = res s q :=
  res_congr_reach (fun m _ => by
    rw [nd_setNd]
    split
    · next e => rw [h, e.1]
    · rfl) q

theorem Coherent.congr {c : Cfg} {s s' : HC} (hc : Coherent c s) (hlen : s.heap.length ≤ s'.heap.length)
    (hid : s'.idmap = s.idmap) (hnd : ∀ m, Reach s m → s'.nd m = s.nd m) : Coherent c s' := by
  have hres : ∀ q, res s' q = res s q := res_congr_reach (fun m hm => by rw [hnd m hm])
  have hreach := reach_congr hres
  have h0 := hnd 0 (Reach.root s)
  refine
    { root_valid := Nat.lt_of_lt_of_le hc.root_valid hlen, root_isRoot := by rw [h0]; exact hc.root_isRoot,
      root_parent := by rw [h0]; exact hc.root_parent, root_type := by rw [h0]; exact hc.root_type,
      root_name := by rw [h0]; exact hc.root_name, root_oid := by rw [h0]; exact hc.root_oid,
      link := ?link, keys_nodup := ?keys_nodup, file_leaf := ?file_leaf, map_keys := by rw [hid]; exact hc.map_keys,
      map_sound := ?map_sound, map_complete := ?map_complete }
  case link =>
    intro p k ch hp hm
    have hp' := (hreach p).1 hp
    rw [hnd p hp'] at hm ⊢
    have hch := hc.child hp' hm
    rw [hnd ch hch]
    have l := hc.link hp' hm
    exact ⟨Nat.lt_of_lt_of_le l.1 hlen, l.2⟩
  case keys_nodup =>
    intro p hp
    rw [hnd p ((hreach p).1 hp)]; exact hc.keys_nodup ((hreach p).1 hp)
  case file_leaf =>
    intro p hp ht
    rw [hnd p ((hreach p).1 hp)] at ht ⊢; exact hc.file_leaf ((hreach p).1 hp) ht
  case map_sound =>
    intro o n h
    rw [hid] at h
    have := hc.map_sound h
    rw [hnd n this.1]
    exact ⟨(hreach n).2 this.1, this.2⟩
  case map_complete =>
    intro n o hn ho h0'
    have hn' := (hreach n).1 hn
    rw [hnd n hn'] at ho
    rw [hid]; exact hc.map_complete hn' ho h0'

/-- frame condition on what was unreachable in `s`, up to the exception set `E`.  `nd` and `reach` speak of
    `m < s.heap.length` only: nodes allocated since are not constrained (the parent auto-creation allocates) -/
structure FrameX (s s' : HC) (E : Nat → Prop) : Prop where
  len : s.heap.length ≤ s'.heap.length
  nd : ∀ m, m < s.heap.length → ¬ Reach s m → ¬ E m → s'.nd m = s.nd m
  reach : ∀ m, m < s.heap.length → Reach s' m → Reach s m ∨ E m
  ids : ∀ e, e ∈ s'.idmap → e ∈ s.idmap ∨ E e.2

theorem FrameX.refl (s : HC) (E : Nat → Prop) : FrameX s s E :=
  ⟨Nat.le_refl _, fun _ _ _ _ => rfl, fun _ _ h => Or.inl h, fun _ h => Or.inl h⟩

theorem FrameX.mono {s s' : HC} {E E' : Nat → Prop} (h : FrameX s s' E) (hE : ∀ m, E m → E' m) : FrameX s s' E' :=
  ⟨h.len, fun m a b c => h.nd m a b (fun e => c (hE m e)), fun m a b => (h.reach m a b).imp id (hE m),
   fun e he => (h.ids e he).imp id (hE e.2)⟩

theorem FrameX.trans {s s1 s2 : HC} {E : Nat → Prop} (h1 : FrameX s s1 E) (h2 : FrameX s1 s2 E) : FrameX s s2 E where
  len := Nat.le_trans h1.len h2.len
  nd := fun m hm hr hE => by
    have hm1 : m < s1.heap.length := Nat.lt_of_lt_of_le hm h1.len
    have hr1 : ¬ Reach s1 m := fun h => (h1.reach m hm h).elim hr hE
    rw [h2.nd m hm1 hr1 hE, h1.nd m hm hr hE]
  reach := fun m hm h => by
    have hm1 : m < s1.heap.length := Nat.lt_of_lt_of_le hm h1.len
    rcases h2.reach m hm1 h with a | a
    · exact h1.reach m hm a
    · exact Or.inr a
  ids := fun e he => by
    rcases h2.ids e he with a | a
    · exact h1.ids e a
    · exact Or.inr a

theorem DelPost.frameX {c : Cfg} {s s' : HC} (h : DelPost c s s') (E : Nat → Prop) : FrameX s s' E :=
  ⟨Nat.le_of_eq h.len.symm, fun m _ hr _ => h.frame m hr, fun _ _ hm => Or.inl (h.reach hm), fun e he => Or.inl (h.idsub e he)⟩

/-- the subtree hanging off the unreachable node `i` is a well-formed tree none of whose nodes is reachable, with
    pairwise distinct truthy ids; the ids of the strict descendants are not in the id map -/
structure Sub (c : Cfg) (s : HC) (i : Nat) : Prop where
  valid : i < s.heap.length
  notRoot : (s.nd i).isRoot = false
  unreach : ∀ q m, resFrom s i q = some m → ¬ Reach s m
  link : ∀ q m k ch, resFrom s i q = some m → (k, ch) ∈ (s.nd m).children →
    ch < s.heap.length ∧ (s.nd ch).parent = some m ∧ (s.nd ch).name = k ∧ (s.nd ch).isRoot = false ∧
      NameOk c k ∧ ((s.nd ch).oid = none ∨ (s.nd ch).oid ≠ (s.nd m).oid)
  keys_nodup : ∀ q m, resFrom s i q = some m → (keys (s.nd m).children).Nodup
  file_leaf : ∀ q m, resFrom s i q = some m → (s.nd m).type = .file → (s.nd m).children = []
  inj : ∀ q1 q2 m, resFrom s i q1 = some m → resFrom s i q2 = some m → q1 = q2
  ids_inj : ∀ q1 q2 m1 m2 o, resFrom s i q1 = some m1 → resFrom s i q2 = some m2 →
    (s.nd m1).oid = some o → (s.nd m2).oid = some o → o ≠ 0 → m1 = m2
  ids_fresh : ∀ q m o, q ≠ [] → resFrom s i q = some m → (s.nd m).oid = some o → o ≠ 0 → dget s.idmap o = none

theorem Sub.valid_all {c : Cfg} {s : HC} {i : Nat} (h : Sub c s i) : ∀ q m, resFrom s i q = some m → m < s.heap.length := by
  intro q
  induction q using snoc_induction with
  | hnil => intro m hm; simp [resFrom] at hm; subst hm; exact h.valid
  | hsnoc init a ih =>
    intro m hm
    rw [resFrom_snoc] at hm
    cases hp : resFrom s i init with
    | none => simp [hp] at hm
    | some p =>
      simp only [hp, Option.bind_some] at hm
      exact (h.link init p a m hp (dget_mem hm)).1

theorem Sub.subOk {c : Cfg} {s : HC} {i : Nat} (h : Sub c s i) : SubOk s i :=
  fun q m hm => ⟨h.keys_nodup q m hm, h.file_leaf q m hm⟩

theorem Sub.depth_lt {c : Cfg} {s : HC} {i : Nat} (h : Sub c s i) {q : List Str} {m : Nat} (hm : resFrom s i q = some m) :
    q.length < s.heap.length :=
  depth_lt_gen s i h.inj h.valid_all hm

theorem Sub.congr {c : Cfg} {s s' : HC} {i : Nat} (h : Sub c s i) (hlen : s.heap.length ≤ s'.heap.length)
    (hkeep : ∀ m, InSub s i m → (s'.nd m).children = (s.nd m).children ∧ (s'.nd m).oid = (s.nd m).oid ∧
      (s'.nd m).type = (s.nd m).type ∧ (s'.nd m).isRoot = (s.nd m).isRoot)
    (hbelow : ∀ m, InSub s i m → m ≠ i → (s'.nd m).parent = (s.nd m).parent ∧ (s'.nd m).name = (s.nd m).name)
    (hun : ∀ m, InSub s i m → ¬ Reach s' m) (hids : ∀ e, e ∈ s'.idmap → e ∈ s.idmap) : Sub c s' i := by
  have hres : ∀ q, resFrom s' i q = resFrom s i q := fun q =>
    resFrom_congr q i (fun r x hx => (hkeep x ⟨r, hx⟩).1)
  refine
    { valid := Nat.lt_of_lt_of_le h.valid hlen, notRoot := by rw [(hkeep i ⟨[], rfl⟩).2.2.2]; exact h.notRoot,
      unreach := ?unreach, link := ?link, keys_nodup := ?keys_nodup, file_leaf := ?file_leaf, inj := ?inj,
      ids_inj := ?ids_inj, ids_fresh := ?ids_fresh }
  case unreach =>
    intro q m hm
    rw [hres] at hm
    exact hun m ⟨q, hm⟩
  case link =>
    intro q m k ch hm hmem
    rw [hres] at hm
    rw [(hkeep m ⟨q, hm⟩).1] at hmem
    have hch : resFrom s i (q ++ [k]) = some ch := by
      rw [resFrom_snoc, hm]; exact dget_of_mem (h.keys_nodup q m hm) hmem
    have hne : ch ≠ i := fun e => by simpa using h.inj (q ++ [k]) [] ch hch (e ▸ rfl)
    have l := h.link q m k ch hm hmem
    rw [(hbelow ch ⟨_, hch⟩ hne).1, (hbelow ch ⟨_, hch⟩ hne).2, (hkeep ch ⟨_, hch⟩).2.2.2, (hkeep ch ⟨_, hch⟩).2.1,
      (hkeep m ⟨q, hm⟩).2.1]
    exact ⟨Nat.lt_of_lt_of_le l.1 hlen, l.2⟩
  case keys_nodup =>
    intro q m hm
    rw [hres] at hm; rw [(hkeep m ⟨q, hm⟩).1]; exact h.keys_nodup q m hm
  case file_leaf =>
    intro q m hm ht
    rw [hres] at hm; rw [(hkeep m ⟨q, hm⟩).2.2.1] at ht; rw [(hkeep m ⟨q, hm⟩).1]; exact h.file_leaf q m hm ht
  case inj =>
    intro q1 q2 m a b
    rw [hres] at a b; exact h.inj q1 q2 m a b
  case ids_inj =>
    intro q1 q2 m1 m2 o a b o1 o2 h0
    rw [hres] at a b
    rw [(hkeep m1 ⟨q1, a⟩).2.1] at o1
    rw [(hkeep m2 ⟨q2, b⟩).2.1] at o2
    exact h.ids_inj q1 q2 m1 m2 o a b o1 o2 h0
  case ids_fresh =>
    intro q m o hq hm ho h0
    rw [hres] at hm
    rw [(hkeep m ⟨q, hm⟩).2.1] at ho
    exact dget_none_of_sub hids (h.ids_fresh q m o hq hm ho h0)

/-- `hids` (no new id-map entry at all) on top of `FrameX.ids`: `Sub.ids_fresh` has to survive -/
theorem Sub.frame {c : Cfg} {s s' : HC} {i : Nat} {E : Nat → Prop} (h : Sub c s i) (hf : FrameX s s' E)
    (hE : ∀ m, InSub s i m → ¬ E m) (hids : ∀ e, e ∈ s'.idmap → e ∈ s.idmap) : Sub c s' i := by
  have hsame : ∀ m, InSub s i m → s'.nd m = s.nd m := fun m ⟨r, hr⟩ =>
    hf.nd m (h.valid_all r m hr) (h.unreach r m hr) (hE m ⟨r, hr⟩)
  exact h.congr hf.len (fun m hm => by rw [hsame m hm]; exact ⟨rfl, rfl, rfl, rfl⟩)
    (fun m hm _ => by rw [hsame m hm]; exact ⟨rfl, rfl⟩)
    (fun m ⟨q, hq⟩ hr => (hf.reach m (h.valid_all q m hq) hr).elim (h.unreach q m hq) (hE m ⟨q, hq⟩)) hids

theorem Sub.resFrom_frame {c : Cfg} {s s' : HC} {i : Nat} {E : Nat → Prop} (h : Sub c s i) (hf : FrameX s s' E)
    (hE : ∀ m, InSub s i m → ¬ E m) (q : List Str) : resFrom s' i q = resFrom s i q :=
  resFrom_congr q i (fun r x hx => by
    rw [hf.nd x (h.valid_all r x hx) (h.unreach r x hx) (hE x ⟨r, hx⟩)])

theorem Sub.del {c : Cfg} {s s' : HC} {i : Nat} (h : Sub c s i) (hd : DelPost c s s') : Sub c s' i :=
  h.frame (hd.frameX (fun _ => False)) (fun _ _ hf => hf) hd.idsub

theorem Sub.resFrom_del {c : Cfg} {s s' : HC} {i : Nat} (h : Sub c s i) (hd : DelPost c s s') (q : List Str) :
    resFrom s' i q = resFrom s i q :=
  h.resFrom_frame (hd.frameX (fun _ => False)) (fun _ _ hf => hf) q

theorem alloc_run (n : Node) (s : HC) : alloc n s = ({ s with heap := s.heap ++ [n] }, .ok s.heap.length) := rfl

theorem nd_alloc (s : HC) (n : Node) (m : Nat) :
    ({ s with heap := s.heap ++ [n] } : HC).nd m = if m = s.heap.length then n else s.nd m := by
  simp only [HC.nd, List.getD_eq_getElem?_getD]
  by_cases h : m < s.heap.length
  · rw [List.getElem?_append_left h]; simp [Nat.ne_of_lt h]
  · by_cases h2 : m = s.heap.length
    · subst h2; simp
    · rw [List.getElem?_eq_none (by simp; omega), List.getElem?_eq_none (by omega)]; simp [h2]

theorem Coherent.alloc {c : Cfg} {s : HC} (hc : Coherent c s) (n : Node) :
    Coherent c { s with heap := s.heap ++ [n] } :=
  hc.congr (by simp) rfl (fun m hm => by
    rw [nd_alloc]
    have := hc.valid hm
    simp [Nat.ne_of_lt this])

theorem res_alloc {c : Cfg} {s : HC} (hc : Coherent c s) (n : Node) (q : List Str) :
    res ({ s with heap := s.heap ++ [n] } : HC) q = res s q :=
  res_congr_reach (fun x hx => by rw [nd_alloc]; simp [Nat.ne_of_lt (hc.valid hx)]) q

theorem reach_alloc {c : Cfg} {s : HC} (hc : Coherent c s) (n : Node) (m : Nat) :
    Reach ({ s with heap := s.heap ++ [n] } : HC) m ↔ Reach s m := reach_congr (res_alloc hc n) m

theorem Sub.fresh {c : Cfg} {s : HC} (hc : Coherent c s) (n : Node) (hch : n.children = []) (hr : n.isRoot = false) :
    Sub c { s with heap := s.heap ++ [n] } s.heap.length := by
  have hnd : ({ s with heap := s.heap ++ [n] } : HC).nd s.heap.length = n := by rw [nd_alloc]; simp
  have hres : ∀ q m, resFrom ({ s with heap := s.heap ++ [n] } : HC) s.heap.length q = some m → q = [] ∧ m = s.heap.length := by
    intro q m h
    cases q with
    | nil => simp [resFrom] at h; exact ⟨rfl, h.symm⟩
    | cons k ks => simp [resFrom, hnd, hch, dget] at h
  refine
    { valid := by simp, notRoot := by rw [hnd]; exact hr, unreach := ?unreach, link := ?link, keys_nodup := ?keys_nodup,
      file_leaf := ?file_leaf, inj := ?inj, ids_inj := ?ids_inj, ids_fresh := ?ids_fresh }
  case unreach =>
    intro q m h hreach
    obtain ⟨_, rfl⟩ := hres q m h
    have := hc.valid ((reach_alloc hc n _).1 hreach)
    omega
  case link =>
    intro q m k ch h hmem
    obtain ⟨_, rfl⟩ := hres q m h
    rw [hnd, hch] at hmem; simp at hmem
  case keys_nodup =>
    intro q m h
    obtain ⟨_, rfl⟩ := hres q m h
    rw [hnd, hch]; simp
  case file_leaf =>
    intro q m h _
    obtain ⟨_, rfl⟩ := hres q m h
    rw [hnd]; exact hch
  case inj =>
    intro q1 q2 m h1 h2
    rw [(hres q1 m h1).1, (hres q2 m h2).1]
  case ids_inj =>
    intro q1 q2 m1 m2 o h1 h2 _ _ _
    rw [(hres q1 m1 h1).2, (hres q2 m2 h2).2]
  case ids_fresh =>
    intro q m o hq h _ _
    exact absurd (hres q m h).1 hq

end CS.HCache
