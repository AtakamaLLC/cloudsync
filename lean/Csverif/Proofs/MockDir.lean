import Csverif.Proofs.MockOps
import Csverif.Proofs.MockRename
import Csverif.Proofs.TreeMove
/- `rename`: a file is re-filed alone; a folder after every object beneath it -/
namespace CS.MockFS
open CS.Path
open CS.Tree (Kind Err)
variable {C H : Type}

def Under (c : Cfg) (sk : List Str) (path : Str) : Prop :=
  sk <+: foldL c (Path.C c path) ∧ foldL c (Path.C c path) ≠ sk

/-- where an object beneath (or equal to) the folder `sd` ends up when the folder moves to `dd` -/
def newPath (c : Cfg) (sd dd : List Str) (path : Str) : Str :=
  canon c.sep (dd ++ (Path.C c path).drop sd.length)

theorem under_iff_subpath {c : Cfg} (hc : COk2 c) {fl : Flavour} {sd : List Str} (hsd : Comps c sd)
    {path : Str} (hp : Clean c fl path) :
    (isSubpath c (canon c.sep sd) path true).truthy = true ↔ Under c (foldL c sd) path := by
  obtain ⟨hl, hpp, _⟩ := clean_C hc hp
  conv => lhs; rw [hpp]
  rw [isSubpath_canon hc.ok hsd hl true]
  unfold Under
  by_cases h1 : foldL c sd = foldL c (Path.C c path)
  · simp [h1, SubRes.truthy]
  · by_cases h2 : (foldL c sd).isPrefixOf (foldL c (Path.C c path)) = true
    · simp only [h1, if_false, h2, if_true, SubRes.truthy]
      simp only [List.isEmpty_cons, Bool.not_false, true_iff]
      exact ⟨List.isPrefixOf_iff_prefix.1 h2, fun e => h1 e.symm⟩
    · simp only [h1, if_false, h2, SubRes.truthy]
      simp only [Bool.false_eq_true, if_false, false_iff]
      rintro ⟨h3, _⟩
      exact h2 (List.isPrefixOf_iff_prefix.2 h3)

theorem clean_newPath {c : Cfg} (hc : COk2 c) {fl : Flavour} {sd dd : List Str} (hdd : Comps c dd)
    (hddf : fl.oip = true → foldL c dd = dd) {path : Str} (hp : Clean c fl path) :
    Clean c fl (newPath c sd dd path) := by
  obtain ⟨hl, _, hf⟩ := clean_C hc hp
  refine ⟨_, Comps.append hdd (Comps.drop hl _), rfl, ?_⟩
  intro ho
  rw [foldL_append, hddf ho, foldL_drop, hf ho]

theorem C_newPath {c : Cfg} (hc : COk2 c) {sd dd : List Str} (hdd : Comps c dd) (path : Str) :
    Path.C c (newPath c sd dd path) = dd ++ (Path.C c path).drop sd.length :=
  C_canon hc.ok (Comps.append hdd (Comps.drop (comps_C' hc.ok path) _))

theorem key_newPath {c : Cfg} (hc : COk2 c) {sd dd : List Str} (hdd : Comps c dd)
    {path : Str} {r : List Str} (hr : foldL c (Path.C c path) = foldL c sd ++ r) :
    foldL c (Path.C c (newPath c sd dd path)) = foldL c dd ++ r := by
  rw [C_newPath hc hdd, foldL_append, foldL_drop, hr]
  congr 1
  rw [← foldL_length c sd, List.drop_left]

theorem replacePath_under {c : Cfg} (hc : COk2 c) {fl : Flavour} {sd dd : List Str} (hsd : Comps c sd) (hdd : Comps c dd)
    (hne : dd ≠ []) {path : Str} (hp : Clean c fl path) (hu : Under c (foldL c sd) path) :
    replacePath c path (canon c.sep sd) (canon c.sep dd) = .ok (newPath c sd dd path) := by
  obtain ⟨hl, hpp, _⟩ := clean_C hc hp
  conv => lhs; rw [hpp]
  exact replacePath_canon hc.ok hsd hl hdd (List.isPrefixOf_iff_prefix.2 hu.1) (fun e => hu.2 e.symm) hne

/-- the standing assumptions of a folder move from display path `sd` to `dd` (component lists, not folded), over the state `s1`
    it starts from.  `hinc` and `hF` are no assumptions about the mock: `sim_rename` gets `hinc` and `Tree.Free` from what
    `Tree.rename_ready` says of the reference tree, and `renameMove_rel` turns `Tree.Free` into `hF` through `Rel`. -/
structure DirCtx (c : Cfg) (fl : Flavour) (s1 : St C) (sd dd : List Str) : Prop where
  hc   : COk2 c
  hi1  : Inv c fl s1
  hsd  : Comps c sd
  hdd  : Comps c dd
  hne  : dd ≠ []
  hddf : fl.oip = true → foldL c dd = dd
  /-- source and destination keys are equal or incomparable -/
  hinc : ∀ q, foldL c sd <+: q → foldL c dd <+: q → foldL c sd = foldL c dd
  /-- nothing live lies at or beneath the destination (unless it is the source region itself) -/
  hF   : foldL c dd ≠ foldL c sd → ∀ (j : Nat) (ob : Obj C), s1.heap[j]? = some ob → ob.live = true →
          ¬ foldL c dd <+: foldL c (Path.C c ob.path)

def mv (c : Cfg) (fl : Flavour) (sd dd : List Str) (ob : Obj C) : Obj C := refiled fl ob (newPath c sd dd ob.path)

/-- invariant of the loop in `renameChildren`.  `keys`: an object at or beneath the source that has not been visited is still
    filed under its own path key, which is what `renameSingle_spec` asks of the next object.  Nothing depends on the order of
    visits. -/
structure LInv (c : Cfg) (fl : Flavour) (s1 : St C) (sd dd : List Str) (done : List Nat) (s : St C) : Prop where
  inv   : Inv c fl s
  heap  : ∀ (j : Nat), s.heap[j]? = if j ∈ done then (s1.heap[j]?).map (mv c fl sd dd) else s1.heap[j]?
  moved : ∀ j ∈ done, ∃ ob, s1.heap[j]? = some ob ∧ foldL c sd <+: foldL c (Path.C c ob.path)
  keys  : ∀ (y : Nat) (ob : Obj C), y ∉ done → s1.heap[y]? = some ob → dget s1.dict (norm c ob.path) = some y →
            foldL c sd <+: foldL c (Path.C c ob.path) → dget s.dict (norm c ob.path) = some y

/-- the loop body, and the folder itself at the end -/
theorem refile_step {c : Cfg} {fl : Flavour} {s1 : St C} {sd dd : List Str} (ctx : DirCtx c fl s1 sd dd)
    {done : List Nat} {s : St C} (hL : LInv c fl s1 sd dd done s) {x : Nat} (hx : x ∉ done)
    {ob : Obj C} (h1x : s1.heap[x]? = some ob) (hkx : dget s1.dict (norm c ob.path) = some x)
    (hpre : foldL c sd <+: foldL c (Path.C c ob.path)) (ev : Bool) :
    ∃ sR, renameSingle c fl s x (newPath c sd dd ob.path) ev = (sR, none) ∧ LInv c fl s1 sd dd (done ++ [x]) sR := by
  have hc := ctx.hc
  have hcl : Clean c fl ob.path := ctx.hi1.clean x ob h1x
  have hsx : s.heap[x]? = some ob := by rw [hL.heap x, if_neg hx]; exact h1x
  obtain ⟨rx, hrx⟩ := hpre
  have hclN := clean_newPath hc (sd := sd) ctx.hdd ctx.hddf hcl
  have hkeyN : foldL c (Path.C c (newPath c sd dd ob.path)) = foldL c dd ++ rx := key_newPath hc ctx.hdd hrx.symm
  have hfiled : dget s.dict (norm c ob.path) = some x := hL.keys x ob hx h1x hkx ⟨rx, hrx⟩
  -- whatever `s1` files under a path with the key of `ob` is the cell `x`
  have hsame : ∀ {j : Nat} {o1 : Obj C}, dget s1.dict (norm c o1.path) = some j →
      foldL c (Path.C c o1.path) = foldL c sd ++ rx → j = x := by
    intro j o1 hf1 e
    rw [(norm_eq_iff hc).2 (e.trans hrx), hkx] at hf1
    exact (Option.some.inj hf1).symm
  have hfree : ∀ (h' : Nat) (o' : Obj C), pv s (norm c (newPath c sd dd ob.path)) = some (h', o') → h' = x := by
    intro j ob' hpv
    obtain ⟨hj, hlive, hkey⟩ := (pv_norm_iff hc hL.inv).1 hpv
    rw [hkeyN] at hkey
    by_cases hjd : j ∈ done
    · exfalso
      obtain ⟨ob1, h1j, ⟨r1, hr1⟩⟩ := hL.moved j hjd
      rw [hL.heap j, if_pos hjd, h1j] at hj
      simp only [Option.map_some, Option.some.injEq] at hj
      subst hj
      rw [show foldL c (Path.C c (mv c fl sd dd ob1).path) = foldL c dd ++ r1 from
        key_newPath hc ctx.hdd hr1.symm] at hkey
      have hrr : r1 = rx := List.append_cancel_left hkey
      exact hx (hsame (ctx.hi1.filed j ob1 h1j hlive) (hrr ▸ hr1.symm) ▸ hjd)
    · rw [hL.heap j, if_neg hjd] at hj
      by_cases hds : foldL c dd = foldL c sd
      · exact hsame (ctx.hi1.filed j ob' hj hlive) (hds ▸ hkey)
      · exact absurd (hkey ▸ List.prefix_append _ _) (ctx.hF hds j ob' hj hlive)
  have hCN : Path.C c (newPath c sd dd ob.path) ≠ [] := by rw [C_newPath hc ctx.hdd]; simp [ctx.hne]
  obtain ⟨sR, hres, hu, _⟩ := renameSingle_spec hc hL.inv hsx hfiled hclN hCN hfree ev
  refine ⟨sR, hres, ⟨hu.inv hc hL.inv, ?_, ?_, ?_⟩⟩
  · intro j
    rw [hu.heap]
    by_cases hjx : j = x
    · subst hjx; simp [h1x, mv]
    · simp only [hjx, if_false, List.mem_append, List.mem_singleton, or_false]
      exact hL.heap j
  · intro j hj
    rcases List.mem_append.1 hj with hj | hj
    · exact hL.moved j hj
    · simp only [List.mem_singleton] at hj; subst hj; exact ⟨ob, h1x, ⟨rx, hrx⟩⟩
  · intro y oby hy h1y hky hprey
    have hyd : y ∉ done := fun e => hy (List.mem_append_left _ e)
    have hyx : y ≠ x := fun e => hy (List.mem_append_right _ (by simp [e]))
    obtain ⟨ry, hry⟩ := hprey
    have hneN : norm c oby.path ≠ norm c (newPath c sd dd ob.path) := by
      intro e
      have e' := (norm_eq_iff hc).1 e
      rw [hkeyN, ← hry] at e'
      have hsd : foldL c sd = foldL c dd := ctx.hinc (foldL c sd ++ ry) (List.prefix_append _ _) ⟨rx, e'.symm⟩
      rw [hsd] at e'
      have hrr : ry = rx := List.append_cancel_left e'
      exact hyx (hsame hky (hrr ▸ hry.symm))
    exact hu.keep hyx (hL.keys y oby hyd h1y hky ⟨ry, hry⟩) hneN (hu.ne_oid hc (norm_head hc _) hneN)

theorem linv_init {c : Cfg} {fl : Flavour} {s1 : St C} {sd dd : List Str} (ctx : DirCtx c fl s1 sd dd) :
    LInv c fl s1 sd dd [] s1 :=
  ⟨ctx.hi1, fun j => by simp, fun j hj => by simp at hj, fun y ob _ _ hk _ => hk⟩

/-- the loop's test on a handle of the snapshot -/
def beneath (c : Cfg) (s1 : St C) (sd : List Str) (x : Nat) : Bool :=
  match s1.heap[x]? with
  | some ob => (isSubpath c (canon c.sep sd) ob.path true).truthy
  | none => false

theorem loop_children {c : Cfg} {fl : Flavour} {s1 : St C} {sd dd : List Str} (ctx : DirCtx c fl s1 sd dd)
    (L : List Nat) (hnd : L.Nodup)
    -- a handle of the snapshot is filed under a path key: that gives its heap cell and `norm = k`, for tombstones too
    (hLk : ∀ x ∈ L, ∃ k, k.head? = some '/' ∧ dget s1.dict k = some x)
    {done : List Nat} {s : St C} (hL : LInv c fl s1 sd dd done s) (hdisj : ∀ x ∈ L, x ∉ done) :
    ∃ sF, L.foldl (childStep c fl (canon c.sep sd) (canon c.sep dd)) (s, none) = (sF, none) ∧
      LInv c fl s1 sd dd (done ++ L.filter (beneath c s1 sd)) sF := by
  induction L generalizing done s with
  | nil => exact ⟨s, rfl, by simpa using hL⟩
  | cons x xs ih =>
    have hc := ctx.hc
    simp only [List.nodup_cons] at hnd
    obtain ⟨k, hk, hkx⟩ := hLk x (by simp)
    have hxd : x ∉ done := hdisj x (by simp)
    obtain ⟨ob, h1x⟩ : ∃ ob, s1.heap[x]? = some ob := ⟨_, List.getElem?_eq_getElem (ctx.hi1.valsLt k x hkx)⟩
    have hsx : s.heap[x]? = some ob := by rw [hL.heap x, if_neg hxd]; exact h1x
    have hcl := ctx.hi1.clean x ob h1x
    have hnk : norm c ob.path = k := ctx.hi1.pathKey k x ob hk hkx h1x
    have hb : beneath c s1 sd x = (isSubpath c (canon c.sep sd) ob.path true).truthy := by simp only [beneath, h1x]
    rw [List.foldl_cons, List.filter_cons, hb]
    by_cases htr : (isSubpath c (canon c.sep sd) ob.path true).truthy = true
    · have hu := (under_iff_subpath hc ctx.hsd hcl).1 htr
      obtain ⟨sR, hres, hLR⟩ := refile_step ctx hL hxd h1x (hnk ▸ hkx) hu.1 false
      have hstep : childStep c fl (canon c.sep sd) (canon c.sep dd) (s, none) x = (sR, none) := by
        simp only [childStep, hsx, htr, if_true, replacePath_under hc ctx.hsd ctx.hdd ctx.hne hcl hu]
        exact hres
      rw [hstep, if_pos htr, List.append_cons]
      exact ih hnd.2 (fun y hy => hLk y (List.mem_cons_of_mem _ hy)) hLR (fun y hy e => by
        rcases List.mem_append.1 e with e | e
        · exact hdisj y (List.mem_cons_of_mem _ hy) e
        · simp only [List.mem_singleton] at e; subst e; exact hnd.1 hy)
    · have hstep : childStep c fl (canon c.sep sd) (canon c.sep dd) (s, none) x = (s, none) := by
        simp only [childStep, hsx, htr, Bool.false_eq_true, if_false]
      rw [hstep, if_neg htr]
      exact ih hnd.2 (fun y hy => hLk y (List.mem_cons_of_mem _ hy)) hL (fun y hy => hdisj y (List.mem_cons_of_mem _ hy))

theorem eraseDups_of_nodup {l : List Nat} (h : l.Nodup) : l.eraseDups = l := by
  induction l with
  | nil => rfl
  | cons a as ih =>
    simp only [List.nodup_cons] at h
    rw [List.eraseDups_cons]
    have : as.filter (fun b => !(b == a)) = as := by
      rw [List.filter_eq_self]
      intro b hb
      have : b ≠ a := fun e => h.1 (e ▸ hb)
      simpa using this
    rw [this, ih h.2]

theorem nodup_fsObjects {c : Cfg} {fl : Flavour} {s : St C} (hi : Inv c fl s) : (fsObjects s).Nodup := by
  unfold fsObjects
  rw [List.Nodup, List.pairwise_filterMap]
  have hn := hi.nodup
  rw [List.Nodup, List.pairwise_map] at hn
  refine List.Pairwise.imp_of_mem ?_ hn
  intro e e' he he' hne b hb b' hb' hbb
  -- two path keys for the same handle: both equal the object's normalised path
  split at hb <;> simp only [Option.some.injEq, reduceCtorEq] at hb
  split at hb' <;> simp only [Option.some.injEq, reduceCtorEq] at hb'
  rename_i hk hk'
  have h1 := dget_of_mem hi.nodup (k := e.1) (h := e.2) he
  have h2 := dget_of_mem hi.nodup (k := e'.1) (h := e'.2) he'
  have hob := List.getElem?_eq_getElem (hi.valsLt _ _ h1)
  have k1 := hi.pathKey e.1 e.2 _ (by simpa using hk) h1 hob
  have k2 := hi.pathKey e'.1 e.2 _ (by simpa using hk') (by rw [h2, hb', ← hbb, hb]) hob
  exact hne (k1.symm.trans k2)

theorem nodeOf_mv {c : Cfg} (hc : COk2 c) (fl : Flavour) {sd dd : List Str} (hdd : Comps c dd) (ob : Obj C) :
    nodeOf c (mv c fl sd dd ob) = Tree.moveNode (foldL c sd) dd (nodeOf c ob) := by
  simp only [nodeOf, mv, refiled, Tree.moveNode, C_newPath hc hdd, foldL_length]

theorem move_folder {c : Cfg} {fl : Flavour} {s1 : St C} {sd dd : List Str} (ctx : DirCtx c fl s1 sd dd)
    {h : Nat} {o : Obj C} (h1h : s1.heap[h]? = some o) (hlive : o.live = true) (hkind : o.kind = .dir)
    (hsdo : Path.C c o.path = sd) :
    ∃ sF D, renameMove c fl s1 h o (canon c.sep dd) = (sF, none) ∧ LInv c fl s1 sd dd D sF ∧ h ∈ D ∧
      (∀ (j : Nat) (ob : Obj C), s1.heap[j]? = some ob → ob.live = true →
          foldL c sd <+: foldL c (Path.C c ob.path) → j ∈ D) := by
  have hc := ctx.hc
  have hclo := ctx.hi1.clean h o h1h
  have hopath : o.path = canon c.sep sd := by rw [← hsdo]; exact (clean_C hc hclo).2.1
  have hnf := nodup_fsObjects ctx.hi1
  have hLk : ∀ x ∈ fsObjects s1, ∃ k, k.head? = some '/' ∧ dget s1.dict k = some x := by
    intro x hx
    obtain ⟨k, hm, hk⟩ := mem_fsObjects.1 hx
    exact ⟨k, hk, dget_of_mem ctx.hi1.nodup hm⟩
  obtain ⟨sL, hfold, hLL⟩ := loop_children ctx (fsObjects s1) hnf hLk (linv_init ctx) (fun x _ hx => by simp at hx)
  rw [List.nil_append] at hLL
  have hkeyo : foldL c (Path.C c o.path) = foldL c sd := by rw [hsdo]
  have hhd : h ∉ (fsObjects s1).filter (beneath c s1 sd) := by
    intro e
    have := (List.mem_filter.1 e).2
    simp only [beneath, h1h] at this
    exact ((under_iff_subpath hc ctx.hsd hclo).1 this).2 hkeyo
  have hnp : newPath c sd dd o.path = canon c.sep dd := by
    simp [newPath, hsdo]
  obtain ⟨sF, hres, hLF⟩ := refile_step ctx hLL hhd h1h (ctx.hi1.filed h o h1h hlive) (hkeyo ▸ List.prefix_refl _) true
  rw [hnp] at hres
  refine ⟨sF, _, ?_, hLF, List.mem_append_right _ (by simp), ?_⟩
  · have hk2 : (o.kind == Kind.file) = false := by simp [hkind]
    simp only [renameMove, hk2, Bool.false_eq_true, if_false, renameChildren_eq, eraseDups_of_nodup hnf, hopath, hfold]
    exact hres
  · intro j ob hj hl hpre
    by_cases hkj : foldL c (Path.C c ob.path) = foldL c sd
    · rw [live_key_inj hc ctx.hi1 hj hl h1h hlive (hkj.trans hkeyo.symm)]
      exact List.mem_append_right _ (by simp)
    · refine List.mem_append_left _ (List.mem_filter.2
        ⟨mem_fsObjects.2 ⟨_, mem_of_dget (ctx.hi1.filed j ob hj hl), norm_head hc _⟩, ?_⟩)
      simp only [beneath, hj]
      exact (under_iff_subpath hc ctx.hsd (ctx.hi1.clean j ob hj)).2 ⟨hpre, hkj⟩

theorem rel_after_move {c : Cfg} {fl : Flavour} {s1 : St C} {sd dd : List Str} (ctx : DirCtx c fl s1 sd dd)
    {D : List Nat} {sF : St C} (hL : LInv c fl s1 sd dd D sF)
    (hall : ∀ (j : Nat) (ob : Obj C), s1.heap[j]? = some ob → ob.live = true →
          foldL c sd <+: foldL c (Path.C c ob.path) → j ∈ D)
    {t1 : Tree.T C} (hr1 : Rel c s1 t1) (hfree : Tree.Free t1 (foldL c sd) (foldL c dd)) :
    Rel c sF (Tree.move t1 (foldL c sd) (foldL c dd) dd) := by
  have hc := ctx.hc
  refine rel_of_mem_iff hc hL.inv (Tree.nodup_move dd hfree hr1.tnodup) fun q n => ?_
  rw [Tree.mem_move]
  constructor
  · rintro ⟨⟨k, n0⟩, he, hx⟩
    obtain ⟨j, ob, h1, hl, rfl, rfl⟩ := (hr1.mem_iff hc ctx.hi1).1 he
    by_cases hp : (foldL c sd).isPrefixOf (foldL c (Path.C c ob.path)) = true
    · obtain ⟨r, hr⟩ := List.isPrefixOf_iff_prefix.1 hp
      have hj := hall j ob h1 hl ⟨r, hr⟩
      rw [if_pos hp, ← hr, List.drop_left] at hx
      refine ⟨j, mv c fl sd dd ob, by rw [hL.heap j, if_pos hj, h1]; rfl, hl, ?_, ?_⟩
      · rw [(Prod.mk.inj hx).1]; exact key_newPath hc ctx.hdd hr.symm
      · rw [(Prod.mk.inj hx).2]; exact nodeOf_mv hc fl ctx.hdd ob
    · rw [if_neg hp] at hx
      cases hx
      refine ⟨j, ob, ?_, hl, rfl, rfl⟩
      rw [hL.heap j, if_neg, h1]
      intro hj
      obtain ⟨ob', h1', hp'⟩ := hL.moved j hj
      rw [h1] at h1'; cases h1'
      exact hp (List.isPrefixOf_iff_prefix.2 hp')
  · rintro ⟨j, ob', hj, hl, rfl, rfl⟩
    by_cases hjD : j ∈ D
    · obtain ⟨ob, h1, ⟨r, hr⟩⟩ := hL.moved j hjD
      rw [hL.heap j, if_pos hjD, h1] at hj
      cases hj
      refine ⟨_, (hr1.mem_iff hc ctx.hi1).2 ⟨j, ob, h1, hl, rfl, rfl⟩, ?_⟩
      rw [if_pos (List.isPrefixOf_iff_prefix.2 ⟨r, hr⟩), ← hr, List.drop_left]
      exact Prod.ext (key_newPath hc ctx.hdd hr.symm) (nodeOf_mv hc fl ctx.hdd ob)
    · rw [hL.heap j, if_neg hjD] at hj
      refine ⟨_, (hr1.mem_iff hc ctx.hi1).2 ⟨j, ob', hj, hl, rfl, rfl⟩, ?_⟩
      rw [if_neg]
      exact fun hp => hjD (hall j ob' hj hl (List.isPrefixOf_iff_prefix.1 hp))

/-- the "secret delete" of `rename` -/
theorem delete_empty_dir {c : Cfg} (hc : COk2 c) {fl : Flavour} (hcfg : HashCfg C H) {s : St C} {t : Tree.T C}
    (hi : Inv c fl s) (hr : Rel c s t) {ch : Nat} {co : Obj C} (hco : s.heap[ch]? = some co) (hl : co.live = true)
    (hk : co.kind = .dir) (hempty : Tree.children t (foldL c (Path.C c co.path)) = []) :
    ∃ s', delete c hcfg s co.oid = (s', Res.unit) ∧ Inv c fl s' ∧ Rel c s' (Tree.erase t (foldL c (Path.C c co.path))) ∧
      (∀ (j : Nat), j ≠ ch → s'.heap[j]? = s.heap[j]?) := by
  have hg : getObj s co.oid = some (ch, co) := getObj_some.2 ⟨hi.oidFiled ch co hco hl, hco⟩
  have hb := dirBlocked_rel hc hcfg hi hr hco hl hk
  rw [hempty] at hb
  obtain ⟨h1, _, h3⟩ := sim_set hc hi hr hco hl (o' := { co with live := false }) rfl rfl
  refine ⟨_, delete_live hg hl fun _ => hb, h1.registerEvent _ _ _, (h3 rfl).registerEvent _ _ _, fun j hj => ?_⟩
  show (s.heap.set ch _)[j]? = _
  rw [List.getElem?_set, if_neg (fun e => hj e.symm)]

/-- what `rename` does about the destination.  Refused when something else is live there, unless that is an empty
    folder and the source is a folder too: then it is deleted first.  In the state `rename` continues from, nothing
    else is live at the destination. -/
theorem conflict_rel {c : Cfg} (hc : COk2 c) {fl : Flavour} (hcfg : HashCfg C H) {s : St C} {t : Tree.T C}
    (hi : Inv c fl s) (hr : Rel c s t) {oid : Str} (p : Str) {h : Nat} {o : Obj C}
    (hho : s.heap[h]? = some o) (hl : o.live = true) (hoeq : o.oid = oid) :
    (Tree.renameBlocked t (foldL c (Path.C c p)) (nodeOf c o)
        (if foldL c (Path.C c p) == foldL c (Path.C c o.path) then none else Tree.get t (foldL c (Path.C c p))) = true ∧
      resolveConflict c hcfg s o (conflictOf c s oid p) = (s, some .exists)) ∨
    (Tree.renameBlocked t (foldL c (Path.C c p)) (nodeOf c o)
        (if foldL c (Path.C c p) == foldL c (Path.C c o.path) then none else Tree.get t (foldL c (Path.C c p))) = false ∧
      ∃ s1, resolveConflict c hcfg s o (conflictOf c s oid p) = (s1, none) ∧ Inv c fl s1 ∧
        Rel c s1 (Tree.cleared t (foldL c (Path.C c o.path)) (foldL c (Path.C c p))) ∧ s1.heap[h]? = some o ∧
        (∀ (h' : Nat) (o' : Obj C), pv s1 (norm c p) = some (h', o') → h' = h)) := by
  -- what the tree has at the destination, other than the source itself, gets a name: each case below determines it
  unfold Tree.cleared
  generalize hconf : (if foldL c (Path.C c p) == foldL c (Path.C c o.path) then none
    else Tree.get t (foldL c (Path.C c p))) = conf
  replace hconf := hconf.symm
  rw [hr.get _ (comps_key hc p), ← norm_eq hc] at hconf
  rw [conflict_live hcfg hi p hho hl hoeq]
  cases hpd : pv s (norm c p) with
  | none =>
    have hcn : conf = none := by rw [hconf, hpd]; simp
    subst hcn
    exact Or.inr ⟨rfl, s, rfl, hi, hr, hho, fun h' o' e => by rw [hpd] at e; cases e⟩
  | some cho =>
    obtain ⟨ch, co⟩ := cho
    obtain ⟨hcd, hcho, hcl⟩ := pv_some.1 hpd
    have hkco : foldL c (Path.C c co.path) = foldL c (Path.C c p) := ((pv_norm_iff hc hi).1 hpd).2.2
    by_cases hch : ch = h
    · subst hch
      rw [hho] at hcho; cases hcho
      have hcn : conf = none := by rw [hconf, hkco]; simp
      subst hcn
      refine Or.inr ⟨rfl, s, by simp, hi, hr, hho, fun h' o' e => ?_⟩
      rw [hpd] at e; cases e; rfl
    · simp only [hch, if_false]
      have hks : (foldL c (Path.C c p) == foldL c (Path.C c o.path)) = false := by
        simp only [beq_eq_false_iff_ne, ne_eq]
        exact fun e => hch (live_key_inj hc hi hcho hcl hho hl (hkco.trans e))
      have hcn : conf = some (nodeOf c co) := by rw [hconf, hks, hpd]; rfl
      subst hcn
      simp only [Tree.renameBlocked, nodeOf, resolveConflict, hcl, if_true]
      by_cases hkk : co.kind = o.kind
      · cases hkc : co.kind with
        | file => left; simp [← hkk, hkc]
        | dir =>
          have hdb := dirBlocked_rel hc hcfg hi hr hcho hcl hkc
          rw [hkco] at hdb
          simp only [← hkk, hkc, bne_self_eq_false, Bool.false_eq_true, if_false, beq_self_eq_true, if_true, hdb]
          cases hem : (Tree.children t (foldL c (Path.C c p))).isEmpty with
          | false => left; simp
          | true =>
            have hempty : Tree.children t (foldL c (Path.C c co.path)) = [] := by rw [hkco]; simpa using hem
            obtain ⟨s', hdel, hi', hr', hheap'⟩ := delete_empty_dir hc hcfg hi hr hcho hcl hkc hempty
            rw [hkco] at hr'
            refine Or.inr ⟨by simp, s', by simp [hdel], hi', hr', by rw [hheap' h (fun e => hch e.symm)]; exact hho,
              fun h' o' e => ?_⟩
            have := hr'.get _ (comps_key hc p)
            rw [Tree.get_erase, if_pos rfl, ← norm_eq hc, e] at this
            cases this
      · left
        have : (co.kind != o.kind) = true := by simpa using hkk
        simp [this]

/-- the re-filing part of `rename` (mock.py:529-538), from a state in which nothing else is live at the destination -/
theorem renameMove_rel {c : Cfg} (hc : COk2 c) {fl : Flavour} {s1 : St C} {t1 : Tree.T C} (hi1 : Inv c fl s1)
    (hr1 : Rel c s1 t1) {h : Nat} {o : Obj C} (h1h : s1.heap[h]? = some o) (hl : o.live = true)
    {p : Str} (hp : Clean c fl p) (hpn : Path.C c p ≠ [])
    (hfree : ∀ (h' : Nat) (o' : Obj C), pv s1 (norm c p) = some (h', o') → h' = h)
    (hf1 : Tree.Free t1 (foldL c (Path.C c o.path)) (foldL c (Path.C c p)))
    (hinc : Tree.Incomp (foldL c (Path.C c o.path)) (foldL c (Path.C c p))) :
    ∃ sF, renameMove c fl s1 h o p = (sF, none) ∧ Inv c fl sF ∧ sF.heap[h]? = some (refiled fl o p) ∧
      Rel c sF (if o.kind == .file then
          Tree.set (Tree.erase t1 (foldL c (Path.C c o.path))) (foldL c (Path.C c p)) (nodeOf c (refiled fl o p))
        else Tree.move t1 (foldL c (Path.C c o.path)) (foldL c (Path.C c p)) (Path.C c p)) := by
  have hco := clean_C hc (hi1.clean h o h1h)
  have hcp := clean_C hc hp
  cases hk : o.kind with
  | file =>
    obtain ⟨sR, hres, hu, _⟩ := renameSingle_spec hc hi1 h1h (hi1.filed h o h1h hl) hp hpn hfree true
    refine ⟨sR, ?_, hu.inv hc hi1, by rw [hu.heap, if_pos rfl], rel_refile hc hi1 hr1 h1h hl hu⟩
    simp only [renameMove, hk, beq_self_eq_true, if_true]; exact hres
  | dir =>
    have ctx : DirCtx c fl s1 (Path.C c o.path) (Path.C c p) :=
      { hc := hc, hi1 := hi1, hsd := hco.1, hdd := hcp.1, hne := hpn, hddf := hcp.2.2, hinc := hinc
        hF := by
          intro hds j ob hj hlj hpre
          exact hds (hinc _ (hf1 _ ((hr1.mem_iff hc hi1).2 ⟨j, ob, hj, hlj, rfl, rfl⟩) hpre) hpre).symm }
    obtain ⟨sF, D, hmove, hLF, hhD, hall⟩ := move_folder ctx h1h hl hk rfl
    have hpeq : canon c.sep (Path.C c p) = p := hcp.2.1.symm
    rw [hpeq] at hmove
    refine ⟨sF, hmove, hLF.inv, ?_, rel_after_move ctx hLF hall hr1 hf1⟩
    rw [hLF.heap h, if_pos hhD, h1h]
    simp only [Option.map_some, mv, newPath, List.drop_length, List.append_nil, hpeq]

/-- after a successful rename the returned id resolves to a live object that reports the new path -/
def RenameOk (r : St C × Res C H) (p : Str) : Prop :=
  ∀ x, r.2 = .oid x → ∃ o', liveObj r.1 x = some o' ∧ o'.path = p ∧ o'.oid = x

theorem renameOk_err (s : St C) (e : Err) (p : Str) : RenameOk (H := H) (s, Res.err e) p := by
  intro x hx; cases hx

theorem renameOk_oid {c : Cfg} {fl : Flavour} {s : St C} (hi : Inv c fl s) {h : Nat} {o : Obj C}
    (hho : s.heap[h]? = some o) (hl : o.live = true) : RenameOk (H := H) (s, Res.oid o.oid) o.path := by
  intro x hx
  cases hx
  exact ⟨o, by rw [liveObj_eq, pv_some.2 ⟨hi.oidFiled h o hho hl, hho, hl⟩]; rfl, rfl, rfl⟩

/-- `rename` of whatever the id resolves to: a file moves alone, a folder with everything beneath it -/
theorem sim_rename {c : Cfg} (hc : COk2 c) {fl : Flavour} (hcfg : HashCfg C H)
    {s : St C} {t : Tree.T C} (hi : Inv c fl s) (hr : Rel c s t) (hw : Tree.TWf t) (oid p : Str)
    (hp : Clean c fl p) (hpn : Path.C c p ≠ [])
    (harg : fl.oip = false → oid.head? ≠ some '/')
    (hguard : ∀ (h : Nat) (o : Obj C), pv s oid = some (h, o) →
      foldL c (Path.C c o.path) <+: foldL c (Path.C c p) → foldL c (Path.C c o.path) = foldL c (Path.C c p)) :
    RenameOk (rename c fl hcfg s oid p) p ∧
    Sim c fl hcfg (rename c fl hcfg s oid p) (Tree.rename (tcfg c fl) t (resolve c s oid) (Path.C c p)) := by
  -- as the code goes, one `Tree.rename_*` equation per outcome: resolve the id; parent check (`parent_rel`); the destination
  -- (`conflict_rel`: state `s1`, tree `Tree.cleared`); same path: nothing moves; otherwise `renameMove_rel` and the final asserts
  have hdk := tfold_eq c fl (Path.C c p)
  rcases pv_cases s oid with ⟨hp0, hg | ⟨h, o, hg, hl⟩⟩ | ⟨h, o, hp0, hg, hho, hl⟩
  · rw [Tree.rename_notFound (by rw [lookupT_resolve hc hi hr, hp0]; rfl)]
    simp only [rename, hg]
    exact ⟨renameOk_err _ _ _, hi, hr, .err⟩
  · rw [Tree.rename_notFound (by rw [lookupT_resolve hc hi hr, hp0]; rfl)]
    simp only [rename, hg, hl]
    exact ⟨renameOk_err _ _ _, hi, hr, .err⟩
  have hlk : Tree.lookupT (tcfg c fl) t (resolve c s oid) = some (foldL c (Path.C c o.path), nodeOf c o) := by
    rw [lookupT_resolve hc hi hr, hp0]; rfl
  have hgd := hguard h o hp0
  have hoeq := oid_of_resolved hc hi harg hg
  have hco := clean_C hc (hi.clean h o hho)
  have hcp := clean_C hc hp
  have hgs : Tree.get t (foldL c (Path.C c o.path)) = some (nodeOf c o) :=
    Tree.get_of_mem hr.tnodup ((hr.mem_iff hc hi).2 ⟨h, o, hho, hl, rfl, rfl⟩)
  have hdkne : foldL c (Path.C c p) ≠ [] := fun e => hpn ((foldL_nil_iff c _).1 e)
  have hpar : Tree.parentCheck t (foldL c (Path.C c p)) = verifyParent c s p := by rw [← hdk, parent_rel hc hr hp]
  simp only [rename, hg, hl, Bool.not_true, Bool.false_eq_true, if_false]
  cases hvp : verifyParent c s p with
  | some e =>
    rw [Tree.rename_parent hdk hlk (hpar.trans hvp)]
    exact ⟨renameOk_err _ _ _, hi, hr, .err⟩
  | none =>
    have hpc := hpar.trans hvp
    rcases conflict_rel hc hcfg hi hr p hho hl hoeq with ⟨hb, hrc⟩ | ⟨hb, s1, hrc, hi1, hr1, h1h, hfree⟩
    · rw [hrc, Tree.rename_blocked hdk hlk hpc hb]
      exact ⟨renameOk_err _ _ _, hi, hr, .err⟩
    · rw [hrc, Tree.rename_ok hdk hlk hpc hb]
      simp only [h1h, Option.getD_some]
      have hrd := Tree.rename_ready hw hr.tnodup hgs hdkne hgd hpc hb
      by_cases hsame : o.path = p
      · have h1 : (o.path == p) = true := by simpa using hsame
        have h2 : ((nodeOf c o).disp == Path.C c p) = true := by simp [nodeOf, hsame]
        rw [if_pos h1, if_pos h2]
        refine ⟨hoeq ▸ hsame ▸ renameOk_oid hi1 h1h hl, hi1, hr1, .oid fun ho => ?_⟩
        rw [← hoeq, hi1.pathOid ho h o h1h, hsame]
        exact hcp.2.1
      · have h1 : ¬ (o.path == p) = true := by simpa using hsame
        have h2 : ¬ ((nodeOf c o).disp == Path.C c p) = true := by
          simp only [nodeOf, beq_iff_eq]
          intro e
          apply hsame
          rw [hco.2.1, hcp.2.1, e]
        rw [if_neg h1, if_neg h2]
        obtain ⟨sF, hmove, hiF, hcell, hrF⟩ := renameMove_rel hc hi1 hr1 h1h hl hp hpn hfree hrd.free hrd.incomp
        have hfin : renameFinish (C := C) (H := H) fl sF h o oid = .oid (refiled fl o p).oid := by
          simp only [renameFinish, hcell]
          cases ho : fl.oip with
          | true =>
            have : ((refiled fl o p).oid == o.oid) = false := by
              simp only [refiled, ho, if_true, beq_eq_false_iff_ne, ne_eq]
              rw [hi1.pathOid ho h o h1h]
              exact fun e => hsame e.symm
            simp [this]
          | false => simp [refiled, ho, hoeq]
        rw [hmove]
        simp only
        rw [hfin]
        exact ⟨renameOk_oid hiF hcell hl, hiF, hrF, .oid fun ho => by simp only [refiled, ho, if_true]; exact hcp.2.1⟩

set_option linter.unusedVariables false in
/-- `sim_rename` for a call whose object is a folder -/
theorem sim_rename_dir {c : Cfg} (hc : COk2 c) {fl : Flavour} (hcfg : HashCfg C H)
    {s : St C} {t : Tree.T C} (hi : Inv c fl s) (hr : Rel c s t) (hw : Tree.TWf t) (oid p : Str)
    (hp : Clean c fl p) (hpn : Path.C c p ≠ [])
    (harg : fl.oip = false → oid.head? ≠ some '/')
    (hdir : ∀ (h : Nat) (o : Obj C), pv s oid = some (h, o) → o.kind = .dir)
    (hguard : ∀ (h : Nat) (o : Obj C), pv s oid = some (h, o) →
      foldL c (Path.C c o.path) <+: foldL c (Path.C c p) → foldL c (Path.C c o.path) = foldL c (Path.C c p)) :
    RenameOk (rename c fl hcfg s oid p) p ∧
    Sim c fl hcfg (rename c fl hcfg s oid p) (Tree.rename (tcfg c fl) t (resolve c s oid) (Path.C c p)) :=
  sim_rename hc hcfg hi hr hw oid p hp hpn harg hguard

end CS.MockFS
