import Csverif.Proofs.MockSim
/- Pieces of `rename`: re-filing one object (`_rename_single_object`: `renameSingle_spec`, `rel_refile`), the id of the
   object a call resolves to (`oid_of_resolved`), and the conflict lookup at the destination (`conflict_live`). -/
namespace CS.MockFS
open CS.Path
open CS.Tree (Kind Err)
variable {C H : Type}

theorem rstrip_clean {c : Cfg} (hc : COk2 c) {fl : Flavour} {p : Str} (hp : Clean c fl p) (hpn : Path.C c p ≠ []) :
    rstrip '/' p = p := by
  obtain ⟨hl, hpp, _⟩ := clean_C hc hp
  conv => lhs; rw [hpp]
  conv => rhs; rw [hpp]
  rw [← hc.sep]; exact rstrip_canon hl.1 hpn

theorem unstore_spec {c : Cfg} {s : St C} {o : Obj C} {x : Nat} (hk : dget s.dict (norm c o.path) = some x) :
    ∃ d, unstore c s o = some { s with dict := d } ∧ ((s.dict.map (·.1)).Nodup → (d.map (·.1)).Nodup) ∧
      ∀ q, dget d q = if q = norm c o.path ∨ q = o.oid then none else dget s.dict q := by
  simp only [unstore, hk]
  refine ⟨_, rfl, fun hn => ?_, fun q => ?_⟩
  · split
    · exact nodup_ddel (nodup_ddel hn _) _
    · exact nodup_ddel hn _
  · split
    · rw [dget_ddel, dget_ddel]
      by_cases h1 : q = norm c o.path <;> by_cases h2 : q = o.oid <;> simp [h1, h2]
    · rename_i hns
      rw [dget_ddel] at hns ⊢
      by_cases h1 : q = norm c o.path
      · simp [h1]
      · by_cases h2 : q = o.oid
        · subst h2; simpa [h1] using hns
        · simp [h1, h2]

def refiled (fl : Flavour) (o : Obj C) (p : Str) : Obj C :=
  { o with path := p, oid := if fl.oip then p else o.oid }

/-- `_rename_single_object` on an object, live or a tombstone, that is filed under its own path key (`hfo`).  `hpn`: the code
    strips trailing '/' from the destination, which leaves every clean path but the root alone -/
theorem renameSingle_spec {c : Cfg} (hc : COk2 c) {fl : Flavour} {s : St C} (hi : Inv c fl s)
    {h : Nat} {o : Obj C} (hho : s.heap[h]? = some o) (hfo : dget s.dict (norm c o.path) = some h)
    {p : Str} (hp : Clean c fl p) (hpn : Path.C c p ≠ [])
    (hfree : ∀ (h' : Nat) (o' : Obj C), pv s (norm c p) = some (h', o') → h' = h) (ev : Bool) :
    ∃ sR, renameSingle c fl s h p ev = (sR, none) ∧
      Refile c fl s sR h (refiled fl o p) ∧
      sR.events = s.events ++
        if ev then [{ action := .rename, oid := (refiled fl o p).oid, kind := o.kind, path := p,
                      prior := if fl.oip then some o.oid else none, trashed := !o.live }] else [] := by
  obtain ⟨d, hu, hnd, hdg⟩ := unstore_spec (c := c) (s := s) (o := o) hfo
  have hres : ∃ sR, renameSingle c fl s h p ev = (sR, none) ∧ sR.heap = s.heap.set h (refiled fl o p) ∧
      sR.dict = (store c { s with dict := d, heap := s.heap.set h (refiled fl o p) } h (refiled fl o p)).dict ∧
      sR.nextId = s.nextId ∧
      sR.events = s.events ++
        if ev then [{ action := .rename, oid := (refiled fl o p).oid, kind := o.kind, path := p,
                      prior := if fl.oip then some o.oid else none, trashed := !o.live }] else [] := by
    simp only [renameSingle, hho, rstrip_clean hc hp hpn, hu]
    cases ev <;> exact ⟨_, rfl, rfl, rfl, rfl, by simp [registerEvent, store, refiled]⟩
  obtain ⟨sR, hres, hheap, hdict, hnext, hev⟩ := hres
  refine ⟨sR, hres, ?_, hev⟩
  have hpath : (refiled fl o p).path = p := rfl
  have hoid : (refiled fl o p).oid = if fl.oip then p else o.oid := rfl
  refine
    { heap := ?heap, dict := ?dict, nodup := hdict ▸ nodup_store (hnd hi.nodup) _ _, next := Nat.le_of_eq hnext.symm,
      clean := hp, free := ?free, pathOid := ?pathOid, idOid := ?idOid }
  case heap => exact fun j => hheap ▸ getElem?_set_cell hho _ j
  case dict =>
    intro q
    rw [hdict, dget_store { s with dict := d, heap := s.heap.set h (refiled fl o p) }, hdg]
    · -- the keys `unstore` removed are those that pointed at the cell
      by_cases hq : q = norm c o.path ∨ q = o.oid
      · rw [if_pos hq]
        cases hd' : dget s.dict q with
        | none => simp
        | some j => simp [cell_of_key hc hi hho hfo hq hd']
      · rw [if_neg hq, if_neg (fun e => hq (key_of_cell hi hho e))]
    · cases ho : fl.oip with
      | true => left; rw [hoid, hpath, if_pos ho, norm_eq_self_of_oip hc hp ho]
      | false => right; simp [hdg, hoid, ho]
  case free =>
    intro j ob hg hl he
    exact hfree j ob (pv_some.2 ⟨he ▸ hi.filed j ob hg hl, hg, hl⟩)
  case pathOid =>
    intro ho; rw [hoid, if_pos ho, hpath]
  case idOid =>
    intro ho
    have : (refiled fl o p).oid = o.oid := by simp [hoid, ho]
    rw [this, hnext]
    exact ⟨hi.idAll ho h o hho, fun j ob hg e => hi.oidUnique ho j h ob o hg hho e⟩

theorem rel_refile {c : Cfg} (hc : COk2 c) {fl : Flavour} {s sR : St C} {t : Tree.T C} (hi : Inv c fl s) (hr : Rel c s t)
    {h : Nat} {o : Obj C} (hho : s.heap[h]? = some o) (hlive : o.live = true) {p : Str}
    (hu : Refile c fl s sR h (refiled fl o p)) :
    Rel c sR (Tree.set (Tree.erase t (foldL c (Path.C c o.path))) (foldL c (Path.C c p)) (nodeOf c (refiled fl o p))) := by
  refine hu.rel hc hi hr (Tree.nodup_set (Tree.nodup_erase hr.tnodup _) _ _) fun e => ?_
  -- `hmem`: the entry at the old key goes (`mem_erase_iff`), the new key holds the new entry (`mem_set_iff`)
  simp only [Tree.mem_set_iff, Tree.mem_erase_iff, hho, Option.some.injEq,
    show (refiled fl o p).path = p from rfl, show (refiled fl o p).live = true from hlive]
  simp [hlive, and_assoc, and_comm]

theorem oid_of_resolved {c : Cfg} (hc : COk2 c) {fl : Flavour} {s : St C} (hi : Inv c fl s)
    {oid : Str} (harg : fl.oip = false → oid.head? ≠ some '/')
    {h : Nat} {o : Obj C} (hg : getObj s oid = some (h, o)) : o.oid = oid := by
  obtain ⟨hd, hho⟩ := getObj_some.1 hg
  cases ho : fl.oip with
  | true =>
    have hk := hi.pathKeysHead ho oid h hd
    have := hi.pathKey oid h o hk hd hho
    rw [hi.pathOid ho h o hho, ← norm_eq_self_of_oip hc (hi.clean h o hho) ho]
    exact this
  | false => exact hi.idKeyOid ho oid h o (harg ho) hd hho

/-- mock.py:499-503: the conflict `rename` looks at is whatever else is live at the destination (a tombstone filed
    there, or the object itself, is none) -/
theorem conflict_live {c : Cfg} {fl : Flavour} (hcfg : HashCfg C H) {s : St C} (hi : Inv c fl s) {oid : Str} (p : Str)
    {h : Nat} {o : Obj C} (hho : s.heap[h]? = some o) (hl : o.live = true) (hoeq : o.oid = oid) :
    resolveConflict c hcfg s o (conflictOf c s oid p) =
      match pv s (norm c p) with
      | some (ch, co) => if ch = h then (s, none) else resolveConflict c hcfg s o (some (ch, co))
      | none => (s, none) := by
  unfold conflictOf getByPath
  cases hgp : getObj s (norm c p) with
  | none => rw [pv_of_getObj_none hgp]; rfl
  | some cho =>
    obtain ⟨ch, co⟩ := cho
    have hcho := (getObj_some.1 hgp).2
    rw [pv_of_getObj hgp]
    cases hcl : co.live with
    | false =>
      simp only [Bool.false_eq_true, if_false]
      split <;> simp [resolveConflict, hcl]
    | true =>
      simp only [if_true]
      by_cases hch : ch = h
      · subst hch
        rw [hho] at hcho; cases hcho
        simp [hoeq, resolveConflict]
      · have hne : (co.oid == oid) = false := by
          simp only [beq_eq_false_iff_ne, ne_eq]
          intro e
          have h1 := hi.oidFiled ch co hcho hcl
          rw [e, ← hoeq, hi.oidFiled h o hho hl] at h1
          exact hch (Option.some.inj h1).symm
        simp only [hne, Bool.false_eq_true, if_false, hch]

/-- the two asserts at the end of `rename` (mock.py:537-546): an id-style provider answers with the id it was given -/
theorem renameFinish_oid {fl : Flavour} {s : St C} {h : Nat} {o : Obj C} {oid x : Str} (hid : fl.oip = false)
    (hx : renameFinish (H := H) fl s h o oid = .oid x) : x = oid := by
  unfold renameFinish at hx
  cases hh : s.heap[h]? with
  | none => rw [hh] at hx; cases hx
  | some o2 =>
    simp only [hh, hid, Bool.false_and, Bool.false_eq_true, if_false, Bool.not_false, Bool.true_and] at hx
    by_cases hne : (o2.oid != oid) = true
    · rw [if_pos hne] at hx; cases hx
    · rw [if_neg hne] at hx
      cases hx
      simpa using hne

/-- the answers of `rename`, branch by branch of mock.py:489-546: an error class, the id it was given (the object already has
    the path), or what the final asserts say after the move -/
theorem rename_result (c : Cfg) (fl : Flavour) (hcfg : HashCfg C H) (s : St C) (oid p : Str) :
    (∃ e, (rename c fl hcfg s oid p).2 = .err e) ∨ (rename c fl hcfg s oid p).2 = .oid oid ∨
    ∃ s2 h o, (rename c fl hcfg s oid p).2 = renameFinish fl s2 h o oid := by
  unfold rename
  cases getObj s oid with
  | none => exact .inl ⟨_, rfl⟩                       -- the id resolves to nothing
  | some ho =>
    obtain ⟨h, o⟩ := ho
    dsimp only
    cases hl : o.live with
    | false => exact .inl ⟨_, rfl⟩                    -- … or to a tombstone
    | true =>
      simp only [Bool.not_true, Bool.false_eq_true, if_false]
      cases verifyParent c s p with
      | some e => exact .inl ⟨e, rfl⟩                 -- the destination's parent is missing or a file
      | none =>
        simp only
        generalize resolveConflict c hcfg s o (conflictOf c s oid p) = rc
        obtain ⟨s1, _ | e⟩ := rc
        · simp only
          by_cases hsame : ((s1.heap[h]?.getD o).path == p) = true
          · rw [if_pos hsame]; exact .inr (.inl rfl)  -- nothing to move
          · rw [if_neg hsame]
            generalize renameMove c fl s1 h (s1.heap[h]?.getD o) p = rm
            obtain ⟨s2, _ | e⟩ := rm
            · exact .inr (.inr ⟨s2, h, _, rfl⟩)       -- moved
            · exact .inl ⟨e, rfl⟩                     -- `_rename_single_object` failed
        · exact .inl ⟨e, rfl⟩                         -- the destination is occupied

end CS.MockFS
