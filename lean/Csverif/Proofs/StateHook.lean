import Csverif.Proofs.StateInv
/-
C11: the attribute hook.  One judgment for the model's monad, `Ho st m Q E`: what the run of `m` from the state `st` leaves, with a
predicate on the exception raised, since what is proved about the hook has to say which exceptions are possible and when the fuel
suffices.  It speaks of one state: a theorem about the hook takes what it needs of `st` as hypotheses, and `Ho.bind` hands the state
reached to what follows.  `Tr`, in which the theorems about whole operations are stated, is `Ho` from every state of a precondition
with nothing claimed when the fuel runs out (`ho_tr`).
Then the specification of `_change_oid` and of `ent[side].oid = v` with respect to `Idx`/`Pend`.
-/
namespace CS.State

@[simp] theorem M.pure_apply {α} (a : α) (st : St) : (pure a : M α) st = (.ok a, st) := rfl
@[simp] theorem M.bind_apply {α β} (m : M α) (f : α → M β) (st : St) :
    (m >>= f) st = match m st with | (.ok a, s') => f a s' | (.error e, s') => (.error e, s') := rfl
@[simp] theorem getSt_apply (st : St) : getSt st = (.ok st, st) := rfl
@[simp] theorem modifySt_apply (f : St → St) (st : St) : modifySt f st = (.ok (), f st) := rfl
@[simp] theorem throwE_apply {α} (e : Exc) (st : St) : (throwE e : M α) st = (.error e, st) := rfl
@[simp] theorem M.ite_apply {α} (c : Prop) [Decidable c] (a b : M α) (st : St) :
    (if c then a else b) st = if c then a st else b st := by split <;> rfl
theorem assertM_apply (b : Bool) (st : St) : assertM b st = if b then (.ok (), st) else (.error .assert, st) := by
  unfold assertM; split <;> rfl
theorem finallyM_apply {α} (m : M α) (f : St → St) (st : St) : finallyM m f st = ((m st).1, f (m st).2) := by
  unfold finallyM; cases m st; rfl

def Inv (st : St) : Prop := Idx noX st ∧ Pend st

def Ho {α} (st : St) (m : M α) (Q : α → St → Prop) (E : Exc → St → Prop) : Prop :=
  (∀ a, (m st).1 = .ok a → Q a (m st).2) ∧ (∀ x, (m st).1 = .error x → E x (m st).2)

theorem Ho.outcome {m : M Unit} {Q : St → Prop} {R : Prop} {st : St} (h : Ho st m (fun _ => Q) (fun x _ => R ∧ x = .recursion)) :
    (R ∧ (m st).1 = .error .recursion) ∨ ((m st).1 = .ok () ∧ Q (m st).2) := by
  cases hr : (m st).1 with
  | ok a => exact Or.inr ⟨rfl, h.1 a hr⟩
  | error x => obtain ⟨hR, rfl⟩ := h.2 x hr; exact Or.inl ⟨hR, rfl⟩

theorem Ho.outcome3 {m : M Unit} {Q E : St → Prop} {st : St} (h : Ho st m (fun _ => Q) (fun x st' => x = .recursion ∨ E st')) :
    (m st).1 = .error .recursion ∨ (∃ x, (m st).1 = .error x ∧ E (m st).2) ∨ ((m st).1 = .ok () ∧ Q (m st).2) := by
  cases hr : (m st).1 with
  | ok a => exact Or.inr (Or.inr ⟨rfl, h.1 a hr⟩)
  | error x =>
    rcases h.2 x hr with rfl | he
    · exact Or.inl rfl
    · exact Or.inr (Or.inl ⟨x, rfl, he⟩)

namespace Ho
variable {α β : Type} {st : St} {Q Q' : α → St → Prop} {E E' : Exc → St → Prop}

theorem pure {a : α} (h : Q a st) : Ho st (Pure.pure a : M α) Q E :=
  ⟨fun a' ha => (by cases ha; exact h), fun x hx => by cases hx⟩

theorem bind {m : M α} {f : α → M β} {R : α → St → Prop} {Q : β → St → Prop}
    (h1 : Ho st m R E) (h2 : ∀ a st', R a st' → Ho st' (f a) Q E) : Ho st (m >>= f) Q E := by
  simp only [Ho, M.bind_apply]
  cases hm : m st with
  | mk r st' =>
    rw [Ho, hm] at h1
    cases r with
    | ok a => exact h2 a st' (h1.1 a rfl)
    | error x => exact ⟨fun a ha => (by cases ha), fun y hy => by cases hy; exact h1.2 x rfl⟩

theorem getSt {f : St → M β} {Q : β → St → Prop} (h : Ho st (f st) Q E) : Ho st (getSt >>= f) Q E := h

theorem modify {f : St → St} {Q : Unit → St → Prop} (h : Q () (f st)) : Ho st (modifySt f) Q E :=
  ⟨fun _ _ => h, fun x hx => by cases hx⟩

theorem modify_bind {f : St → St} {g : Unit → M β} {Q : β → St → Prop} (h : Ho (f st) (g ()) Q E) : Ho st (modifySt f >>= g) Q E := h

theorem throw {x : Exc} (h : E x st) : Ho st (throwE x : M α) Q E :=
  ⟨fun a ha => (by cases ha), fun y hy => by cases hy; exact h⟩

theorem assert {b : Bool} {Q : Unit → St → Prop} (hE : b = false → E .assert st) (hQ : b = true → Q () st) : Ho st (assertM b) Q E := by
  rw [Ho, assertM_apply]
  cases b with
  | true => exact ⟨fun _ _ => hQ rfl, fun x hx => by cases hx⟩
  | false => exact ⟨fun a ha => (by cases ha), fun y hy => by cases hy; exact hE rfl⟩

theorem when {c : Bool} {m : M Unit} {Q : Unit → St → Prop} (h : c = true → Ho st m Q E) (h' : c = false → Q () st) :
    Ho st (whenM c m) Q E := by
  unfold whenM
  cases c with
  | true => exact h rfl
  | false => exact pure (h' rfl)

theorem ite {c : Prop} [Decidable c] {a b : M α} (h : c → Ho st a Q E) (h' : ¬ c → Ho st b Q E) : Ho st (if c then a else b) Q E := by
  split
  · next hc => exact h hc
  · next hc => exact h' hc

theorem conseq {m : M α} (h : Ho st m Q E) (hQ : ∀ a st', Q a st' → Q' a st') (hE : ∀ x st', E x st' → E' x st') : Ho st m Q' E' :=
  ⟨fun a ha => hQ a _ (h.1 a ha), fun x hx => hE x _ (h.2 x hx)⟩

theorem finally_ {m : M α} {f : St → St} {Q0 : α → St → Prop} {E0 : Exc → St → Prop} (h : Ho st m Q0 E0)
    (hQ : ∀ a st', Q0 a st' → Q a (f st')) (hE : ∀ x st', E0 x st' → E x (f st')) : Ho st (finallyM m f) Q E := by
  rw [Ho, finallyM_apply]
  exact ⟨fun a ha => hQ a _ (h.1 a ha), fun x hx => hE x _ (h.2 x hx)⟩

theorem of_eq {m : M α} {st' : St} {r : Except Exc α} (h : m st = (r, st')) (hQ : ∀ a, r = .ok a → Q a st')
    (hE : ∀ x, r = .error x → E x st') : Ho st m Q E := by
  rw [Ho, h]; exact ⟨hQ, hE⟩

end Ho

def Tr {α} (P : St → Prop) (m : M α) (Q : α → St → Prop) (E : St → Prop) : Prop :=
  ∀ st, P st → (∀ a, (m st).1 = .ok a → Q a (m st).2) ∧ (∀ x, (m st).1 = .error x → x ≠ .recursion → E (m st).2)

theorem ho_tr {α} {P : St → Prop} {m : M α} {Q : α → St → Prop} {E : St → Prop} :
    (∀ st, P st → Ho st m Q (fun x st' => x ≠ .recursion → E st')) ↔ Tr P m Q E := Iff.rfl

theorem Ho.tr {α} {st0 : St} {m : M α} {Q : α → St → Prop} {E : St → Prop} (h : Ho st0 m Q (fun x st' => x ≠ .recursion → E st')) :
    Tr (fun st => st = st0) m Q E := by rintro _ rfl; exact h

namespace Tr
variable {α β : Type} {P P' : St → Prop} {Q Q' : α → St → Prop} {E E' : St → Prop}

theorem pure {a : α} (h : ∀ st, P st → Q a st) : Tr P (Pure.pure a : M α) Q E := ho_tr.1 fun st hp => Ho.pure (h st hp)

theorem bind {m : M α} {f : α → M β} {R : α → St → Prop} {Q : β → St → Prop}
    (h1 : Tr P m R E) (h2 : ∀ a, Tr (R a) (f a) Q E) : Tr P (m >>= f) Q E :=
  ho_tr.1 fun st hp => Ho.bind (ho_tr.2 h1 st hp) fun a => ho_tr.2 (h2 a)

theorem getSt_bind {f : St → M β} {Q : β → St → Prop} (h : ∀ st0, Tr (fun st => st = st0 ∧ P st) (f st0) Q E) :
    Tr P (getSt >>= f) Q E := fun st hp => h st st ⟨rfl, hp⟩

theorem modify {f : St → St} {Q : Unit → St → Prop} (h : ∀ st, P st → Q () (f st)) : Tr P (modifySt f) Q E :=
  ho_tr.1 fun st hp => Ho.modify (h st hp)

theorem throw {x : Exc} (h : x ≠ .recursion → ∀ st, P st → E st) : Tr P (throwE x : M α) Q E :=
  ho_tr.1 fun st hp => Ho.throw fun hne => h hne st hp

theorem assert {b : Bool} {Q : Unit → St → Prop} (hE : ∀ st, P st → b = false → E st) (hQ : ∀ st, P st → b = true → Q () st) :
    Tr P (assertM b) Q E := ho_tr.1 fun st hp => Ho.assert (fun hb _ => hE st hp hb) (hQ st hp)

theorem when {c : Bool} {m : M Unit} {Q : Unit → St → Prop} (h : c = true → Tr P m Q E) (h' : c = false → ∀ st, P st → Q () st) :
    Tr P (whenM c m) Q E := ho_tr.1 fun st hp => Ho.when (fun hc => ho_tr.2 (h hc) st hp) (fun hc => h' hc st hp)

theorem ite {c : Prop} [Decidable c] {a b : M α} (h : c → Tr P a Q E) (h' : ¬ c → Tr P b Q E) : Tr P (if c then a else b) Q E :=
  ho_tr.1 fun st hp => Ho.ite (fun hc => ho_tr.2 (h hc) st hp) (fun hc => ho_tr.2 (h' hc) st hp)

theorem conseq {m : M α} (h : Tr P m Q E) (hP : ∀ st, P' st → P st) (hQ : ∀ a st, Q a st → Q' a st) (hE : ∀ st, E st → E' st) :
    Tr P' m Q' E' := ho_tr.1 fun st hp => (ho_tr.2 h st (hP st hp)).conseq hQ fun _ st' he hx => hE st' (he hx)

theorem pre {m : M α} (h : Tr P m Q E) (hP : ∀ st, P' st → P st) : Tr P' m Q E := fun st hp => h st (hP st hp)

theorem with_pre {m : M α} {φ : Prop} (hφ : ∀ st, P st → φ) (h : φ → Tr P m Q E) : Tr P m Q E := fun st hp => h (hφ st hp) st hp

theorem seq {m : M α} {m' : M β} {J : St → Prop} {Q : β → St → Prop} (h1 : Tr P m (fun _ => J) E) (h2 : Tr J m' Q E) :
    Tr P (m >>= fun _ => m') Q E := bind h1 (fun _ => h2)

theorem getSt_bind' {f : St → M β} {Q : β → St → Prop} (h : ∀ st0, Tr P (f st0) Q E) : Tr P (getSt >>= f) Q E :=
  fun st hp => h st st hp

theorem getSt_fix {f : St → M β} {Q : β → St → Prop} (h : ∀ st0, P st0 → Tr (fun st => st = st0) (f st0) Q E) :
    Tr P (getSt >>= f) Q E := fun st hp => h st hp st rfl

theorem when' {c : Bool} {m : M Unit} (h : Tr P m (fun _ => P) E) : Tr P (whenM c m) (fun _ => P) E :=
  when (fun _ => h) (fun _ _ h => h)

theorem fix {m : M α} (h : ∀ st1, P st1 → Tr (fun st => st = st1) m Q E) : Tr P m Q E := fun st hp => h st hp st rfl

theorem exists_pre {ι : Type} {m : M α} {P : ι → St → Prop} (h : ∀ x, Tr (P x) m Q E) : Tr (fun st => ∃ x, P x st) m Q E :=
  fun st ⟨x, hp⟩ => h x st hp

theorem false_pre {m : M α} (h : ∀ st, P st → False) : Tr P m Q E := fun st hp => (h st hp).elim

/-- not a `Tr` but what a `Tr` says of one state, from an explicit outcome -/
theorem of_eq {m : M α} {st : St} {r : Except Exc α} {st' : St} (h : m st = (r, st'))
    (hok : ∀ a, r = .ok a → Q a st') (herr : ∀ x, r = .error x → x ≠ .recursion → E st') :
    (∀ a, (m st).1 = .ok a → Q a (m st).2) ∧ (∀ x, (m st).1 = .error x → x ≠ .recursion → E (m st).2) := by
  rw [h]; exact ⟨hok, herr⟩

end Tr

theorem sideSet_zero_tr {P : St → Prop} {Q : Unit → St → Prop} {E : St → Prop} (cfg : Cfg) (e : Nat) (s : Sd) (fv : FV) :
    Tr P (sideSet cfg 0 e s fv) Q E := Tr.throw (fun h => absurd rfl h)

/-- effect of `prior_ent[side].oid = None` on an entry whose id slot is already gone (state.py:910-912, 930-933).  The nested
`_change_oid(None)` finds nothing to remove, because the slot of the old id has just been erased and `None` is never a key (`h1`, `h2`
of `sideSetBody_oid_none_eq`); what is left is the pending-set rule, the dirty mark and the field write, so the mutual recursion
has this closed form. -/
def oustState (st : St) (p : Nat) (s : Sd) : St :=
  ((oidCsRule st p s none).dirtyAdd p).modSide p s (fun x => { x with oid := none })

theorem removeOne_eq (setF : SetF) (s : Sd) (e : Nat) (r : Oid) (st : St) :
    removeOne setF s e r st =
      match AL.get (st.oids s) r with
      | none => (.ok (), st)
      | some p => if p ≠ e then setF p s (.oid none) (unindex st s r p) else (.ok (), unindex st s r p) := by
  simp only [removeOne, M.bind_apply, getSt_apply]
  cases AL.get (st.oids s) r with
  | none => rfl
  | some p =>
    by_cases hp : p = e <;> simp [hp, whenM]

theorem sideSetBody_oid_none_eq (setF : SetF) (cfg : Cfg) (p : Nat) (s : Sd) (st : St)
    (h1 : AL.get (st.oids s) (st.side p s).oid = none) (h2 : AL.get (st.oids s) none = none) :
    sideSetBody setF cfg p s (.oid none) st = (.ok (), oustState st p s) := by
  simp only [sideSetBody, updatedSide, changeOid, M.bind_apply, getSt_apply, removeOne_eq, h1, whenM]
  by_cases hc : (st.side p s).oid = none
  · simp [hc, oustState]
  · have : none ≠ (st.side p s).oid := fun h => hc h.symm
    simp [this, h2, oustState, removeOne_eq]

/-- `R` says whether running out of fuel is a possible outcome (for `sideSet cfg n`: `n = 0`, see `oustOk_fuel`) -/
def OustOk (R : Prop) (setF : SetF) : Prop :=
  ∀ p s st, AL.get (st.oids s) (st.side p s).oid = none → AL.get (st.oids s) none = none →
    Ho st (setF p s (.oid none)) (fun _ st' => st' = oustState st p s) (fun x _ => R ∧ x = .recursion)

theorem oustOk_fuel (cfg : Cfg) (n : Nat) : OustOk (n = 0) (sideSet cfg n) := by
  intro p s st h1 h2
  cases n with
  | zero => exact Ho.throw ⟨rfl, rfl⟩
  | succ n => exact Ho.of_eq (sideSetBody_oid_none_eq _ cfg p s st h1 h2) (fun _ _ => rfl) nofun

@[simp] theorem oids_oidCsRule (st : St) (e s k s') : (oidCsRule st e s k).oids s' = st.oids s' := by
  unfold oidCsRule; split <;> split <;> simp
@[simp] theorem paths_oidCsRule (st : St) (e s k s') : (oidCsRule st e s k).paths s' = st.paths s' := by
  unfold oidCsRule; split <;> split <;> simp
@[simp] theorem ents_oidCsRule (st : St) (e s k) : (oidCsRule st e s k).ents = st.ents := by
  unfold oidCsRule; split <;> split <;> simp
@[simp] theorem side_oidCsRule (st : St) (e s k i s') : (oidCsRule st e s k).side i s' = st.side i s' := by
  unfold oidCsRule; split <;> split <;> simp
@[simp] theorem slot_oidCsRule (st : St) (e s k s' p k') : (oidCsRule st e s k).slot s' p k' = st.slot s' p k' :=
  slot_congr (by simp) ..

theorem Sd.eq_or_other (s s' : Sd) : s' = s ∨ s' = s.other := by cases s <;> cases s' <;> simp [Sd.other]

theorem Idx.oust {X st} {p s} (h : Idx (X.add p s) st) (hc : Clean st p s) (hlt : p < st.ents.length) : Idx X (oustState st p s) := by
  unfold oustState
  apply Idx.clearOid
  · exact h.congr (by simp) (by simp) (by simp) (by simp)
  · obtain ⟨c1, c2⟩ := hc
    exact ⟨fun k => by simpa using c1 k, fun p' k => by simpa using c2 p' k⟩
  · simpa using hlt

theorem Pend.oust {st} (h : Pend st) (p : Nat) (s : Sd) (hlt : p < st.ents.length) : Pend (oustState st p s) := by
  intro i ⟨s', h1, h2⟩
  show i ∈ (oidCsRule st p s none).cs
  unfold oustState at h1 h2
  rw [side_modSide] at h1 h2
  by_cases hc : i = p ∧ s' = s
  · rw [if_pos ⟨hc.1, hc.2, by simpa using hlt⟩] at h2; cases h2
  · rw [if_neg (fun hh => hc ⟨hh.1, hh.2.1⟩), side_dirtyAdd, side_oidCsRule] at h1 h2
    have hm := h i ⟨s', h1, h2⟩
    simp only [oidCsRule]
    split
    · next hd =>
      -- `p` leaves the pending set only when its other side has no flag, and then nothing asks for it
      refine (mem_csDiscard ..).2 ⟨?_, hm⟩
      rintro rfl
      obtain rfl : s' = s.other := (Sd.eq_or_other s s').resolve_left (fun hs => hc ⟨rfl, hs⟩)
      simp [h1] at hd
    · exact hm

@[simp] theorem oids_unindex (st : St) (s r p s') : (unindex st s r p).oids s' = if s' = s then AL.erase (st.oids s) r else st.oids s' := by
  unfold unindex; split <;> simp
@[simp] theorem ents_unindex (st : St) (s r p) : (unindex st s r p).ents = st.ents := by unfold unindex; split <;> simp
@[simp] theorem cs_unindex (st : St) (s r p) : (unindex st s r p).cs = st.cs := by unfold unindex; split <;> simp
@[simp] theorem side_unindex (st : St) (s r p i s') : (unindex st s r p).side i s' = st.side i s' := by unfold unindex; split <;> simp

/-- the unconditional pop of `forget_oid` is `unindex`'s conditional one: under the index clauses a falsy path has no bucket -/
theorem unindex_eq {X st} (h : Idx X st) {s : Sd} {k : Oid} {e : Nat} :
    (st.setOids s (AL.erase (st.oids s) k)).popPathSlot s (st.side e s).path k = unindex st s k e := by
  unfold unindex
  by_cases ht : truthyS (st.side e s).path = true
  · simp [ht]
  · simp only [ht, Bool.false_eq_true, if_false]
    unfold St.popPathSlot
    simp only [paths_setOids]
    cases hb : AL.get (st.paths s) (st.side e s).path with
    | none => rfl
    | some b => exact absurd (h.pathKey s _ b hb).1 ht

@[simp] theorem oids_oustState (st : St) (p s s') : (oustState st p s).oids s' = st.oids s' := by simp [oustState]
@[simp] theorem len_oustState (st : St) (p s) : (oustState st p s).ents.length = st.ents.length := by simp [oustState]
theorem side_oustState (st : St) (p s i s') :
    (oustState st p s).side i s' = if i = p ∧ s' = s ∧ p < st.ents.length then { st.side p s with oid := none } else st.side i s' := by
  unfold oustState; rw [side_modSide]; simp

@[simp] theorem len_indexOid (st : St) (e s k) : (indexOid st e s k).ents.length = st.ents.length := by
  unfold indexOid; simp only []; split <;> simp
theorem side_indexOid (st : St) (e s k i s') :
    (indexOid st e s k).side i s' = if i = e ∧ s' = s ∧ e < st.ents.length then { st.side e s with oid := k } else st.side i s' := by
  unfold indexOid; simp only []; split <;> simp only [side_setPathSlot, side_setOids, side_modSide]
@[simp] theorem cs_indexOid (st : St) (e s k) : (indexOid st e s k).cs = st.cs := by
  unfold indexOid; simp only []; split <;> simp
theorem lookupOid_indexOid (st : St) (e s k) : (indexOid st e s k).lookupOid s k = some e := by
  unfold indexOid St.lookupOid; simp only []; split <;> simp [AL.get_set]

/-- what an operation may do to the fields that `_update_kids` reads when a directory moves (`otype`, to tell a directory; `path`, to
find its kids): nothing, except to the `path` of `t` -/
def Frame (t : Option (Nat × Sd)) (st st' : St) : Prop :=
  st'.ents.length = st.ents.length ∧
  ∀ i s, (st'.side i s).otype = (st.side i s).otype ∧ (some (i, s) ≠ t → (st'.side i s).path = (st.side i s).path)

theorem Frame.refl (t) (st : St) : Frame t st st := ⟨rfl, fun _ _ => ⟨rfl, fun _ => rfl⟩⟩
theorem Frame.trans {t st st' st''} (h1 : Frame t st st') (h2 : Frame t st' st'') : Frame t st st'' :=
  ⟨h2.1.trans h1.1, fun i s => ⟨((h2.2 i s).1).trans (h1.2 i s).1, fun hn => ((h2.2 i s).2 hn).trans ((h1.2 i s).2 hn)⟩⟩
theorem Frame.weaken {t st st'} (h : Frame none st st') : Frame t st st' :=
  ⟨h.1, fun i s => ⟨(h.2 i s).1, fun _ => (h.2 i s).2 (by simp)⟩⟩
theorem Frame.of_sides {st st' : St} (hl : st'.ents.length = st.ents.length)
    (h : ∀ i s, (st'.side i s).otype = (st.side i s).otype ∧ (st'.side i s).path = (st.side i s).path) : Frame none st st' :=
  ⟨hl, fun i s => ⟨(h i s).1, fun _ => (h i s).2⟩⟩

theorem frame_unindex (st : St) (s r p) : Frame none st (unindex st s r p) := Frame.of_sides (by simp) (by simp)
theorem frame_oustState (st : St) (p s) : Frame none st (oustState st p s) := by
  refine Frame.of_sides (by simp) (fun i s' => ?_)
  rw [side_oustState]; split
  · next h => obtain ⟨h1, h2, _⟩ := h; subst h1; subst h2; simp
  · simp
theorem frame_indexOid (st : St) (e s k) : Frame none st (indexOid st e s k) := by
  refine Frame.of_sides (by simp) (fun i s' => ?_)
  rw [side_indexOid]; split
  · next h => obtain ⟨h1, h2, _⟩ := h; subst h1; subst h2; simp
  · simp

structure Removed (X : Ex2) (st : St) (s : Sd) (e : Nat) (r : Oid) (st' : St) : Prop where
  idx : Idx X st'
  pend : Pend st'
  gone : AL.get (st'.oids s) r = none
  stayGone : ∀ k, AL.get (st.oids s) k = none → AL.get (st'.oids s) k = none
  side : ∀ s', st'.side e s' = st.side e s'
  frame : Frame none st st'

/-- one `remove_oid` iteration (state.py:899-912) -/
theorem removeOne_ho {R : Prop} {setF : SetF} (hO : OustOk R setF) {X : Ex2} {st : St} (hI : Idx X st) (hP : Pend st)
    (s : Sd) (e : Nat) (r : Oid) (hxe : X e s) :
    Ho st (removeOne setF s e r) (fun _ => Removed X st s e r) (fun x _ => R ∧ x = .recursion) := by
  unfold removeOne
  refine Ho.getSt ?_
  cases hg : AL.get (st.oids s) r with
  | none => exact Ho.pure ⟨hI, hP, hg, fun k hk => hk, fun _ => rfl, Frame.refl _ _⟩
  | some p =>
    simp only
    obtain ⟨hI1, hC⟩ := idx_unindex hI hg
    have hP1 : Pend (unindex st s r p) := hP.congr (by simp) (by simp)
    have hpo := hI.oidSlot s r p hg
    have hlt : p < (unindex st s r p).ents.length := by simpa using hI.bnd s r p hg
    refine Ho.modify_bind (Ho.when (fun hp => ?_) (fun hp => ?_))
    · refine (hO p s _ (by simp [hpo, AL.get_erase]) (by simp [AL.get_erase, hI.oidKey s])).conseq ?_ (fun _ _ h => h)
      rintro _ _ rfl
      refine ⟨hI1.oust hC hlt, hP1.oust p s hlt, by simp [AL.get_erase], fun k hk => by simp [AL.get_erase, hk], fun s' => ?_,
        (frame_unindex ..).trans (frame_oustState ..)⟩
      rw [side_oustState, if_neg (fun h => of_decide_eq_true hp h.1.symm)]; simp
    · obtain rfl : p = e := Decidable.not_not.mp (of_decide_eq_false hp)
      refine ⟨hI1.mono ?_, hP1, by simp [AL.get_erase], fun k hk => by simp [AL.get_erase, hk], fun _ => by simp, frame_unindex ..⟩
      rintro i s' (hx | ⟨rfl, rfl⟩)
      · exact hx
      · exact hxe

theorem Pend.index {st} (h : Pend st) (e : Nat) (s : Sd) (k : Path.Str) :
    Pend (oidCsRule (indexOid st e s (some k)) e s (some k)) := by
  have hch : ∀ j s'', ((indexOid st e s (some k)).side j s'').changed = (st.side j s'').changed := by
    intro j s''; rw [side_indexOid]; split
    · next hh => obtain ⟨h1, h2, _⟩ := hh; subst h1; subst h2; rfl
    · rfl
  have hoid : ∀ j s'', j ≠ e → ((indexOid st e s (some k)).side j s'').oid = (st.side j s'').oid := by
    intro j s'' hj; rw [side_indexOid]; split
    · next hh => exact absurd hh.1 hj
    · rfl
  intro i ⟨s', h1, h2⟩
  rw [side_oidCsRule] at h1 h2
  rw [hch] at h1
  simp only [oidCsRule, hch]
  by_cases hie : i = e
  · subst hie
    have : ((st.side i s).changed.truthy || (st.side i s.other).changed.truthy) = true := by
      rcases Sd.eq_or_other s s' with hs | hs <;> subst hs <;> simp [h1]
    simp [this]
  · rw [hoid i s' hie] at h2
    have := h i ⟨s', h1, h2⟩
    split <;> simp [this]

/-- what `_change_oid` leaves: for `None` the entry side is left un-indexed (`Clean`) and still exempt, with the pending-set
    rule applied on top -/
def OidChanged (X0 : Ex2) (st : St) (e : Nat) (s : Sd) : Oid → St → Prop
  | some k, h => Idx X0 h ∧ Pend h ∧ (h.side e s).oid = some k ∧ Frame none st h
  | none, h => ∃ st1, h = oidCsRule st1 e s none ∧ Idx (X0.add e s) st1 ∧ Clean st1 e s ∧ Pend st1 ∧ Frame none st st1

theorem changeOid_ho {R : Prop} {setF : SetF} (hO : OustOk R setF) {X0 : Ex2} {st : St} (hI : Idx X0 st) (hP : Pend st)
    (e : Nat) (s : Sd) (v : Oid) (hlt : e < st.ents.length) :
    Ho st (changeOid setF s e v) (fun _ => OidChanged X0 st e s v) (fun x _ => R ∧ x = .recursion) := by
  have hI1 : Idx (X0.add e s) st := hI.mono (fun i s' h => Or.inl h)
  have hxe : (X0.add e s) e s := Or.inr ⟨rfl, rfl⟩
  unfold changeOid
  refine Ho.getSt (Ho.bind (removeOne_ho hO hI1 hP s e _ hxe) fun _ st1 a => ?_)
  refine Ho.bind (R := fun _ st2 => Removed (X0.add e s) st s e (st.side e s).oid st2 ∧ AL.get (st2.oids s) v = none)
    (Ho.when (fun _ => ?_) (fun hne => ?_)) fun _ st2 ⟨c, hfree⟩ => ?_
  · refine (removeOne_ho hO a.idx a.pend s e v hxe).conseq ?_ (fun _ _ h => h)
    intro _ st2 c
    exact ⟨⟨c.idx, c.pend, c.stayGone _ a.gone, fun k hk => c.stayGone k (a.stayGone k hk), fun s' => (c.side s').trans (a.side s'),
      a.frame.trans c.frame⟩, c.gone⟩
  · have : v = (st.side e s).oid := by simpa using hne
    exact ⟨a, this ▸ a.gone⟩
  have hlen : e < st2.ents.length := by rw [c.frame.1]; exact hlt
  have hcl : Clean st2 e s := c.idx.clean_of (by rw [c.side s]; exact c.gone)
  cases v with
  | none =>
    exact Ho.bind (R := fun _ st' => st' = st2) (Ho.when nofun (fun _ => rfl)) fun _ _ h =>
      h ▸ Ho.modify ⟨st2, rfl, c.idx, hcl, c.pend, c.frame⟩
  | some k =>
    refine Ho.bind (R := fun _ st' => st' = indexOid st2 e s (some k)) (Ho.when (fun _ => ?_) nofun) fun _ _ h => h ▸ Ho.modify ?_
    · -- the two `assert self.lookup_oid(side, oid) is ent` hold
      exact Ho.modify_bind (Ho.getSt (Ho.assert (fun hb => by simp [lookupOid_indexOid] at hb) (fun _ => rfl)))
    · exact ⟨(idx_indexOid c.idx hcl hfree hlen).congr (by simp) (by simp) (by simp) (by simp), Pend.index c.pend e s k,
        by rw [side_oidCsRule, side_indexOid]; simp [hlen],
        c.frame.trans ((frame_indexOid st2 e s (some k)).trans (Frame.of_sides (by simp) (fun i s' => by simp)))⟩

theorem changeOid_spec {R : Prop} {setF : SetF} (hO : OustOk R setF) {X0 : Ex2} {st : St} (hI : Idx X0 st) (hP : Pend st)
    (e : Nat) (s : Sd) (v : Oid) (hlt : e < st.ents.length) :
    (R ∧ (changeOid setF s e v st).1 = .error .recursion) ∨
    (match v with
      | some k => ∃ h, changeOid setF s e v st = (.ok (), h) ∧ Idx X0 h ∧ Pend h ∧ (h.side e s).oid = some k ∧ Frame none st h
      | none => ∃ st1, changeOid setF s e v st = (.ok (), oidCsRule st1 e s none) ∧ Idx (X0.add e s) st1 ∧ Clean st1 e s ∧ Pend st1 ∧
          Frame none st st1) := by
  have h := changeOid_ho hO hI hP e s v hlt
  cases hr : changeOid setF s e v st with
  | mk r st' =>
    rw [Ho, hr] at h
    cases r with
    | error x => obtain ⟨hR, rfl⟩ := h.2 x rfl; exact Or.inl ⟨hR, rfl⟩
    | ok u =>
      right
      have h' := h.1 u rfl
      cases v with
      | some k => exact ⟨st', rfl, h'⟩
      | none => obtain ⟨st1, rfl, h''⟩ := h'; exact ⟨st1, rfl, h''⟩

theorem updatedSide_oid_ho {R : Prop} {setF : SetF} (hO : OustOk R setF) (cfg : Cfg) {X0 : Ex2} {st : St} (hI : Idx X0 st) (hP : Pend st)
    (e : Nat) (s : Sd) (v : Oid) (hlt : e < st.ents.length) :
    Ho st (updatedSide setF cfg e s (.oid v)) (fun _ st' => ∃ h, st' = h.dirtyAdd e ∧ OidChanged X0 st e s v h)
      (fun x _ => R ∧ x = .recursion) := by
  unfold updatedSide
  exact Ho.bind (changeOid_ho hO hI hP e s v hlt) fun _ h hh => Ho.modify ⟨h, rfl, hh⟩

theorem sideSet_oid_ho {R : Prop} {setF : SetF} (hO : OustOk R setF) (cfg : Cfg) {X0 : Ex2} {st : St} (hI : Idx X0 st) (hP : Pend st)
    (e : Nat) (s : Sd) (v : Oid) (hlt : e < st.ents.length) :
    Ho st (sideSetBody setF cfg e s (.oid v)) (fun _ st' => Idx X0 st' ∧ Pend st' ∧ Frame none st st')
      (fun x _ => R ∧ x = .recursion) := by
  unfold sideSetBody
  refine Ho.bind (updatedSide_oid_ho hO cfg hI hP e s v hlt) ?_
  rintro _ _ ⟨h, rfl, hh⟩
  refine Ho.modify ?_
  cases v with
  | none =>
    -- the remaining steps are the ousting of the entry itself
    obtain ⟨st1, rfl, hI1, hC, hP1, hfr⟩ := hh
    have hlt1 : e < st1.ents.length := by rw [hfr.1]; exact hlt
    exact ⟨hI1.oust hC hlt1, hP1.oust e s hlt1, hfr.trans (frame_oustState ..)⟩
  | some k =>
    -- the field already holds the id
    obtain ⟨hI1, hP1, ho, hfr⟩ := hh
    have hs : ∀ i s', ((h.dirtyAdd e).modSide e s (fun x => { x with oid := some k })).side i s' = h.side i s' := by
      intro i s'; rw [side_modSide]; split
      · next hh => obtain ⟨rfl, rfl, _⟩ := hh; rw [side_dirtyAdd, ← ho]
      · rfl
    exact ⟨hI1.congr (by simp) (by simp) (by simp) (fun i s' => by rw [hs]; exact ⟨rfl, rfl⟩),
      hP1.congr (by simp) (fun i s' => by rw [hs]; exact ⟨rfl, rfl⟩),
      hfr.trans (Frame.of_sides (by simp) (fun i s' => by rw [hs]; exact ⟨rfl, rfl⟩))⟩

theorem sideSet_oid_spec {R : Prop} {setF : SetF} (hO : OustOk R setF) (cfg : Cfg) {X0 : Ex2} {st : St} (hI : Idx X0 st) (hP : Pend st)
    (e : Nat) (s : Sd) (v : Oid) (hlt : e < st.ents.length) :
    (R ∧ (sideSetBody setF cfg e s (.oid v) st).1 = .error .recursion) ∨
    ((sideSetBody setF cfg e s (.oid v) st).1 = .ok () ∧ Idx X0 (sideSetBody setF cfg e s (.oid v) st).2 ∧
      Pend (sideSetBody setF cfg e s (.oid v) st).2 ∧ Frame none st (sideSetBody setF cfg e s (.oid v) st).2) :=
  (sideSet_oid_ho hO cfg hI hP e s v hlt).outcome

theorem sideSet_oid_tr (cfg : Cfg) (n : Nat) (X0 : Ex2) (e : Nat) (s : Sd) (v : Oid) (st0 : St) :
    Tr (fun st => st = st0 ∧ Idx X0 st ∧ Pend st ∧ e < st.ents.length) (sideSet cfg n e s (.oid v))
      (fun _ st' => Idx X0 st' ∧ Pend st' ∧ Frame none st0 st') (fun _ => False) := by
  cases n with
  | zero => exact sideSet_zero_tr _ _ _ _
  | succ n =>
    refine ho_tr.1 fun st ⟨h0, hI, hP, hlt⟩ => h0 ▸ ?_
    exact (sideSet_oid_ho (oustOk_fuel cfg n) cfg hI hP e s v hlt).conseq (fun _ _ h => h) (fun _ _ h hx => absurd h.2 hx)

end CS.State
