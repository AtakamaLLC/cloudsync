import Csverif.Proofs.Persist
import Csverif.Proofs.Codec
import Csverif.Proofs.Storage
/- For Props/C08.lean: the invariant that ties the rows of the tag to the entries, `_storage_update` / `storage_commit`
   case by case under it, and the loader. -/
namespace CS.Persist
open CS.Codec CS.Storage

theorem pure_run {α} (r : α) (a : St) : (pure r : M α) a = (.ok r, a) := rfl

abbrev St.at (a : St) (i : Nat) : Entry := a.ents[i]?.getD placeholder

theorem at_of_some {a : St} {i : Nat} {e : Entry} (h : a.ents[i]? = some e) : a.at i = e := by simp [St.at, h]
theorem at_of_none {a : St} {i : Nat} (h : a.ents[i]? = none) : a.at i = placeholder := by simp [St.at, h]

def St.deleted (a : St) (t : Sqlite.Table Val) (i sid : Nat) : St :=
  { a with store := .sqlite (Sqlite.step t (.delete tag (some sid))).1,
           ents := a.ents.modify i fun x => { x with storageId := none } }

/-- the state after `_storage_update` created a row for entry `i`; the dirty mark comes from the hooked `ent.storage_id = new_id`
    (state.py `_storage_update`), which is why `su_inv` only says that nothing leaves the dirty set -/
def St.created (a : St) (t : Sqlite.Table Val) (i : Nat) (row : Val) : St :=
  { a with store := .sqlite (t ++ [{ id := Sqlite.maxId t + 1, tag := tag, val := row }]),
           dirty := sadd a.dirty i, silent := sdiscard a.silent i,
           ents := a.ents.modify i fun x => { x with storageId := some (Sqlite.maxId t + 1) } }

section
variable {a : St} {i : Nat} {e : Entry} (hat : a.at i = e)
include hat

theorem su_none_trash (he : e.storageId = none) (ht : e.isTrash = true) : storageUpdate i a = (.ok (), a) := by
  subst hat
  simp [storageUpdate, bind_run, getEnt, he, ht, pure_run]

theorem su_rowerr {err : Err} (ht : e.isTrash = false) (hr : e.row = .error err) :
    storageUpdate i a = (.error (.py err), a) := by
  subst hat
  cases he : (a.at i).storageId <;> simp [storageUpdate, bind_run, getEnt, he, ht, hr, raise]

theorem su_some_trash {t : Sqlite.Table Val} (hs : a.store = .sqlite t) {sid : Nat}
    (he : e.storageId = some sid) (ht : e.isTrash = true) : storageUpdate i a = (.ok (), a.deleted t i sid) := by
  subst hat
  simp [storageUpdate, bind_run, getEnt, modSt, storeOp, Backend.step, hs, he, ht, rawEnt, St.deleted]

theorem su_some_update {t : Sqlite.Table Val} (hs : a.store = .sqlite t) {sid : Nat} {row : Val}
    (he : e.storageId = some sid) (ht : e.isTrash = false) (hr : e.row = .ok row) :
    storageUpdate i a =
      ((match (Sqlite.step t (.update tag row (some sid))).2 with
        | .valueError => .error (.py .value)
        | _ => .ok ()),
       { a with store := .sqlite (Sqlite.step t (.update tag row (some sid))).1 }) := by
  subst hat
  simp [storageUpdate, bind_run, getEnt, storeOp, Backend.step, hs, he, ht, hr]
  split <;> first | rfl | simp_all [pure_run, raise]

theorem su_none_create {t : Sqlite.Table Val} (hs : a.store = .sqlite t) {row : Val}
    (he : e.storageId = none) (ht : e.isTrash = false) (hr : e.row = .ok row) :
    storageUpdate i a = (.ok (), a.created t i row) := by
  subst hat
  simp [storageUpdate, bind_run, getEnt, modSt, storeOp, Backend.step, Sqlite.step, hs, he, ht, hr, markDirty, rawEnt, St.created]

end

/-- `serialize` can only fail in `msgpack.dumps`, with OverflowError -/
theorem row_error (e : Entry) (err : Err) (h : e.row = .error err) : err = .overflow := by
  unfold Entry.row dumps at h
  split at h
  · cases h
  · injection h with h; exact h.symm

def sidOf (st : St) (i : Nat) : Option (Option Nat) := (st.ents[i]?).map Entry.storageId

/-- entry `e` is exactly what storage holds for it: a trash entry has no storage id (it never had a
    row, or `_storage_update` deleted the row and forgot the id), a live one has its id and the row
    under that id is its current serialisation -/
def Stored (t : Sqlite.Table Val) (e : Entry) : Prop :=
  match e.storageId with
  | none => e.isTrash = true
  | some k => e.isTrash = false ∧ ∃ row, e.row = .ok row ∧ Sqlite.abs t tag k = some row

theorem Stored_iff (t : Sqlite.Table Val) (e : Entry) : Stored t e ↔ (e.isTrash = true ∧ e.storageId = none) ∨
    (e.isTrash = false ∧ ∃ k row, e.storageId = some k ∧ e.row = .ok row ∧ Sqlite.abs t tag k = some row) := by
  unfold Stored
  cases e.storageId <;> simp

/-- row ownership: every entry that has a storage id owns an existing row, no two entries share
    one, and every row of the tag has an owner -/
structure Core (t : Sqlite.Table Val) (st : St) : Prop where
  tinv : Sqlite.Inv t
  owner : ∀ i k, sidOf st i = some (some k) → Sqlite.abs t tag k ≠ none
  uniq : ∀ i j k, sidOf st i = some (some k) → sidOf st j = some (some k) → i = j
  nostale : ∀ k, Sqlite.abs t tag k ≠ none → ∃ i, sidOf st i = some (some k)

/-- what the invariant says, for a table `t`: every entry is exactly what storage holds for it, except those that still
    wait to be written (`D`) and those that were changed silently.  The backend is the SQLite one: `Backend.mock` hands out
    ids again after a reopen, which `Core.uniq` would not survive. -/
structure InvBody (D : Nat → Prop) (t : Sqlite.Table Val) (st : St) : Prop where
  store : st.store = .sqlite t
  core : Core t st
  stored : ∀ i e, st.ents[i]? = some e → ¬ D i → i ∉ st.silent → Stored t e

def InvP (D : Nat → Prop) (st : St) : Prop := ∃ t, InvBody D t st

/-- the invariant between operations: what waits to be written is the dirty set (inside a commit it shrinks entry by entry) -/
def Inv (st : St) : Prop := InvP (· ∈ st.dirty) st

theorem Core.congr {t : Sqlite.Table Val} {a b : St} (hc : Core t a)
    (h : ∀ j k, sidOf b j = some (some k) ↔ sidOf a j = some (some k)) : Core t b :=
  ⟨hc.tinv, fun j k hj => hc.owner j k ((h j k).1 hj), fun i j k hi hj => hc.uniq i j k ((h i k).1 hi) ((h j k).1 hj),
   fun k hk => (hc.nostale k hk).imp fun j hj => (h j k).2 hj⟩

theorem getElem?_concat {α} (l : List α) (x y : α) (j : Nat) :
    (l ++ [x])[j]? = some y ↔ l[j]? = some y ∨ (j = l.length ∧ y = x) := by
  rcases Nat.lt_trichotomy j l.length with c | c | c
  · rw [List.getElem?_append_left c]; simp [Nat.ne_of_lt c]
  · subst c; simp [eq_comm]
  · rw [List.getElem?_eq_none (by simp; omega), List.getElem?_eq_none (by omega)]; simp; omega

theorem Inv_init : Inv (St.init (.sqlite [])) := by
  refine ⟨[], rfl, ⟨by simp [Sqlite.Inv], ?_, ?_, ?_⟩, ?_⟩
  · intro i k h; simp [sidOf, St.init] at h
  · intro i j k h; simp [sidOf, St.init] at h
  · intro k h; simp [Sqlite.abs] at h
  · intro i e h; simp [St.init] at h

/-- hooks preserve the invariant: whatever they change is covered -/
theorem Inv_of_LeX {a b : St} (h : LeX none a b) (ha : Inv a) : Inv b := by
  obtain ⟨t, hs, hc, hst⟩ := ha
  refine ⟨t, h.store.trans hs, hc.congr fun j k => by rw [show sidOf b j = sidOf a j from h.sid j], ?_⟩
  · intro i e he hd hsil
    have hnc : ¬ Covered b i := fun g => g.elim hd hsil
    rcases h.ents i with g | g | g
    · have hna : ¬ Covered a i := fun c => hnc (h.cov i c)
      exact hst i e (g ▸ he) (fun c => hna (Or.inl c)) (fun c => hna (Or.inr c))
    · exact absurd g hnc
    · cases g

theorem Stored_frame {t t' : Sqlite.Table Val} {e : Entry} (h : Stored t e)
    (h3 : ∀ kj, e.storageId = some kj → Sqlite.abs t' tag kj = Sqlite.abs t tag kj) : Stored t' e := by
  unfold Stored at h ⊢
  cases hs : e.storageId with
  | none => simpa [hs] using h
  | some k =>
    simp only [hs] at h ⊢
    obtain ⟨a, row, b, c⟩ := h
    exact ⟨a, row, b, by rw [h3 k hs]; exact c⟩

theorem InvP_mono {D D' : Nat → Prop} {a : St} (hsub : ∀ j, D j → D' j) (h : InvP D a) : InvP D' a := by
  obtain ⟨t, hs, hc, hst⟩ := h
  exact ⟨t, hs, hc, fun j e he hd => hst j e he (mt (hsub j) hd)⟩

theorem sidOf_of_ent {a : St} {i : Nat} {e : Entry} (h : a.ents[i]? = some e) : sidOf a i = some e.storageId := by
  simp [sidOf, h]

theorem getElem?_modify_at {a : St} {i : Nat} {e : Entry} (hei : a.ents[i]? = some e) (f : Entry → Entry) (j : Nat) :
    (a.ents.modify i f)[j]? = if j = i then some (f e) else a.ents[j]? := by
  rw [List.getElem?_modify]
  by_cases hji : j = i
  · subst hji; simp [hei]
  · have hij : ¬i = j := fun c => hji c.symm
    simp [hji, hij]

/-- The one step of `_storage_update`, for its three cases: row `k` is written (`v = some row`) or deleted (`v = none`) for
    entry `i`.  Every other entry is stored as before because no other entry points at row `k` (`hne`). -/
theorem InvBody.write {D : Nat → Prop} {a b : St} {t t' : Sqlite.Table Val} {i k : Nat} {e : Entry} {v : Option Val}
    (h : InvBody D t a) (hei : a.ents[i]? = some e)
    (hown : e.storageId = some k ∨ e.storageId = none ∧ Sqlite.abs t tag k = none)
    (hv : match v with | none => e.isTrash = true | some row => e.isTrash = false ∧ e.row = .ok row)
    (hs : b.store = .sqlite t') (hinv : Sqlite.Inv t') (habs : Sqlite.abs t' = Spec.set (Sqlite.abs t) tag k v)
    (hents : ∀ j, b.ents[j]? = if j = i then some { e with storageId := v.map fun _ => k } else a.ents[j]?)
    (hsil : ∀ j, j ≠ i → j ∈ a.silent → j ∈ b.silent) :
    InvBody (fun j => D j ∧ j ≠ i) t' b := by
  obtain ⟨_, hc, hst⟩ := h
  have hsi : sidOf a i = some e.storageId := sidOf_of_ent hei
  have hsid : ∀ j, sidOf b j = if j = i then some (v.map fun _ => k) else sidOf a j := fun j => by
    unfold sidOf; rw [hents]; split <;> rfl
  have hne : ∀ j kj, j ≠ i → sidOf a j = some (some kj) → kj ≠ k := by
    rintro j kj hji hj rfl
    rcases hown with hk | ⟨_, hfree⟩
    · exact hji (hc.uniq j i kj hj (by rw [hsi, hk]))
    · exact hc.owner j kj hj hfree
  have hvk : ∀ kj, some (v.map fun _ => k) = some (some kj) → kj = k ∧ v ≠ none := by
    cases v <;> simp <;> exact fun _ h => h.symm
  refine ⟨hs, ⟨hinv, ?_, ?_, ?_⟩, ?_⟩
  · intro j kj hj
    rw [hsid] at hj; rw [habs]
    split at hj
    · obtain ⟨rfl, hv'⟩ := hvk kj hj; rwa [Spec.set_same]
    · rename_i hji; rw [Spec.set_other_id _ _ _ _ (hne j kj hji hj)]; exact hc.owner j kj hj
  · intro j1 j2 kj h1 h2
    rw [hsid] at h1 h2
    split at h1 <;> split at h2
    · subst_vars; rfl
    · exact absurd (hvk kj h1).1 (hne j2 kj ‹_› h2)
    · exact absurd (hvk kj h2).1 (hne j1 kj ‹_› h1)
    · exact hc.uniq j1 j2 kj h1 h2
  · intro k' hk'
    rw [habs] at hk'
    by_cases hkk : k' = k
    · subst hkk; rw [Spec.set_same] at hk'
      refine ⟨i, ?_⟩
      rw [hsid, if_pos rfl]
      cases v with
      | none => exact absurd rfl hk'
      | some _ => rfl
    · rw [Spec.set_other_id _ _ _ _ hkk] at hk'
      obtain ⟨j, hj⟩ := hc.nostale k' hk'
      have hji : j ≠ i := by
        rintro rfl
        rw [hsi] at hj
        rcases hown with hk | ⟨hk, _⟩ <;> simp [hk] at hj
        exact hkk hj.symm
      exact ⟨j, by rw [hsid, if_neg hji]; exact hj⟩
  · intro j ej hej hdj hsj
    rw [hents] at hej
    split at hej
    · cases hej
      unfold Stored
      cases v with
      | none => exact hv
      | some row => exact ⟨hv.1, row, hv.2, by rw [habs, Spec.set_same]⟩
    · rename_i hji
      refine Stored_frame (hst j ej hej (fun c => hdj ⟨c, hji⟩) fun c => hsj (hsil j hji c)) fun kj hkj => ?_
      rw [habs, Spec.set_other_id _ _ _ _ (hne j kj hji (by rw [sidOf_of_ent hej, hkj]))]

def SuResult (r : Except HErr Unit) : Prop := r = .ok () ∨ r = .error (.py .overflow)

/-- one `_storage_update`: it returns normally, the entry is stored exactly (it no longer waits) and everything else stays
    as it was; or `serialize` raises its OverflowError (the only possible exception) and nothing has happened -/
theorem su_inv (D : Nat → Prop) (a : St) (h : InvP D a) (i : Nat) :
    (∃ b, storageUpdate i a = (.ok (), b) ∧ InvP (fun j => D j ∧ j ≠ i) b ∧ ∀ j ∈ a.dirty, j ∈ b.dirty) ∨
    storageUpdate i a = (.error (.py .overflow), a) := by
  obtain ⟨t, hb⟩ := h
  have hs := hb.store
  -- nothing to do for a trash entry without an id (an index past the end of `ents` reads as `placeholder`, which is such an entry)
  have hnoop : ∀ e, a.at i = e → e.storageId = none → e.isTrash = true → InvP (fun j => D j ∧ j ≠ i) a := by
    rintro e rfl hk ht
    refine ⟨t, hs, hb.core, fun j ej hej hd hsil => ?_⟩
    by_cases hji : j = i
    · subst hji
      rw [← at_of_some hej]; unfold Stored; rw [hk]; exact ht
    · exact hb.stored j ej hej (fun c => hd ⟨c, hji⟩) hsil
  rcases hopt : a.ents[i]? with _ | e
  · exact .inl ⟨a, su_none_trash (at_of_none hopt) rfl rfl, hnoop _ (at_of_none hopt) rfl rfl, fun _ h => h⟩
  have hat := at_of_some hopt
  cases ht : e.isTrash with
  | true =>
    cases hk : e.storageId with
    | none => exact .inl ⟨a, su_none_trash hat hk ht, hnoop e hat hk ht, fun _ h => h⟩
    | some k =>
      exact .inl ⟨_, su_some_trash hat hs hk ht,
        ⟨_, hb.write (v := none) hopt (.inl hk) ht rfl (Sqlite.inv_step t _ hb.core.tinv) (Sqlite.abs_delete t tag k)
          (getElem?_modify_at hopt _) fun _ _ h => h⟩, fun _ h => h⟩
  | false =>
    cases hr : e.row with
    | error err => exact .inr (by rw [su_rowerr hat ht hr, row_error e err hr])
    | ok row =>
      cases hk : e.storageId with
      | none =>
        exact .inl ⟨_, su_none_create hat hs hk ht hr,
          ⟨_, hb.write (v := some row) hopt (.inr ⟨hk, Sqlite.abs_fresh t tag⟩) ⟨ht, hr⟩ rfl
            (Sqlite.inv_step t (.create tag row) hb.core.tinv) (Sqlite.abs_create t tag row) (getElem?_modify_at hopt _)
            fun _ hji h => mem_sdiscard.2 ⟨h, hji⟩⟩, fun _ h => mem_sadd.2 (.inl h)⟩
      | some k =>
        have hex : Sqlite.abs t tag k ≠ none := hb.core.owner i k (by rw [sidOf_of_ent hopt, hk])
        have hstep := Sqlite.step_update_found t hb.core.tinv tag k row hex
        have hinv := Sqlite.inv_step t (.update tag row (some k)) hb.core.tinv
        rw [hstep] at hinv
        refine .inl ⟨{ a with store := .sqlite (t.map fun r => if Sqlite.hits tag (some k) r then { r with val := row } else r) },
          by rw [su_some_update hat hs hk ht hr, hstep], ⟨_, hb.write (v := some row) hopt (.inl hk) ⟨ht, hr⟩ rfl hinv
            (Sqlite.abs_update t tag k row hex) (fun j => ?_) fun _ _ h => h⟩, fun _ h => h⟩
        split
        · next h => subst h; show _ = some { e with storageId := some k }; rw [hopt, ← hk]
        · rfl

theorem forEach_cons {α} (x : α) (xs : List α) (f : α → M Unit) (a : St) :
    forEach (x :: xs) f a = (match f x a with
      | (.ok _, s') => forEach xs f s'
      | (.error e, s') => (.error e, s')) := by
  simp only [forEach, bind_run]
  rcases f x a with ⟨r | r, s'⟩ <;> rfl

/-- the loop of `storage_commit`: it runs to the end and no entry of `l` waits any more, or it stops at an OverflowError;
    either way what was stored stays stored and nothing leaves the dirty set -/
theorem forEach_su (l : List Nat) : ∀ (D : Nat → Prop) (a : St), InvP D a →
    ∃ b, InvP D b ∧ (∀ j ∈ a.dirty, j ∈ b.dirty) ∧
      ((forEach l storageUpdate a = (.ok (), b) ∧ InvP (fun j => D j ∧ j ∉ l) b) ∨
        forEach l storageUpdate a = (.error (.py .overflow), b)) := by
  induction l with
  | nil => intro D a h; exact ⟨a, h, fun _ h => h, .inl ⟨rfl, InvP_mono (fun _ hj => ⟨hj, List.not_mem_nil⟩) h⟩⟩
  | cons x xs ih =>
    intro D a h
    rw [forEach_cons]
    rcases su_inv D a h x with ⟨s', he, hP, hd⟩ | he <;> rw [he]
    · obtain ⟨b, g1, g2, g3⟩ := ih _ s' hP
      refine ⟨b, InvP_mono (fun _ hj => hj.1) g1, fun j hj => g2 j (hd j hj),
        g3.imp_left fun g => ⟨g.1, InvP_mono (fun j hj => ⟨hj.1.1, ?_⟩) g.2⟩⟩
      rw [List.mem_cons, not_or]
      exact ⟨hj.1.2, hj.2⟩
    · exact ⟨a, h, fun _ h => h, .inr rfl⟩

theorem storageCommit_eq (a : St) : storageCommit a = (match forEach a.dirty storageUpdate a with
    | (.ok _, s') => (.ok (), { s' with dirty := [] })
    | (.error e, s') => (.error e, s')) := by
  simp only [storageCommit, bind_run, getSt, modSt]
  rcases forEach a.dirty storageUpdate a with ⟨r | r, s'⟩ <;> rfl

/-- **`storage_commit` keeps the invariant**, and the only exception it can raise is the OverflowError of `serialize`
    (never the ValueError of `update`) -/
theorem Inv_commit (a : St) (h : Inv a) : Inv (storageCommit a).2 ∧ SuResult (storageCommit a).1 := by
  rw [storageCommit_eq]
  obtain ⟨b, h1, h2, ⟨he, t, hs, hc, hst⟩ | he⟩ := forEach_su a.dirty _ a h <;> rw [he]
  · exact ⟨⟨t, hs, hc.congr fun _ _ => Iff.rfl, fun j e hej _ hsil => hst j e hej (fun c => c.2 c.1) hsil⟩, .inl rfl⟩
  · exact ⟨InvP_mono h2 h1, .inr rfl⟩

theorem fresh_isTrash (o : OType) : (Entry.fresh o).isTrash = true := rfl

/-- `SyncEntry(state, otype)` keeps the invariant: a fresh entry is trash and has no row -/
theorem Inv_newEntry (a : St) (o : OType) (h : Inv a) : Inv (newEntry o a).2 := by
  obtain ⟨t, hs, hc, hst⟩ := h
  have hents : (newEntry o a).2.ents = a.ents ++ [Entry.fresh o] := rfl
  refine ⟨t, hs, hc.congr fun j k => ?_, fun j e he hd hsil => ?_⟩
  · simp only [sidOf, hents, Option.map_eq_some_iff, getElem?_concat]
    constructor
    · rintro ⟨e, he | ⟨_, rfl⟩, hk⟩
      · exact ⟨e, he, hk⟩
      · cases hk
    · rintro ⟨e, he, hk⟩; exact ⟨e, Or.inl he, hk⟩
  · rcases (getElem?_concat ..).1 (hents ▸ he) with he' | ⟨_, rfl⟩
    · exact hst j e he' hd hsil
    · rfl

theorem Inv_step (a : St) (op : Op) (h : Inv a) : Inv (step a op).2 := by
  cases op with
  | new o => exact Inv_newEntry a o h
  | write c => exact Inv_of_LeX ((Pres_hook (fuelFor a) c).run a) h
  | commit => exact (Inv_commit a h).1

theorem Inv_run (ops : List Op) : ∀ (a : St), Inv a → Inv (run a ops) := by
  induction ops with
  | nil => intro a h; exact h
  | cons op _ ih => intro a h; exact ih _ (Inv_step a op h)

/-- a key whose dict equality is plain equality (None and strings: no `1 == True` aliasing) -/
def SimpleKey (q : Val) : Prop := ∀ k : Val, (k.pyEq q = true ↔ k = q) ∧ (q.pyEq k = true ↔ k = q)

theorem simpleKey_of {q : Val} (h : ∀ k : Val, k.pyEq q = (k == q) ∧ q.pyEq k = (q == k)) : SimpleKey q := fun k => by
  rw [(h k).1, (h k).2, Val.beq_iff, Val.beq_iff]
  exact ⟨Iff.rfl, eq_comm⟩

theorem simpleKey_str (s : String) : SimpleKey (.str s) := simpleKey_of fun k => by cases k <;> exact ⟨rfl, rfl⟩

theorem simpleKey_nil : SimpleKey .nil := simpleKey_of fun k => by cases k <;> exact ⟨rfl, rfl⟩

theorem dget_dset {β} (d : Dict β) (k : Val) (v : β) (q : Val) (hq : SimpleKey q) :
    dget (dset d k v) q = if k = q then some v else dget d q := by
  have hkq : (k.pyEq q = true) = (k = q) := propext (hq k).1
  induction d with
  | nil => simp [dset, dget, hkq]
  | cons a r ih =>
    obtain ⟨l, w⟩ := a
    have hlq : (l.pyEq q = true) = (l = q) := propext (hq l).1
    by_cases hlk : l.pyEq k = true
    · by_cases hk : k = q
      · subst hk; simp [dset, dget, hlk]
      · have : l ≠ q := fun c => hk ((hq k).2.1 (c ▸ hlk))
        simp [dset, dget, hlk, hlq, hk, this]
    · simp only [dset, dget, hlk, hlq, ih, Bool.false_eq_true, if_false]
      split <;> split <;> simp_all

/-- pending by the loader's rule: a truthy change stamp on a side that has an id -/
def _root_.CS.Codec.Entry.pendingOnLoad (e : Entry) : Bool :=
  (!e.s0.oid.isNone && e.s0.changed.truthy) || (!e.s1.oid.isNone && e.s1.changed.truthy)

/-- what the loader has built so far, as far as None / string keys and the pending set are concerned -/
structure Loaded (st : St) : Prop where
  sound : ∀ (sd : Sd) (s : String) (i : Nat), dget (st.ix sd).oids (.str s) = some i →
    ∃ e, st.ents[i]? = some e ∧ (e.side sd).oid = .str s
  complete : ∀ (sd : Sd) (s : String) (i : Nat) (e : Entry), st.ents[i]? = some e → (e.side sd).oid = .str s →
    ∃ j, dget (st.ix sd).oids (.str s) = some j ∧ i ≤ j
  noneAbsent : ∀ (sd : Sd), dget (st.ix sd).oids .nil = none ∧ dget (st.ix sd).paths .nil = none
  pending : ∀ i, i ∈ st.changeset ↔ ∃ e, st.ents[i]? = some e ∧ e.pendingOnLoad = true

theorem Loaded_init (b : Backend) : Loaded (St.init b) := by
  refine ⟨?_, ?_, ?_, ?_⟩
  · intro sd s i h; cases sd <;> simp [St.init, St.ix, dget] at h
  · intro sd s i e h; simp [St.init] at h
  · intro sd; cases sd <;> simp [St.init, St.ix, dget]
  · intro i; simp [St.init]

def indexSide (i : Nat) (e : Entry) (st : St) (sd : Sd) : St :=
  let s := e.side sd
  if s.oid.isNone then st
  else
    let ix := st.ix sd
    let paths := if s.path.truthy then dset ix.paths s.path (dset ((dget ix.paths s.path).getD []) s.oid i) else ix.paths
    let st := st.setIx sd { oids := dset ix.oids s.oid i, paths := paths }
    if s.changed.truthy then { st with changeset := sadd st.changeset i } else st

theorem indexLoaded_eq (st : St) (i : Nat) (e : Entry) :
    indexLoaded st i e = indexSide i e (indexSide i e st false) true := rfl

theorem indexSide_ents (i : Nat) (e : Entry) (st : St) (sd : Sd) : (indexSide i e st sd).ents = st.ents := by
  unfold indexSide
  dsimp only
  cases (e.side sd).oid.isNone <;> cases (e.side sd).changed.truthy <;> simp [setIx_ents]

theorem ix_setIx (st : St) (sd sd' : Sd) (ix : SideIdx) :
    (st.setIx sd ix).ix sd' = if sd' = sd then ix else st.ix sd' := by
  cases sd <;> cases sd' <;> rfl

theorem indexSide_ix (i : Nat) (e : Entry) (st : St) (sd sd' : Sd) :
    (indexSide i e st sd).ix sd' =
      if sd' ≠ sd ∨ (e.side sd).oid.isNone then st.ix sd'
      else { oids := dset (st.ix sd).oids (e.side sd).oid i,
             paths := if (e.side sd).path.truthy then
                 dset (st.ix sd).paths (e.side sd).path (dset ((dget (st.ix sd).paths (e.side sd).path).getD []) (e.side sd).oid i)
               else (st.ix sd).paths } := by
  unfold indexSide
  dsimp only
  have : ∀ (a : St) (c : List Nat), ({ a with changeset := c } : St).ix sd' = a.ix sd' := fun _ _ => by cases sd' <;> rfl
  cases (e.side sd).oid.isNone <;> cases (e.side sd).changed.truthy <;> simp [this, ix_setIx]

theorem indexSide_changeset (i : Nat) (e : Entry) (st : St) (sd : Sd) (j : Nat) :
    j ∈ (indexSide i e st sd).changeset ↔
      j ∈ st.changeset ∨ (j = i ∧ (!(e.side sd).oid.isNone && (e.side sd).changed.truthy) = true) := by
  have hc : ∀ ix, (st.setIx sd ix).changeset = st.changeset := fun _ => by cases sd <;> rfl
  unfold indexSide
  dsimp only
  cases (e.side sd).oid.isNone <;> cases (e.side sd).changed.truthy <;> simp [hc, mem_sadd]

theorem indexLoaded_ents (st : St) (i : Nat) (e : Entry) : (indexLoaded st i e).ents = st.ents := by
  rw [indexLoaded_eq, indexSide_ents, indexSide_ents]

theorem indexLoaded_ix (st : St) (i : Nat) (e : Entry) (sd : Sd) :
    ((indexLoaded st i e).ix sd) =
      if (e.side sd).oid.isNone then st.ix sd
      else { oids := dset (st.ix sd).oids (e.side sd).oid i,
             paths := if (e.side sd).path.truthy then
                 dset (st.ix sd).paths (e.side sd).path (dset ((dget (st.ix sd).paths (e.side sd).path).getD []) (e.side sd).oid i)
               else (st.ix sd).paths } := by
  simp only [indexLoaded_eq, indexSide_ix]
  cases sd <;> simp

theorem indexLoaded_changeset (st : St) (i : Nat) (e : Entry) (j : Nat) :
    j ∈ (indexLoaded st i e).changeset ↔ j ∈ st.changeset ∨ (j = i ∧ e.pendingOnLoad = true) := by
  rw [indexLoaded_eq, indexSide_changeset, indexSide_changeset, Entry.pendingOnLoad, Bool.or_eq_true, or_assoc, ← and_or_left]
  rfl

theorem isNone_iff (v : Val) : v.isNone = true ↔ v = .nil := by cases v <;> simp [Val.isNone]

theorem Loaded_step (st : St) (e : Entry) (h : Loaded st) :
    Loaded (indexLoaded { st with ents := st.ents ++ [e] } st.ents.length e) := by
  have hents : ∀ i x, (indexLoaded { st with ents := st.ents ++ [e] } st.ents.length e).ents[i]? = some x ↔
      st.ents[i]? = some x ∨ (i = st.ents.length ∧ x = e) := fun i x => by
    rw [indexLoaded_ents]; exact getElem?_concat ..
  have hix : ∀ sd, ({ st with ents := st.ents ++ [e] } : St).ix sd = st.ix sd := fun sd => by cases sd <;> rfl
  have hq : ∀ (sd : Sd) (s : String), dget ((indexLoaded { st with ents := st.ents ++ [e] } st.ents.length e).ix sd).oids (.str s) =
      if (e.side sd).oid = .str s then some st.ents.length else dget (st.ix sd).oids (.str s) := by
    intro sd s
    rw [indexLoaded_ix, hix]
    cases hn : (e.side sd).oid.isNone
    · exact dget_dset _ _ _ _ (simpleKey_str s)
    · rw [(isNone_iff _).1 hn]; rfl
  refine ⟨?_, ?_, ?_, ?_⟩
  · intro sd s i hi
    rw [hq] at hi
    split at hi
    · cases hi; exact ⟨e, (hents ..).2 (.inr ⟨rfl, rfl⟩), ‹_›⟩
    · obtain ⟨x, hx, ho⟩ := h.sound sd s i hi
      exact ⟨x, (hents ..).2 (.inl hx), ho⟩
  · intro sd s i x hx ho
    rw [hq]
    rcases (hents ..).1 hx with hx' | ⟨rfl, rfl⟩
    · split
      · exact ⟨_, rfl, Nat.le_of_lt (List.getElem?_eq_some_iff.1 hx').1⟩
      · exact h.complete sd s i x hx' ho
    · rw [if_pos ho]; exact ⟨_, rfl, Nat.le_refl _⟩
  · intro sd
    rw [indexLoaded_ix, hix]
    cases hn : (e.side sd).oid.isNone
    · have hne : (e.side sd).oid ≠ .nil := fun c => by rw [c] at hn; cases hn
      simp only [Bool.false_eq_true, if_false]
      refine ⟨by rw [dget_dset _ _ _ _ simpleKey_nil, if_neg hne]; exact (h.noneAbsent sd).1, ?_⟩
      split
      · rename_i hp
        rw [dget_dset _ _ _ _ simpleKey_nil, if_neg fun c => by rw [c] at hp; cases hp]
        exact (h.noneAbsent sd).2
      · exact (h.noneAbsent sd).2
    · exact h.noneAbsent sd
  · intro i
    rw [indexLoaded_changeset]
    show (i ∈ st.changeset ∨ _) ↔ _
    rw [h.pending i]
    constructor
    · rintro (⟨x, hx, hs⟩ | ⟨rfl, hs⟩)
      · exact ⟨x, (hents ..).2 (.inl hx), hs⟩
      · exact ⟨e, (hents ..).2 (.inr ⟨rfl, rfl⟩), hs⟩
    · rintro ⟨x, hx, hs⟩
      rcases (hents ..).1 hx with hx' | ⟨hi, rfl⟩
      · exact Or.inl ⟨x, hx', hs⟩
      · exact Or.inr ⟨hi, hs⟩

/-- the entries the loader creates: one per row that deserialises, in row order -/
def loadedEntries (rows : List (Nat × Val)) : List Entry :=
  rows.filterMap fun r => (Entry.deserialize r.1 r.2).toOption

theorem loadRows_spec : ∀ (rows : List (Nat × Val)) (st : St), Loaded st →
    Loaded (loadRows rows st) ∧ (loadRows rows st).ents = st.ents ++ loadedEntries rows
  | [], st, h => ⟨h, by simp [loadRows, loadedEntries]⟩
  | (eid, row) :: rest, st, h => by
    simp only [loadRows, loadedEntries, List.filterMap_cons]
    cases hd : Entry.deserialize eid row with
    | ok e =>
      obtain ⟨h1, h2⟩ := loadRows_spec rest _ (Loaded_step st e h)
      refine ⟨h1, ?_⟩
      rw [h2, indexLoaded_ents]
      simp [loadedEntries, Except.toOption]
    | error err =>
      have h' : Loaded { st with store := (st.store.step (.delete tag (some eid))).1 } :=
        ⟨fun sd s i hi => h.sound sd s i (by cases sd <;> exact hi), fun sd s i e he ho => by
          obtain ⟨j, hj, hle⟩ := h.complete sd s i e he ho
          exact ⟨j, by cases sd <;> exact hj, hle⟩, fun sd => by cases sd <;> exact h.noneAbsent _, h.pending⟩
      exact loadRows_spec rest _ h'

end CS.Persist
