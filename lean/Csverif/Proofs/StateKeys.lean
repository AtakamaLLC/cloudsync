import Csverif.Proofs.StateOps
import Csverif.Proofs.StateLoad
/-
C11: the model's dictionaries are association lists read by first match.  Here: their keys are pairwise different in every state
the model can reach (every operation keeps that, on every outcome, under no precondition), so first-match lookup is dictionary lookup.
-/
namespace CS.State

namespace AL
variable {κ β : Type} [DecidableEq κ]

def ND (l : List (κ × β)) : Prop := (l.map (·.1)).Nodup

omit [DecidableEq κ] in
theorem nd_nil : ND ([] : List (κ × β)) := List.nodup_nil

theorem nd_erase {l : List (κ × β)} (k : κ) (h : ND l) : ND (erase l k) :=
  erase_eq l k ▸ Assoc.nodup_del h k

theorem nd_set {l : List (κ × β)} (k : κ) (v : β) (h : ND l) : ND (set l k v) :=
  set_eq l k v ▸ Assoc.nodup_set h k v

theorem get_iff_mem {l : List (κ × β)} (h : ND l) (k : κ) (v : β) : get l k = some v ↔ (k, v) ∈ l :=
  get_eq l k ▸ Assoc.get_iff_mem h

end AL

def KeysOk (st : St) : Prop :=
  ∀ s, AL.ND (st.oids s) ∧ AL.ND (st.paths s) ∧ ∀ x ∈ st.paths s, AL.ND x.2

theorem keysOk_congr {st st' : St} (ho : ∀ s, st'.oids s = st.oids s) (hp : ∀ s, st'.paths s = st.paths s) : KeysOk st' ↔ KeysOk st := by
  unfold KeysOk; simp only [ho, hp]

variable (st : St) in
@[simp] theorem keysOk_addEntry (ot) : KeysOk (addEntry st ot) ↔ KeysOk st := keysOk_congr (by simp) (by simp)

theorem keysOk_setOids {st : St} (h : KeysOk st) (s : Sd) (o : List (Oid × Nat)) (ho : AL.ND o) : KeysOk (st.setOids s o) := by
  intro s'
  by_cases hs : s' = s
  · subst hs; simp only [oids_setOids, paths_setOids, if_true]; exact ⟨ho, (h s').2⟩
  · simp only [oids_setOids, paths_setOids, hs, if_false]; exact h s'

theorem keysOk_setPaths {st : St} (h : KeysOk st) (s : Sd) (p : List (Option Path.Str × List (Oid × Nat))) (hp : AL.ND p)
    (hb : ∀ x ∈ p, AL.ND x.2) : KeysOk (st.setPaths s p) := by
  intro s'
  by_cases hs : s' = s
  · subst hs; simp only [oids_setPaths, paths_setPaths, if_true]; exact ⟨(h s').1, hp, hb⟩
  · simp only [oids_setPaths, paths_setPaths, hs, if_false]; exact h s'

theorem keysOk_popPathSlot {st : St} (h : KeysOk st) (s : Sd) (p : Option Path.Str) (k : Oid) : KeysOk (st.popPathSlot s p k) := by
  unfold St.popPathSlot
  cases hg : AL.get (st.paths s) p with
  | none => exact h
  | some b =>
    simp only
    split
    · exact keysOk_setPaths h s _ (AL.nd_erase p (h s).2.1) (fun x hx => (h s).2.2 x (AL.mem_of_mem_erase hx))
    · refine keysOk_setPaths h s _ (AL.nd_set p _ (h s).2.1) (fun x hx => ?_)
      rcases AL.mem_of_mem_set hx with rfl | hx'
      · exact AL.nd_erase k ((h s).2.2 _ (AL.mem_of_get hg))
      · exact (h s).2.2 x hx'

theorem keysOk_setPathSlot {st : St} (h : KeysOk st) (s : Sd) (p : Option Path.Str) (k : Oid) (i : Nat) : KeysOk (st.setPathSlot s p k i) := by
  unfold St.setPathSlot
  refine keysOk_setPaths h s _ (AL.nd_set p _ (h s).2.1) (fun x hx => ?_)
  rcases AL.mem_of_mem_set hx with rfl | hx'
  · apply AL.nd_set
    cases hg : AL.get (st.paths s) p with
    | none => exact AL.nd_nil
    | some b => exact (h s).2.2 _ (AL.mem_of_get hg)
  · exact (h s).2.2 x hx'

theorem keysOk_rec {st st' : St} (h : KeysOk st) (hL : st'.ixL = st.ixL) (hR : st'.ixR = st.ixR) : KeysOk st' :=
  (keysOk_congr (fun s => by cases s <;> simp [St.oids, St.ix, hL, hR]) (fun s => by cases s <;> simp [St.paths, St.ix, hL, hR])).2 h

def Kp {α} (m : M α) : Prop := ∀ st, KeysOk st → KeysOk (m st).2

theorem kpWalk : Walk (fun st st' => KeysOk st → KeysOk st') where
  refl _ h := h
  trans h1 h2 h := h2 (h1 h)
  eraseOid _ s k h := keysOk_setOids h s _ (AL.nd_erase k (h s).1)
  setOid _ s k i h := keysOk_setOids h s _ (AL.nd_set k i (h s).1)
  popPathSlot _ s p k h := keysOk_popPathSlot h s p k
  setPathSlot _ s p k i h := keysOk_setPathSlot h s p k i
  other hL hR _ h := keysOk_rec h hL hR
  pushPop h hk := keysOk_rec (h (keysOk_rec hk rfl rfl)) rfl rfl

theorem keysOk_foldl_loadOne : ∀ (l : List Nat) (st : St), KeysOk st → KeysOk (l.foldl loadOne st)
  | [], _, h => h
  | i :: t, st, h => keysOk_foldl_loadOne t _ (by rw [loadOne_eq]; exact walk_loadSide kpWalk _ _ _ (walk_loadSide kpWalk _ _ _ h))

theorem keysOk_of_empty {st : St} (hL : st.ixL = {}) (hR : st.ixR = {}) : KeysOk st := by
  intro s; cases s <;> simp only [St.oids, St.paths, St.ix, hL, hR] <;> exact ⟨AL.nd_nil, AL.nd_nil, fun x hx => by cases hx⟩

theorem keysOk_reload (st : St) : KeysOk (reload st) := by
  unfold reload load
  exact keysOk_foldl_loadOne _ _ (keysOk_of_empty rfl rfl)

theorem keysOk_init : KeysOk init := keysOk_of_empty rfl rfl

theorem kp_step (cfg : Cfg) (fuel : Nat) (op : Op) : Kp (step cfg fuel op) := by
  by_cases hne : op = .reload
  · subst hne; exact fun st _ => keysOk_reload st
  · exact keeps_step kpWalk cfg fuel op hne

theorem run_keysOk (cfg : Cfg) (fuel : Nat) : ∀ (ops : List Op) (st : St), KeysOk st → KeysOk (run cfg fuel ops st)
  | [], _, h => h
  | op :: ops, st, h => run_keysOk cfg fuel ops _ (kp_step cfg fuel op st h)

end CS.State
