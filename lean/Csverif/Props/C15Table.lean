import Csverif.Gen.LockSites
import Csverif.Props.C15
/-
C15 — the generated lock-site table (Gen/LockSites.lean, regenerated from the repo under test by
tools/gen_lock_sites.py on every run of the check) equals the audited table, in which every (entry point, function that
mutates sync state) pair is marked "reached only under `with …state.lock`" or "reached on some path without it".
Kept apart from Props/C15.lean so that a change of the repo rebuilds only this file.
-/
namespace CS.Lock

open CS.Lock.Gen

def entryPoints : List String := lockTable.map (·.1)

/-- functions (containing a statement that mutates sync state) reached while applying one event -/
def eventFns : List String :=
  ["SideState._set_exists", "SideState._set_mtime", "SideState.uncorrupt", "SyncEntry.unignore",
   "SyncState._change_oid", "SyncState._change_path", "SyncState._storage_update", "SyncState._update_kids", "SyncState._update_kids_of",
   "SyncState.mark_changed", "SyncState.storage_commit", "SyncState.update", "SyncState.update_entry",
   "SyncState.updated"]

/-- … reached while picking and synchronising one entry (`SyncManager.do`, all inside `with self.state.lock`) -/
def syncFns : List String :=
  ["SideState._set_exists", "SideState._set_mtime", "SideState.clean_temp", "SideState.clear", "SideState.set_aged",
   "SideState.set_force_sync", "SideState.uncorrupt", "SmartSyncState._smart_sync_ent", "SyncEntry.get_latest",
   "SyncEntry.ignore", "SyncEntry.mark_dirty", "SyncEntry.punt", "SyncEntry.unignore",
   "SyncManager.__resolver_merge_upload", "SyncManager._create_synced", "SyncManager.check_rename_is_delete_create",
   "SyncManager.check_revivify", "SyncManager.create_synced", "SyncManager.delete_synced",
   "SyncManager.download_changed", "SyncManager.embrace_change", "SyncManager.finished",
   "SyncManager.get_folder_file_conflict", "SyncManager.handle_changed_is_missing",
   "SyncManager.handle_cloud_file_not_found_error", "SyncManager.handle_corrupt", "SyncManager.handle_hash_diff",
   "SyncManager.handle_path_change_or_creation", "SyncManager.handle_rename", "SyncManager.handle_split_conflict",
   "SyncManager.resolve_conflict", "SyncManager.sync", "SyncManager.unsafe_mkdir_synced",
   "SyncManager.upload_synced", "SyncState._change_oid", "SyncState._change_path", "SyncState._storage_update",
   "SyncState._update_kids", "SyncState._update_kids_of", "SyncState.finished", "SyncState.mark_changed", "SyncState.split",
   "SyncState.storage_commit", "SyncState.unconditionally_get_latest", "SyncState.unconditionally_get_no_info",
   "SyncState.update", "SyncState.update_entry", "SyncState.updated"]

/-- UNLOCKED: `SmartSyncState._smart_sync_ent` (smartsync.py:105-114) clears the local side and calls `update_entry`
    without the lock when the state object's `smart_sync_path/_oid` are called directly, and from the `_changeset` getter
    (auto-sync callbacks) through the public `busy` / `changes`.  (`SmartCloudSync.smart_sync_path/_oid` take `state.lock`
    around the whole request: fix F7.) -/
def smartRequestFns : List String :=
  ["SideState._set_exists", "SideState._set_mtime", "SideState.clear", "SideState.uncorrupt",
   "SmartSyncState._smart_sync_ent", "SyncState._change_oid", "SyncState._change_path", "SyncState._update_kids", "SyncState._update_kids_of",
   "SyncState.mark_changed", "SyncState.update_entry", "SyncState.updated"]

/-- everything `smart_unsync_oid/_path` reaches: `SmartCloudSync._smart_unsync_ent` refreshes and synchronises one entry —
    the whole of `_sync_one_entry` — then `SmartSyncState._smart_unsync_ent` clears the local side.  The public methods take
    `state.lock` around all of it (fix F7) -/
def smartUnsyncFns : List String :=
  ["SideState._set_exists", "SideState._set_mtime", "SideState.clean_temp", "SideState.clear", "SideState.set_aged",
   "SideState.set_force_sync", "SideState.uncorrupt", "SmartCloudSync._smart_unsync_ent",
   "SmartSyncState._smart_sync_ent", "SmartSyncState._smart_unsync_ent", "SyncEntry.get_latest", "SyncEntry.ignore",
   "SyncEntry.mark_dirty", "SyncEntry.punt", "SyncEntry.unignore", "SyncManager.__resolver_merge_upload",
   "SyncManager._create_synced", "SyncManager.check_rename_is_delete_create", "SyncManager.check_revivify",
   "SyncManager.create_synced", "SyncManager.delete_synced", "SyncManager.download_changed",
   "SyncManager.embrace_change", "SyncManager.finished", "SyncManager.get_folder_file_conflict",
   "SyncManager.handle_changed_is_missing", "SyncManager.handle_cloud_file_not_found_error",
   "SyncManager.handle_corrupt", "SyncManager.handle_hash_diff", "SyncManager.handle_path_change_or_creation",
   "SyncManager.handle_rename", "SyncManager.handle_split_conflict", "SyncManager.resolve_conflict",
   "SyncManager.sync", "SyncManager.unsafe_mkdir_synced", "SyncManager.upload_synced", "SyncState._change_oid",
   "SyncState._change_path", "SyncState._storage_update", "SyncState._update_kids", "SyncState._update_kids_of", "SyncState.finished",
   "SyncState.mark_changed", "SyncState.split", "SyncState.storage_commit", "SyncState.unconditionally_get_latest",
   "SyncState.unconditionally_get_no_info", "SyncState.update", "SyncState.update_entry", "SyncState.updated"]

/-- `smart_delete_path`: its `if remote_path:` block; under `state.lock` (fix F7) -/
def smartDeleteFns : List String :=
  ["SideState._set_exists", "SideState._set_mtime", "SideState.uncorrupt", "SmartCloudSync.smart_delete_path",
   "SyncState._change_oid", "SyncState._change_path", "SyncState._update_kids", "SyncState._update_kids_of", "SyncState.mark_changed",
   "SyncState.update_entry", "SyncState.updated"]

/-- UNLOCKED: `SmartSyncState._smart_unsync_ent` (smartsync.py:133-142) called directly on the state object -/
def stateUnsyncFns : List String :=
  ["SideState._set_exists", "SideState._set_mtime", "SideState.clear", "SideState.uncorrupt",
   "SmartSyncState._smart_unsync_ent", "SyncState._change_oid", "SyncState._change_path", "SyncState._update_kids", "SyncState._update_kids_of",
   "SyncState.updated"]

/-- THE AUDITED TABLE: entry point, functions reached only under the lock, functions reached on some path without it -/
def audited : List (String × List String × List String) := [
  ("EventManager.do", eventFns, []),
  ("SyncManager.do", syncFns, []),
  ("SmartSyncManager.do", syncFns, []),
  ("NotificationManager.do", [], []),
  ("CloudSync.forget", ["SyncState.forget"], []),
  ("CloudSync.set_need_walk", [], []),
  ("CloudSync.aging", [], []),
  ("CloudSync.storage_label", [], []),
  ("CloudSync.walk", [], []),
  ("CloudSync.authenticate", [], []),
  ("CloudSync.prioritize", [], []),
  ("CloudSync.translate", [], []),
  ("CloudSync.resolve_conflict", [], []),
  ("CloudSync.change_count", [], []),
  ("CloudSync.busy", [], smartRequestFns),
  ("CloudSync.start", [], []),
  ("CloudSync.stop", [], []),
  ("CloudSync.do", syncFns, []),
  ("CloudSync.done", [], []),
  ("CloudSync.wait", [], []),
  ("CloudSync.handle_notification", [], []),
  ("SmartCloudSync.register_auto_sync_callback", [], []),
  ("SmartCloudSync.smart_unsync_oid", smartUnsyncFns, []),
  ("SmartCloudSync.smart_unsync_path", smartUnsyncFns, []),
  ("SmartCloudSync.smart_sync_oid", syncFns, []),
  ("SmartCloudSync.smart_sync_path", syncFns, []),
  ("SmartCloudSync.smart_listdir_path", [], []),
  ("SmartCloudSync.smart_info_path", [], []),
  ("SmartCloudSync.smart_info_oid", [], []),
  ("SmartCloudSync.smart_delete_path", smartDeleteFns, []),
  ("SmartCloudSync.smart_rename", [], []),
  ("SmartSyncState.smart_sync_path", [], smartRequestFns),
  ("SmartSyncState.smart_sync_oid", [], smartRequestFns),
  ("SmartSyncState.smart_unsync_ent", [], stateUnsyncFns),
  ("SmartSyncState.smart_unsync_oid", [], stateUnsyncFns),
  ("SmartSyncState.smart_listdir_path", [], []),
  ("SmartSyncState.changes", [], smartRequestFns),
  ("SmartSyncState.register_auto_sync_callback", [], []),
  ("NotificationManager.notify", [], []),
  ("NotificationManager.notify_from_exception", [], [])
]

/-- **the generated table is the audited table** (breaks whenever the locking structure of the repo changes:
    a `with …lock` removed or narrowed, a mutation or a call moved out of it, a new unlocked public path) -/
theorem lock_sites_audited : lockTable = audited := rfl

/-- the engine's own threads (event thread per side, sync thread, notification thread; `CloudSync.do` is the
    test-only sequential composition) touch sync state only under the lock -/
theorem engine_threads_locked :
    (lockTable.filter (fun r => ["EventManager.do", "SyncManager.do", "SmartSyncManager.do", "NotificationManager.do",
                                 "CloudSync.do"].contains r.1)).map (fun r => (r.1, r.2.2)) =
      [("EventManager.do", []), ("SyncManager.do", []), ("SmartSyncManager.do", []), ("NotificationManager.do", []),
       ("CloudSync.do", [])] := by
  decide +kernel

/-- the entry points with an unlocked path are exactly these (each is an open known finding, confirmed dynamically by
    harness/c15_threads.py; a NEW unlocked entry point breaks this theorem) -/
theorem unlocked_entry_points :
    (lockTable.filter (fun r => !r.2.2.isEmpty)).map (·.1) =
      ["CloudSync.busy", "SmartSyncState.smart_sync_path", "SmartSyncState.smart_sync_oid",
       "SmartSyncState.smart_unsync_ent", "SmartSyncState.smart_unsync_oid", "SmartSyncState.changes"] := rfl

/-- fix F7: the six public methods repaired by taking `state.lock` reach no mutating function without it
    (a revert of any one of the six edits breaks this theorem and `lock_sites_audited`) -/
theorem f7_entry_points_locked :
    (lockTable.filter (fun r => ["CloudSync.forget", "SmartCloudSync.smart_unsync_oid", "SmartCloudSync.smart_unsync_path",
                                 "SmartCloudSync.smart_sync_oid", "SmartCloudSync.smart_sync_path",
                                 "SmartCloudSync.smart_delete_path"].contains r.1)).map (fun r => (r.1, r.2.2)) =
      [("CloudSync.forget", []), ("SmartCloudSync.smart_unsync_oid", []), ("SmartCloudSync.smart_unsync_path", []),
       ("SmartCloudSync.smart_sync_oid", []), ("SmartCloudSync.smart_sync_path", []),
       ("SmartCloudSync.smart_delete_path", [])] := by
  decide +kernel

/-- THE AUDITED BINDING SITES: the state lock is created once, in the constructor of the state; nothing re-binds, deletes,
    aliases or copies it (kinds bind / del / setattr / dict / alias / copy of tools/gen_lock_sites.py `lock_bindings`) -/
def auditedBindings : List CS.LockId.BindingSite := [("bind", "SyncState.__init__", "self.lock")]

/-- the generated list of binding sites is the audited one (breaks on ANY new assignment, deletion, setattr, `__dict__` write,
    alias or copy of the lock attribute anywhere in the analysed sources; such a difference is never tolerated by the harness) -/
theorem lock_bindings_audited : lockBindings = auditedBindings := rfl

/-- LOCK-IDENTITY STABILITY of the source: the only binding site is the constructor's -/
theorem lock_identity_stable : CS.LockId.ConstructorOnly lockBindings = true := by
  decide

/-- the serializability theorem instantiated with the source's binding table: for every program that abstracts the engine
    (`RespectsBindings`) and keeps the discipline, every interleaving is equivalent to a serial one.  The lock-identity hypothesis
    of `discipline_implies_serializable_stable_lock` is discharged HERE, by the table fact. -/
theorem engine_serializable (p : CS.LockId.MProg) (σ : Loc → Val)
    (habs : CS.LockId.RespectsBindings lockBindings p) (hd : Disciplined (CS.LockId.toProg p))
    (sched : List Tid) (s' : CS.LockId.MState) (hr : CS.LockId.mrun (CS.LockId.minit p σ) sched = some s') :
    ∃ sched' s'', CS.LockId.mrun (CS.LockId.minit p σ) sched' = some s'' ∧ CS.LockId.MSerial (CS.LockId.minit p σ) sched' ∧
      s''.store = s'.store ∧ s''.obs = s'.obs :=
  CS.LockId.discipline_implies_serializable_stable_lock lockBindings p σ lock_identity_stable habs hd sched s' hr

end CS.Lock
