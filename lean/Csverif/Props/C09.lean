import Csverif.Proofs.Storage
import Csverif.Proofs.StoragePaged
import Csverif.Proofs.StorageConn
/-
C09 — storage backends behave as a tag-isolated map of rows.
Model: Model/Storage.lean (SqliteStorage statement semantics; MockStorage fixture).
-/
namespace CS.Storage
open Sqlite
-- `Spec.stepOk` asks for `DecidableEq V`, so the statements of this file carry it, most without using it
set_option linter.unusedSectionVars false
variable {V : Type} [DecidableEq V]

/-- Refinement, one step: from any table satisfying the primary-key invariant, every interface
    operation returns what the reference map returns and moves the abstraction exactly as the
    reference map moves (create returns an id no live row of *any* tag uses). -/
theorem sqlite_step_refines (t : Table V) (h : Inv t) (op : Op V) :
    Spec.stepOk (abs t) op (step t op).2 (abs (step t op).1) :=
  step_refines t h op

theorem sqlite_inv_run (ops : List (Op V)) (t : Table V) (h : Inv t) : Inv (run t ops).1 :=
  run_induct ops (fun t op _ => inv_step t op) t h

def SpecRun : Spec.M V → List (Op V) → List (Res V) → Spec.M V → Prop
  | m, [], [], m' => m' = m
  | m, op :: ops, r :: rs, m' => ∃ m1, Spec.stepOk m op r m1 ∧ SpecRun m1 ops rs m'
  | _, _, _, _ => False

/-- Refinement for every operation sequence: the backend's results are exactly those of the
    reference map, whatever the history (no bound on its length). -/
theorem sqlite_refines_map (ops : List (Op V)) (t : Table V) (h : Inv t) :
    SpecRun (abs t) ops (run t ops).2 (abs (run t ops).1) := by
  induction ops generalizing t with
  | nil => simp [run, SpecRun]
  | cons op ops ih =>
    simp only [run, SpecRun]
    exact ⟨_, sqlite_step_refines t h op, ih _ (inv_step t op h)⟩

theorem sqlite_init_inv : Sqlite.Inv ([] : Table V) := by simp [Sqlite.Inv]

/-- create returns an id that no live row (of any tag) is using -/
theorem create_fresh (t : Table V) (tag : Tag) (v : V) (n : Nat)
    (hr : (step t (.create tag v)).2 = .id n) : ∀ tg, abs t tg n = none := by
  cases hr
  exact abs_fresh t

set_option linter.unusedVariables false in
/-- read returns exactly the bytes last written for that tag and id -/
theorem read_your_write (t : Table V) (h : Inv t) (tag : Tag) (v : V) :
    ∃ n, (step t (.create tag v)).2 = .id n ∧
      (step (step t (.create tag v)).1 (.read tag (some n))).2 = .val (some v) := by
  refine ⟨maxId t + 1, rfl, ?_⟩
  have := abs_create t tag v
  simp only [step]
  change Res.val (abs (t ++ [{ id := maxId t + 1, tag := tag, val := v }]) tag (maxId t + 1)) = _
  rw [this, Spec.set_same]

theorem read_after_update (t : Table V) (tag : Tag) (n : Nat) (v : V) (hf : abs t tag n ≠ none) :
    (step (step t (.update tag v (some n))).1 (.read tag (some n))).2 = .val (some v) := by
  rw [step_update_fst t tag n v hf]
  change Res.val (abs _ tag n) = _
  rw [abs_update t tag n v hf, Spec.set_same]

set_option linter.unusedVariables false in
/-- update of a missing row is an error and changes nothing -/
theorem update_missing_is_error (t : Table V) (h : Inv t) (tag : Tag) (n : Nat) (v : V)
    (hm : abs t tag n = none) : step t (.update tag v (some n)) = (t, .valueError) :=
  step_update_missing t tag n v hm

theorem delete_idempotent (t : Table V) (tag : Tag) (eid : Option Nat) :
    (step (step t (.delete tag eid)).1 (.delete tag eid)).1 = (step t (.delete tag eid)).1 := by
  simp only [step, List.filter_filter]
  congr 1
  funext r; simp

set_option linter.unusedVariables false in
/-- an operation on one tag never affects another tag, even when ids coincide -/
theorem tag_isolation (t : Table V) (h : Inv t) (op : Op V) (tag other : Tag) (hne : other ≠ tag)
    (hop : match op with
      | .create tg _ => tg = tag | .update tg _ _ => tg = tag | .delete tg _ => tg = tag
      | _ => True) (n : Nat) (hlive : abs t other n ≠ none) :
    abs (step t op).1 other n = abs t other n := by
  rcases step_abs t h op with he | ⟨tg, k, v, he, _, hm⟩ <;> rw [he]
  refine Spec.set_other_tag _ _ _ _ ?_
  rintro rfl
  cases op <;> simp_all

/-- closing and reopening the file is the identity on the model (durability itself is SQLite's) -/
theorem reopen_identity (t : Table V) : (step t .reopen).1 = t := rfl

/-- no lost write under concurrency, given statement atomicity (the class holds a mutex around every
    `execute`): any interleaving of the callers' operations is some operation sequence, and for every
    operation sequence without deletes each created row is still live at the end. -/
theorem creates_survive (ops : List (Op V)) (t : Table V) (h : Inv t)
    (hnd : ∀ op ∈ ops, ∀ tg e, op ≠ .delete tg e) (tag : Tag) (n : Nat) (hl : abs t tag n ≠ none) :
    abs (run t ops).1 tag n ≠ none := by
  refine (run_induct (P := fun t => Inv t ∧ abs t tag n ≠ none) ops (fun t op hop ⟨h, hl⟩ => ⟨inv_step t op h, ?_⟩) t ⟨h, hl⟩).2
  rcases step_abs t h op with he | ⟨tg, k, v, he, hv, _⟩ <;> rw [he]
  · exact hl
  · simp only [Spec.set]
    split
    · intro c
      obtain ⟨e, rfl⟩ := hv c
      exact hnd _ hop _ _ rfl
    · exact hl

/-! Size independence of `read_all`: nothing above bounds the number of rows.  The statements below make the `read_all`
clause explicit for every reachable table of any size: the result is exactly the live rows of the tag (or of all tags) in
strictly increasing id order, this determines the result uniquely, and a keyset-paged reader with the correct cursor rule
returns the very same rows for EVERY page size `p ≥ 1` — paging must be invisible.  The off-by-one cursor rule
(`pos = last id + 1` with a strict `id > pos`) is not: it loses the row after a full page, for every page size
(`paged_off_by_one_loses_row`). -/

/-- id order and ids ≥ 1 hold in every table reachable from the empty one -/
theorem sqlite_inv2_run (ops : List (Op V)) (t : Table V) (h : Inv2 t) : Inv2 (run t ops).1 :=
  run_induct ops (fun t op _ => inv2_step t op) t h

theorem sqlite_init_inv2 : Inv2 ([] : Table V) := ⟨List.Pairwise.nil, fun _ h => by cases h⟩

theorem reachable_inv2 (ops : List (Op V)) : Inv2 (run ([] : Table V) ops).1 := sqlite_inv2_run ops [] sqlite_init_inv2

/-- `read_all` returns exactly the live rows of the tag (all tags for `none`), in strictly increasing id order,
    for every table with the id-order invariant -/
theorem read_all_exact_inv (t : Table V) (h : Inv2 t) (tag : Option Tag) :
    ∃ rs, (step t (.readAll tag)).2 = .rows rs ∧ rs.Pairwise (fun a b => a.2.1 < b.2.1) ∧
      ∀ tg n v, (tg, n, v) ∈ rs ↔ ((tag = none ∨ tag = some tg) ∧ abs t tg n = some v) := by
  rw [step_readAll]
  refine ⟨_, rfl, List.pairwise_map.2 (sorted_filter h.1 _), fun tg n v => ?_⟩
  rw [mem_rows t h.1.inv, and_comm]
  cases tag with
  | none => simp [sel]
  | some tg' => simp [sel, @eq_comm _ tg']

/-- … in particular after every operation sequence, whatever its length and however many rows it leaves -/
theorem read_all_exact (ops : List (Op V)) (tag : Option Tag) :
    ∃ rs, (step (run ([] : Table V) ops).1 (.readAll tag)).2 = .rows rs ∧ rs.Pairwise (fun a b => a.2.1 < b.2.1) ∧
      ∀ tg n v, (tg, n, v) ∈ rs ↔ ((tag = none ∨ tag = some tg) ∧ abs (run ([] : Table V) ops).1 tg n = some v) :=
  read_all_exact_inv _ (reachable_inv2 ops) tag

/-- "the live rows in id order" determines the result of `read_all` uniquely -/
theorem read_all_unique (rs rs' : List (Tag × Nat × V))
    (h : rs.Pairwise (fun a b => a.2.1 < b.2.1)) (h' : rs'.Pairwise (fun a b => a.2.1 < b.2.1))
    (hm : ∀ x, x ∈ rs ↔ x ∈ rs') : rs = rs' := by
  -- an order that is antisymmetric on the members admits one sorted arrangement of a duplicate-free list
  have nd : ∀ {l : List (Tag × Nat × V)}, l.Pairwise (fun a b => a.2.1 < b.2.1) → l.Nodup :=
    fun hl => hl.imp fun hab e => by subst e; omega
  exact List.Perm.eq_of_pairwise (fun _ _ _ _ hab hba => by omega) h h' ((List.perm_ext_iff_of_nodup (nd h) (nd h')).2 hm)

/-- paging is invisible: a keyset-paged reader with the correct cursor rule (`pos := last id` for `id > pos`)
    returns exactly what the single `SELECT` returns, for every page size `p ≥ 1` and every table in id order.
    The last argument of `pagedReadAll` is what the reader adds to the last id of a page to get the next cursor:
    `0` is this rule, `1` the off-by-one rule `pos := last id + 1` examined below. -/
theorem paged_read_all_eq (t : Table V) (h : Inv2 t) (tag : Option Tag) (p : Nat) (hp : 1 ≤ p) :
    pagedReadAll t tag p 0 = (step t (.readAll tag)).2 := by
  rw [pagedReadAll, pagedRows_correct t h tag p hp, step_readAll]

/-- … hence for every reachable table of any size -/
theorem paged_read_all_invisible (ops : List (Op V)) (tag : Option Tag) (p : Nat) (hp : 1 ≤ p) :
    pagedReadAll (run ([] : Table V) ops).1 tag p 0 = (step (run ([] : Table V) ops).1 (.readAll tag)).2 :=
  paged_read_all_eq _ (reachable_inv2 ops) tag p hp

/-- `n` rows of one tag with the contiguous ids `1..n` -/
def contig (tag : Tag) (v : V) (n : Nat) : Table V := (List.range n).map (fun i => ⟨i + 1, tag, v⟩)

omit [DecidableEq V] in
theorem maxId_contig (tag : Tag) (v : V) (n : Nat) : maxId (contig tag v n) = n := by
  induction n with
  | zero => rfl
  | succ n ih =>
    have : contig tag v (n + 1) = contig tag v n ++ [⟨n + 1, tag, v⟩] := by
      simp [contig, List.range_succ]
    rw [this, maxId_append_single, ih]; simp

/-- the contiguous table is what `n` creates on a fresh file leave -/
theorem contig_reachable (tag : Tag) (v : V) (n : Nat) :
    (run ([] : Table V) (List.replicate n (.create tag v))).1 = contig tag v n := by
  induction n with
  | zero => rfl
  | succ n ih =>
    rw [List.replicate_succ', run_append, ih]
    simp only [run, step, maxId_contig]
    simp [contig, List.range_succ]

theorem contig_sorted (tag : Tag) (v : V) (n : Nat) : Sorted (contig tag v n) := by
  rw [← contig_reachable]
  exact (reachable_inv2 _).1

omit [DecidableEq V] in
theorem contig_filter_sel (tag : Tag) (v : V) (n : Nat) :
    (contig tag v n).filter (sel (some tag)) = contig tag v n := by
  rw [List.filter_eq_self]
  intro a ha
  obtain ⟨i, _, rfl⟩ := List.mem_map.1 ha
  simp [sel]

/-- the off-by-one rule loses a row for EVERY page size: on `p + 1` contiguous rows the paged reader with
    `pos := last id + 1` returns the first `p` rows only; the row with id `p + 1` is live and missing -/
theorem paged_off_by_one_loses_row (tag : Tag) (v : V) (p : Nat) (hp : 1 ≤ p) :
    pagedRows (contig tag v (p + 1)) (some tag) p 1 = contig tag v p ∧
    abs (contig tag v (p + 1)) tag (p + 1) = some v ∧
    (⟨p + 1, tag, v⟩ : Row V) ∉ pagedRows (contig tag v (p + 1)) (some tag) p 1 := by
  have hrows : pagedRows (contig tag v (p + 1)) (some tag) p 1 = contig tag v p := by
    unfold pagedRows
    have hlen : (contig tag v (p + 1)).length + 1 = (p + 1) + 1 := by simp [contig]
    rw [hlen]
    have hf0 := filter_pos_zero (contig tag v (p + 1)) fun a ha => by
      obtain ⟨i, _, rfl⟩ := List.mem_map.1 ha
      exact Nat.le_add_left 1 i
    have htake : (contig tag v (p + 1)).take p = contig tag v p := by
      simp only [contig, ← List.map_take, List.take_range]
      congr 2
      omega
    have hlast : (contig tag v p).getLast? = some ⟨p, tag, v⟩ := by
      obtain ⟨q, rfl⟩ : ∃ q, p = q + 1 := ⟨p - 1, by omega⟩
      simp [contig, List.range_succ]
    have hfp : (contig tag v (p + 1)).filter (fun r => decide (p + 1 < r.id)) = [] := by
      rw [List.filter_eq_nil_iff]
      intro a ha
      obtain ⟨i, hi, rfl⟩ := List.mem_map.1 ha
      have := List.mem_range.1 hi
      simp only [decide_eq_true_eq]; omega
    have hlenp : (contig tag v p).length = p := by simp [contig]
    -- the first page is full and ends in id `p`; the next cursor is `p + 1`, the query `id > p + 1` finds nothing, and the
    -- short (empty) page ends the scan
    simp only [pagedGo, page_eq (contig_sorted tag v (p + 1)), contig_filter_sel, hf0, htake, hlenp, Nat.lt_irrefl, if_false,
      hlast, hfp, List.take_nil, List.length_nil]
    rw [if_pos (by omega)]
    simp
  refine ⟨hrows, ?_, ?_⟩
  · rw [abs_eq_some_iff _ (contig_sorted tag v (p + 1)).inv]
    exact List.mem_map.2 ⟨p, List.mem_range.2 (by omega), rfl⟩
  · rw [hrows]
    intro hmem
    obtain ⟨i, hi, he⟩ := List.mem_map.1 hmem
    have := List.mem_range.1 hi
    simp only [Row.mk.injEq] at he
    omega

/-- kernel-checked witness: three creates on a fresh file, page size 2 — the off-by-one reader returns two rows,
    `read_all` (and the correct paged reader) three -/
theorem paged_off_by_one_differs :
    let t := (run ([] : Table Nat) [.create "t" 10, .create "t" 20, .create "t" 30]).1
    pagedReadAll t (some "t") 2 1 = .rows [("t", 1, 10), ("t", 2, 20)] ∧
    pagedReadAll t (some "t") 2 0 = .rows [("t", 1, 10), ("t", 2, 20), ("t", 3, 30)] ∧
    (step t (.readAll (some "t"))).2 = .rows [("t", 1, 10), ("t", 2, 20), ("t", 3, 30)] := by
  decide +kernel

/-- the off-by-one reader is only wrong when the id after a full page is a live row of the tag: with a gap
    there (a row of another tag) it agrees — why small or gappy tables cannot expose it -/
theorem paged_off_by_one_hidden_by_gap :
    let t := (run ([] : Table Nat) [.create "t" 10, .create "t" 20, .create "u" 99, .create "t" 30]).1
    pagedReadAll t (some "t") 2 1 = (step t (.readAll (some "t"))).2 := by
  decide +kernel

/-! Durability across reconnects (Model/Storage.lean `namespace Conn`).  The object replaces its connection whenever `execute`
raises `OperationalError`.  If EVERY connection it can ever use is in autocommit mode (`Conn.Good`: Props/C09Sql.lean
`code_cfg_autocommit` derives this from the connection-configuration sites of the code), then - for every sequence of calls,
faults (transient, persistent, during fetch), lock windows of another connection and reopens - each acknowledged call has moved
the COMMITTED table exactly as `Sqlite.step` says, at once; a failed call has not touched it; and the object's own connection,
a fresh connection and the reopened file all read that one table (`conn_run_refines`, `acknowledged_visible_everywhere`).
So every theorem above (stated for `Sqlite.step` / `Sqlite.run`) speaks about what is durably in the file.
If only the first connection is configured (`reconnAuto = false`) acknowledged writes are lost: `non_autocommit_reconnect_loses_writes`. -/
section ConnLevel
open Conn

theorem conn_init_inv (cfg : Cfg) (hc : Good cfg) : CInv (Conn.init cfg : Conn.St V) := ⟨hc.1, rfl, rfl⟩

theorem conn_step_call (cfg : Cfg) (s : Conn.St V) (o : Op V) (n : Nat) (ff : Bool) (ho : o ≠ .reopen) :
    Conn.step cfg s (.call o n ff) =
      (match (attempt cfg s o n).2 with
       | none => ((attempt cfg s o n).1, .operationalError)
       | some r => if ff && usesFetch o then ((attempt cfg s o n).1, .operationalError) else ((attempt cfg s o n).1, .ok r)) :=
  step_call cfg s ho n ff

/-- the connection invariant (autocommit, no open transaction, view = committed file) survives every step -/
theorem conn_inv_step (cfg : Cfg) (hc : Good cfg) (s : Conn.St V) (h : CInv s) (cop : COp V) :
    CInv (Conn.step cfg s cop).1 := by
  cases cop with
  | call o n ff =>
    rw [call_good cfg hc s h]
    split
    · exact cinv_good ..
    · exact h
  | fresh tag => exact h
  | lock =>
    simp only [Conn.step]
    split <;> exact h
  | unlock => exact h

/-- an ACKNOWLEDGED call returned what the single-table model returns on the committed table and moved the committed table
    exactly as the model moves it - at once, whatever faults and reconnects happened inside the call -/
theorem conn_call_acknowledged (cfg : Cfg) (hc : Good cfg) (s : Conn.St V) (h : CInv s) (o : Op V) (n : Nat) (ff : Bool)
    (r : Res V) (hr : (Conn.step cfg s (.call o n ff)).2 = .ok r) :
    r = (Sqlite.step s.committed o).2 ∧ (Conn.step cfg s (.call o n ff)).1.committed = (Sqlite.step s.committed o).1 := by
  rw [call_good cfg hc s h] at hr ⊢
  split at hr <;> cases hr
  rw [if_pos ‹_›]
  exact ⟨rfl, rfl⟩

/-- a call that raised `OperationalError` left the committed table untouched (no partial effect) -/
theorem conn_call_failed (cfg : Cfg) (hc : Good cfg) (s : Conn.St V) (h : CInv s) (o : Op V) (n : Nat) (ff : Bool)
    (hr : (Conn.step cfg s (.call o n ff)).2 = .operationalError) :
    (Conn.step cfg s (.call o n ff)).1.committed = s.committed := by
  rw [call_good cfg hc s h] at hr ⊢
  split at hr <;> cases hr
  rw [if_neg ‹_›]

/-- a fresh connection reads the committed table; `lock` / `unlock` / `fresh` never change it -/
theorem conn_fresh_reads_committed (cfg : Cfg) (s : Conn.St V) (tag : Option Tag) :
    Conn.step cfg s (.fresh tag) = (s, .ok (Sqlite.step s.committed (.readAll tag)).2) := rfl

theorem conn_lock_keeps_committed (cfg : Cfg) (s : Conn.St V) :
    (Conn.step cfg s .lock).1.committed = s.committed ∧ (Conn.step cfg s .unlock).1.committed = s.committed := by
  refine ⟨?_, rfl⟩
  simp only [Conn.step]
  split <;> rfl

/-- Refinement for every sequence of calls, faults, lock windows and reopens (induction, no bound): the committed table is
    the single-table model run over exactly the acknowledged calls, and the connection invariant holds at the end. -/
theorem conn_run_refines (cfg : Cfg) (hc : Good cfg) (cops : List (COp V)) (s : Conn.St V) (h : CInv s) :
    CInv (Conn.run cfg s cops).1 ∧
    (Conn.run cfg s cops).1.committed = (Sqlite.run s.committed (acked cops (Conn.run cfg s cops).2)).1 := by
  induction cops generalizing s with
  | nil => exact ⟨h, rfl⟩
  | cons cop cops ih =>
    have hi := conn_inv_step cfg hc s h cop
    have ih' := ih (Conn.step cfg s cop).1 hi
    simp only [Conn.run]
    refine ⟨ih'.1, ?_⟩
    rw [ih'.2]
    cases cop with
    | call o n ff =>
      rw [call_good cfg hc s h]
      split <;> rfl
    | fresh tag => rfl
    | lock =>
      simp only [Conn.step]
      split <;> rfl
    | unlock => rfl

/-- Every acknowledged write is visible everywhere at once: after ANY history (from a fresh file), the object's own
    `read_all`, a fresh connection, and `read_all` after close + reopen (also a reopen whose set-up hit a fault) all return the
    rows of the single-table model run over the acknowledged calls. -/
theorem acknowledged_visible_everywhere (cfg : Cfg) (hc : Good cfg) (cops : List (COp V)) (tag : Option Tag) :
    let s := (Conn.run cfg (Conn.init cfg : Conn.St V) cops).1
    let T := (Sqlite.run ([] : Table V) (acked cops (Conn.run cfg (Conn.init cfg : Conn.St V) cops).2)).1
    let want : CRes V := .ok (Sqlite.step T (.readAll tag)).2
    (Conn.step cfg s (.fresh tag)).2 = want ∧
    (Conn.step cfg s (.call (.readAll tag) 0 false)).2 = want ∧
    (∀ n, (Conn.step cfg (Conn.step cfg s (.call .reopen n false)).1 (.call (.readAll tag) 0 false)).2 = want) := by
  intro s T want
  have hrun := conn_run_refines cfg hc cops (Conn.init cfg : Conn.St V) (conn_init_inv cfg hc)
  have hT : s.committed = T := hrun.2
  have hs : CInv s := hrun.1
  have hread : ∀ (s' : Conn.St V), CInv s' → s'.committed = T →
      (Conn.step cfg s' (.call (.readAll tag) 0 false)).2 = want := by
    intro s' hs' hc'
    rw [call_good cfg hc s' hs', hc']
    cases s'.locked <;> rfl
  refine ⟨?_, hread s hs hT, ?_⟩
  · show CRes.ok (Sqlite.step s.committed (.readAll tag)).2 = want
    rw [hT]
  · intro n
    apply hread
    · exact conn_inv_step cfg hc s hs _
    · show s.committed = T
      exact hT

/-- kernel-checked witness (the defect of seeded/R4-C09): autocommit configured for the first connection only.  A transient fault in
    an update makes the object reconnect; the update and a later create are acknowledged and visible through the object,
    but a fresh connection and the reopened file still hold the old row only -/
theorem non_autocommit_reconnect_loses_writes :
    let cfg : Cfg := { initAuto := true, reconnAuto := false }
    (Conn.run cfg (Conn.init cfg : Conn.St Nat)
      [ .call (.create "t" 10) 0 false, .call (.update "t" 11 (some 1)) 1 false, .call (.create "t" 20) 0 false,
        .call (.readAll (some "t")) 0 false, .fresh (some "t"), .lock,
        .call .reopen 0 false, .call (.readAll (some "t")) 0 false ]).2 =
      [ .ok (.id 1), .ok (.count 1), .ok (.id 2),
        .ok (.rows [("t", 1, 11), ("t", 2, 20)]), .ok (.rows [("t", 1, 10)]), .busy,
        .ok .unit, .ok (.rows [("t", 1, 10)]) ] := by
  decide +kernel

/-- the same history with every connection in autocommit mode: nothing is lost (and the other connection gets its lock) -/
theorem autocommit_reconnect_keeps_writes :
    let cfg : Cfg := { initAuto := true, reconnAuto := true }
    (Conn.run cfg (Conn.init cfg : Conn.St Nat)
      [ .call (.create "t" 10) 0 false, .call (.update "t" 11 (some 1)) 1 false, .call (.create "t" 20) 0 false,
        .call (.readAll (some "t")) 0 false, .fresh (some "t"), .lock, .call (.update "t" 12 (some 1)) 0 false, .unlock,
        .call .reopen 1 false, .call (.readAll (some "t")) 0 true, .call (.readAll (some "t")) 2 false,
        .call (.readAll (some "t")) 0 false ]).2 =
      [ .ok (.id 1), .ok (.count 1), .ok (.id 2),
        .ok (.rows [("t", 1, 11), ("t", 2, 20)]), .ok (.rows [("t", 1, 11), ("t", 2, 20)]), .ok .unit, .operationalError,
        .ok .unit, .ok .unit, .operationalError, .operationalError, .ok (.rows [("t", 1, 11), ("t", 2, 20)]) ] := by
  decide +kernel

end ConnLevel

/-! Known findings about the `MockStorage` fixture (not editable: it is part of the test suite),
    as kernel-checked witnesses on the model; both are replayed on the real class on every run. -/

/-- a second instance over the same dict hands out an id that is in use -/
theorem mock_create_not_fresh_after_reopen :
    let s0 : Mock.St Nat := { rows := [], cursor := 0 }
    let s1 := (Mock.step s0 (.create "t" 7)).1
    let s2 := (Mock.step s1 .reopen).1
    (Mock.step s2 (.create "t" 8)).2 = .id 0 ∧ (Mock.step s1 (.read "t" (some 0))).2 = .val (some 7) := by
  decide +kernel

/-- read of a missing id raises instead of returning nothing -/
theorem mock_read_missing_raises :
    (Mock.step ({ rows := [], cursor := 0 } : Mock.St Nat) (.read "t" (some 3))).2 = .valueError := by
  decide +kernel

/-- non-vacuity: a two-tag table satisfies the invariant -/
example : Sqlite.Inv ([⟨1, "a", 10⟩, ⟨2, "b", 20⟩, ⟨3, "a", 30⟩] : Table Nat) := by
  simp [Sqlite.Inv]

/-- … and the id-order invariant of the size-independence theorems, on a table with a gap (id 3 deleted) -/
example : Sqlite.Inv2 ([⟨1, "a", 10⟩, ⟨2, "b", 20⟩, ⟨4, "a", 30⟩] : Table Nat) := by
  simp [Sqlite.Inv2, Sqlite.Sorted]

end CS.Storage
