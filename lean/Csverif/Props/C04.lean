import Csverif.Props.C01
import Csverif.Proofs.ObjTree
/-
C04 — non-conflicting concurrent changes merge exactly: the reference semantics `applyOp`
(Model/Spec/Sync.lean) of user operations on disjoint objects is order independent, so the tree the
monitor (op `c04`) expects, `mergeExpected base opsL opsR`, does not depend on the side order nor on
how the two sides' operations were interleaved in real time.

For a single pair of disjoint operations the two orders give the same lookup function with no hypothesis on the tree
(`applyOp_comm`).  For sequences only "the same entries up to their order" lifts unconditionally
(`merge_order_independent_perm`); the lookup form needs the expected tree to have unique paths (`Tree.WF`), because on a
tree that lists a path twice a rename's result depends on the entry order (`rename_not_congr_get`).  `Valid`, the
destination of a rename is free, is the decidable precondition under which operations keep paths unique.
-/
namespace CS.Spec

/-- a user operation does not change what is found at a path unrelated to all the paths it touches -/
theorem applyOp_preserves_get_unrelated (t : Tree) (a : UOp) (x : RPath)
    (h : a.roots.all (fun r => unrelated r x) = true) : (applyOp t a).get x = t.get x :=
  get_applyOp_of_not_below t a x fun r hr => ((unrelated_iff r x).mp (List.all_eq_true.mp h r hr)).1

/-- sharper for the four single-path operations: only the path itself is affected … -/
theorem applyOp_preserves_get_ne (t : Tree) (a : UOp) (ha : a.simple = true) (x : RPath) (hx : x ≠ a.pt) :
    (applyOp t a).get x = t.get x := by
  rw [get_applyOp_simple t ha, if_neg hx]

/-- … and there the effect is the expected one -/
theorem applyOp_get_self (t : Tree) :
    (∀ p tag, (applyOp t (.create p tag)).get p = some (.file tag)) ∧
    (∀ p tag, (applyOp t (.write p tag)).get p = (t.get p).map (fun _ => .file tag)) ∧
    (∀ p, (applyOp t (.mkdir p)).get p = (t.get p).or (some .dir)) ∧
    (∀ p, (applyOp t (.delete p)).get p = none) := by
  refine ⟨fun p tag => ?_, fun p tag => ?_, fun p => ?_, fun p => ?_⟩ <;>
    exact (get_applyOp_simple t rfl _).trans (if_pos rfl)

/-- operations on disjoint objects commute: both orders give the same lookup function.
    No hypothesis on the tree (not even unique paths) and no validity of the operations is needed. -/
theorem applyOp_comm (t : Tree) (a b : UOp) (hd : disjointOps a b = true) :
    ∀ p, (applyOp (applyOp t a) b).get p = (applyOp (applyOp t b) a).get p := by
  intro p
  rcases applyOp_comm_cases t a b hd with h | ⟨ha, hb, hne⟩
  · rw [h]
  · exact simple_simple_get t ha hb hne p

/-- … and the same entries, possibly in another order -/
theorem applyOp_comm_perm (t : Tree) (a b : UOp) (hd : disjointOps a b = true) :
    (applyOp (applyOp t a) b).Perm (applyOp (applyOp t b) a) := by
  rcases applyOp_comm_cases t a b hd with h | ⟨ha, hb, hne⟩
  · rw [h]
  · exact simple_simple_perm t ha hb hne

/-- with a rename involved the two orders give literally the same list -/
theorem applyOp_comm_rename_eq (t : Tree) (s d : RPath) (b : UOp) (hd : disjointOps (.rename s d) b = true) :
    applyOp (applyOp t (.rename s d)) b = applyOp (applyOp t b) (.rename s d) := by
  rcases applyOp_comm_cases t (.rename s d) b hd with h | ⟨ha, _, _⟩
  · exact h
  · cases ha

/-- operations do not look at the order of the entries -/
theorem applyOp_congr_perm (t u : Tree) (h : t.Perm u) (a : UOp) : (applyOp t a).Perm (applyOp u a) := by
  cases a with
  | create p tag => exact List.Perm.append_right _ (h.filter _)
  | write p tag => exact h.map _
  | mkdir p =>
    have hh : t.has p = u.has p := h.any_eq
    simp only [applyOp, hh]
    split
    · exact h
    · exact h.append_right _
  | delete p => exact h.filter _
  | rename s d => exact h.map _

/- FALSE (kept for the record): operations do not respect mere equality of lookups, so the lookup
   form of commutation cannot be lifted to sequences by itself.
theorem applyOp_congr_get (t u : Tree) (h : ∀ p, t.get p = u.get p) (a : UOp) :
    ∀ p, (applyOp t a).get p = (applyOp u a).get p
-/
/-- counterexample: the same two entries in the two orders are equal as lookup functions, but after
    renaming `s` onto the occupied `d` the entry that is listed first wins -/
theorem rename_not_congr_get :
    let t : Tree := [(["d", "x"], .file 1), (["s", "x"], .file 2)]
    let u : Tree := [(["s", "x"], .file 2), (["d", "x"], .file 1)]
    t.WF ∧ u.WF ∧ (∀ p ∈ [["d", "x"], ["s", "x"]], t.get p = u.get p) ∧ t.Perm u ∧
    (applyOp t (.rename ["s"] ["d"])).get ["d", "x"] = some (.file 1) ∧
    (applyOp u (.rename ["s"] ["d"])).get ["d", "x"] = some (.file 2) := by
  refine ⟨by decide, by decide, by decide, ?_, by decide, by decide⟩
  exact List.Perm.swap _ _ _

/-- the partial version: for trees with unique paths that agree as *sets of entries* -/
theorem applyOp_congr_get_partial (t u : Tree) (h : t.Perm u) (a : UOp) (hw : (applyOp t a).WF) :
    ∀ p, (applyOp t a).get p = (applyOp u a).get p :=
  fun p => Tree.get_eq_of_perm (applyOp_congr_perm t u h a) hw p

/-- operations keep paths unique provided the destination of every rename is free (`Valid`) -/
theorem applyOp_preserves_WF (t : Tree) (hw : t.WF) (a : UOp) (hv : Valid t a = true) : (applyOp t a).WF := by
  cases a with
  | create p tag => exact Assoc.nodup_del_snoc hw p _
  | write p tag =>
    rw [applyOp, Tree.WF, List.map_map, List.map_congr_left (g := (·.1))]
    · exact hw
    · intro e _; simp only [Function.comp]; split <;> simp_all
  | mkdir p =>
    rw [applyOp]
    split
    · exact hw
    · next h =>
      refine nodup_key_snoc _ hw (fun y hy hyp => h ?_)
      exact List.any_eq_true.mpr ⟨y, hy, beq_iff_eq.mpr hyp⟩
  | delete p => exact hw.filter _
  | rename s d =>
    rw [applyOp, Tree.WF, List.map_map]
    exact List.pairwise_map.mpr ((List.pairwise_map.mp hw).imp_of_mem
      fun h1 h2 hne heq => hne (rebase_inj_on hv h1 h2 heq))

theorem applyOps_preserves_WF (t : Tree) (hw : t.WF) (as : List UOp) (hv : ValidSeq t as = true) :
    (applyOps t as).WF := by
  induction as generalizing t with
  | nil => exact hw
  | cons a as ih =>
    simp only [ValidSeq, Bool.and_eq_true] at hv
    exact ih _ (applyOp_preserves_WF t hw a hv.1) hv.2

/-- `Valid` cannot be dropped: renaming onto an occupied destination lists a path twice -/
theorem rename_onto_occupied_not_WF :
    let t : Tree := [(["d", "x"], .file 1), (["s", "x"], .file 2)]
    t.WF ∧ Valid t (.rename ["s"] ["d"]) = false ∧ ¬ (applyOp t (.rename ["s"] ["d"])).WF := by
  decide +kernel

/-- a rename moves the subtree: with a free destination, the node at `src ++ r` is found at `dst ++ r` -/
theorem applyOp_rename_get (t : Tree) (hw : t.WF) (s d r : RPath) (hv : Valid t (.rename s d) = true)
    (n : Node) (h : t.get (s ++ r) = some n) : (applyOp t (.rename s d)).get (d ++ r) = some n := by
  apply Tree.get_eq_some_of_mem (applyOp_preserves_WF t hw _ hv)
  have hm := Tree.mem_of_get_eq_some h
  rw [applyOp_rename]
  simp only [List.mem_map]
  exact ⟨_, hm, by simp [renameEntry, rebase_append]⟩

theorem applyOps_perm {t u : Tree} (h : t.Perm u) (as : List UOp) : (applyOps t as).Perm (applyOps u as) := by
  induction as generalizing t u with
  | nil => exact h
  | cons a _ ih => exact ih (applyOp_congr_perm _ _ h a)

/-- a single operation moves past a sequence of operations it is disjoint from -/
theorem applyOps_comm_one (t : Tree) (b : UOp) (as : List UOp)
    (hd : as.all (fun a => disjointOps a b) = true) :
    (applyOps (applyOp t b) as).Perm (applyOp (applyOps t as) b) := by
  induction as generalizing t with
  | nil => exact List.Perm.refl _
  | cons a as ih =>
    simp only [List.all_cons, Bool.and_eq_true] at hd
    rw [applyOps_cons, applyOps_cons]
    have h1 : (applyOp (applyOp t b) a).Perm (applyOp (applyOp t a) b) :=
      (applyOp_comm_perm t a b hd.1).symm
    exact (applyOps_perm h1 as).trans (ih (applyOp t a) hd.2)

theorem disjointSeqs_cons_right (as : List UOp) (b : UOp) (bs : List UOp) :
    disjointSeqs as (b :: bs) = true ↔
      as.all (fun a => disjointOps a b) = true ∧ disjointSeqs as bs = true := by
  simp only [disjointSeqs, List.all_cons, List.all_eq_true, Bool.and_eq_true, ← forall_and]

theorem disjointSeqs_cons_left (a : UOp) (as bs : List UOp) :
    disjointSeqs (a :: as) bs = true ↔
      bs.all (fun b => disjointOps a b) = true ∧ disjointSeqs as bs = true := by
  simp only [disjointSeqs, List.all_cons, Bool.and_eq_true]

theorem disjointSeqs_comm (as bs : List UOp) : disjointSeqs as bs = disjointSeqs bs as :=
  all_all_swap disjointOps disjointOps_comm as bs

/-- `m` is an interleaving of `as` and `bs`: the real-time order of the two sides' operations, each side keeping its own order -/
inductive Interleaving : List UOp → List UOp → List UOp → Prop where
  | nil : Interleaving [] [] []
  | left (a : UOp) {as bs m : List UOp} : Interleaving as bs m → Interleaving (a :: as) bs (a :: m)
  | right (b : UOp) {as bs m : List UOp} : Interleaving as bs m → Interleaving as (b :: bs) (b :: m)

theorem Interleaving.nil_left (bs : List UOp) : Interleaving [] bs bs := by
  induction bs with
  | nil => exact .nil
  | cons b bs ih => exact .right b ih

theorem Interleaving.nil_right (as : List UOp) : Interleaving as [] as := by
  induction as with
  | nil => exact .nil
  | cons a as ih => exact .left a ih

theorem Interleaving.append (as bs : List UOp) : Interleaving as bs (as ++ bs) := by
  induction as with
  | nil => exact Interleaving.nil_left bs
  | cons a as ih => exact .left a ih

theorem Interleaving.append' (as bs : List UOp) : Interleaving as bs (bs ++ as) := by
  induction bs with
  | nil => exact Interleaving.nil_right as
  | cons b bs ih => exact .right b ih

theorem Interleaving.length {as bs m : List UOp} (h : Interleaving as bs m) :
    m.length = as.length + bs.length := by
  induction h with
  | nil => rfl
  | left a _ ih => simp only [List.length_cons, ih]; omega
  | right b _ ih => simp only [List.length_cons, ih]; omega

/-- whatever the real-time interleaving of the two sides' operations was, the resulting tree has the
    entries of the expected tree (no hypothesis on the base tree) -/
theorem merge_order_independent_perm (t : Tree) (as bs m : List UOp) (hd : disjointSeqs as bs = true)
    (hm : Interleaving as bs m) : (applyOps t m).Perm (mergeExpected t as bs) := by
  induction hm generalizing t with
  | nil => exact List.Perm.refl _
  | left a _ ih =>
    rw [disjointSeqs_cons_left] at hd
    exact ih (applyOp t a) hd.2
  | @right b as bs m _ ih =>
    rw [disjointSeqs_cons_right] at hd
    have h1 := ih (applyOp t b) hd.2
    have h2 := applyOps_comm_one t b as hd.1
    simp only [mergeExpected] at h1 ⊢
    rw [applyOps_cons (applyOps t as) b bs]
    exact h1.trans (applyOps_perm h2 bs)

/-- … and is the expected tree as a lookup function, when the expected tree has unique paths -/
theorem merge_order_independent (t : Tree) (as bs m : List UOp) (hd : disjointSeqs as bs = true)
    (hm : Interleaving as bs m) (hw : (mergeExpected t as bs).WF) :
    ∀ p, (applyOps t m).get p = (mergeExpected t as bs).get p :=
  fun p => (Tree.get_eq_of_perm (merge_order_independent_perm t as bs m hd hm).symm hw p).symm

/-- decidable form of the hypothesis -/
theorem merge_order_independent_valid (t : Tree) (as bs m : List UOp) (hd : disjointSeqs as bs = true)
    (hm : Interleaving as bs m) (hw : t.WF) (hv : ValidSeq t (as ++ bs) = true) :
    ∀ p, (applyOps t m).get p = (mergeExpected t as bs).get p := by
  apply merge_order_independent t as bs m hd hm
  rw [mergeExpected, ← applyOps_append]
  exact applyOps_preserves_WF t hw _ hv

/-- in particular two sequences of operations on disjoint objects commute: same entries in both orders
    (no hypothesis on the tree) -/
theorem applyOps_comm_seq_perm (t : Tree) (as bs : List UOp) (hd : disjointSeqs as bs = true) :
    (applyOps (applyOps t as) bs).Perm (applyOps (applyOps t bs) as) := by
  rw [← applyOps_append t bs as]
  exact (merge_order_independent_perm t as bs _ hd (Interleaving.append' as bs)).symm

/-- … hence the same lookup function, as soon as the result has unique paths -/
theorem applyOps_comm_seq (t : Tree) (as bs : List UOp) (hd : disjointSeqs as bs = true)
    (hw : (applyOps (applyOps t as) bs).WF) :
    ∀ p, (applyOps (applyOps t as) bs).get p = (applyOps (applyOps t bs) as).get p :=
  fun p => Tree.get_eq_of_perm (applyOps_comm_seq_perm t as bs hd) hw p

/-- the hypothesis in decidable form: a base tree with unique paths and free rename destinations -/
theorem applyOps_comm_seq_valid (t : Tree) (as bs : List UOp) (hd : disjointSeqs as bs = true)
    (hw : t.WF) (hv : ValidSeq t (as ++ bs) = true) :
    ∀ p, (applyOps (applyOps t as) bs).get p = (applyOps (applyOps t bs) as).get p := by
  apply applyOps_comm_seq t as bs hd
  rw [← applyOps_append]
  exact applyOps_preserves_WF t hw _ hv

/-- the expected tree does not depend on which side is called left -/
theorem mergeExpected_comm (t : Tree) (as bs : List UOp) (hd : disjointSeqs as bs = true)
    (hw : (mergeExpected t as bs).WF) :
    (mergeExpected t bs as).WF ∧ ∀ p, (mergeExpected t as bs).get p = (mergeExpected t bs as).get p :=
  ⟨hw.perm (applyOps_comm_seq_perm t as bs hd), applyOps_comm_seq t as bs hd hw⟩

theorem Tree.sameAs_congr_right (l : Tree) {e e' : Tree} (hp : e.Perm e') (hw : e.WF) :
    l.sameAs e = l.sameAs e' := by
  have hg : ∀ p, e.get p = e'.get p := fun p => Tree.get_eq_of_perm hp hw p
  simp only [Tree.sameAs, Tree.subset, hg, hp.all_eq]

/-- the verdict does not depend on the side order -/
theorem mergeOk_comm (t : Tree) (as bs : List UOp) (l r : Tree) (hd : disjointSeqs as bs = true)
    (hw : (mergeExpected t as bs).WF) : mergeOk t as bs l r = mergeOk t bs as l r := by
  have hp := applyOps_comm_seq_perm t as bs hd
  simp only [mergeOk, mergeExpected] at hw ⊢
  rw [Tree.sameAs_congr_right l hp hw, Tree.sameAs_congr_right r hp hw]

/-- nor on the interleaving: replaying the real-time order of the user operations on the base tree
    is accepted on both sides -/
theorem mergeOk_of_interleaving (t : Tree) (as bs m : List UOp) (hd : disjointSeqs as bs = true)
    (hm : Interleaving as bs m) (hw : (mergeExpected t as bs).WF) :
    mergeOk t as bs (applyOps t m) (applyOps t m) = true := by
  have hp := merge_order_independent_perm t as bs m hd hm
  have hw' : (applyOps t m).WF := hw.perm hp.symm
  have : (applyOps t m).sameAs (mergeExpected t as bs) = true := by
    rw [← Tree.sameAs_congr_right _ hp hw']
    exact Tree.sameAs_refl hw'
  simp only [mergeOk, this, Bool.and_self]

/-- meaning of the verdict on well-formed snapshots: both sides equal the expected tree -/
theorem mergeOk_iff (t : Tree) (as bs : List UOp) (l r : Tree) (hl : l.WF) (hr : r.WF)
    (hw : (mergeExpected t as bs).WF) :
    mergeOk t as bs l r = true ↔
      (∀ p, l.get p = (mergeExpected t as bs).get p) ∧ (∀ p, r.get p = (mergeExpected t as bs).get p) := by
  simp only [mergeOk, Bool.and_eq_true, sameAs_iff _ _ hl hw, sameAs_iff _ _ hr hw]

/-- C04's verdict implies C01's -/
theorem mergeOk_implies_converged (t : Tree) (as bs : List UOp) (l r : Tree)
    (h : mergeOk t as bs l r = true) : converged l r = true := by
  simp only [mergeOk, Bool.and_eq_true] at h
  exact converged_of_sameAs_both h.1 h.2

theorem mergeExpected_nil_right (t : Tree) (as : List UOp) : mergeExpected t as [] = applyOps t as := rfl
theorem mergeExpected_nil_left (t : Tree) (bs : List UOp) : mergeExpected t [] bs = applyOps t bs := rfl
theorem mergeOk_nil (t : Tree) (hw : t.WF) : mergeOk t [] [] t t = true := by
  simp [mergeOk, mergeExpected, applyOps, Tree.sameAs_refl hw]

theorem applyOp_idem (t : Tree) :
    (∀ p tag, applyOp (applyOp t (.create p tag)) (.create p tag) = applyOp t (.create p tag)) ∧
    (∀ p, applyOp (applyOp t (.mkdir p)) (.mkdir p) = applyOp t (.mkdir p)) ∧
    (∀ p, applyOp (applyOp t (.delete p)) (.delete p) = applyOp t (.delete p)) := by
  refine ⟨?_, ?_, ?_⟩
  · intro p tag
    simp only [applyOp, List.filter_append, List.filter_filter, Bool.and_self]
    simp
  · intro p
    have h : (applyOp t (.mkdir p)).has p = true := by
      rw [Tree.has_eq_isSome, (get_applyOp_simple t rfl p).trans (if_pos rfl)]
      show ((t.get p).or (some .dir)).isSome = true
      cases t.get p <;> rfl
    generalize applyOp t (.mkdir p) = u at h ⊢
    simp only [applyOp, h, if_true]
  · intro p
    simp only [applyOp, List.filter_filter, Bool.and_self]

/-- non-vacuity: a base tree, two disjoint op sequences (one with a folder rename, one with create /
    write / delete / mkdir), the hypotheses of the theorems hold, both orders and an interleaving are
    accepted by the monitor's verdict, and a lost write is rejected -/
example :
    let base : Tree := [(["a"], .dir), (["a", "f"], .file 1), (["b"], .dir), (["b", "g"], .file 2), (["h"], .file 3)]
    let opsL : List UOp := [.rename ["a"] ["c"], .write ["c", "f"] 4]
    let opsR : List UOp := [.create ["b", "k"] 5, .write ["b", "g"] 6, .delete ["h"], .mkdir ["e"]]
    let m : List UOp := [.create ["b", "k"] 5, .rename ["a"] ["c"], .write ["b", "g"] 6, .delete ["h"],
      .write ["c", "f"] 4, .mkdir ["e"]]
    base.WF ∧ disjointSeqs opsL opsR = true ∧ ValidSeq base (opsL ++ opsR) = true ∧
    (mergeExpected base opsL opsR).WF ∧
    mergeOk base opsL opsR (applyOps base m) (mergeExpected base opsR opsL) = true ∧
    mergeOk base opsL opsR (applyOps base m) (applyOps base opsL) = false ∧
    (mergeExpected base opsL opsR).get ["c", "f"] = some (.file 4) := by
  decide +kernel

example : Interleaving [.rename ["a"] ["c"], .write ["c", "f"] 4] [.create ["b", "k"] 5, .delete ["h"]]
    [.create ["b", "k"] 5, .rename ["a"] ["c"], .delete ["h"], .write ["c", "f"] 4] :=
  .right _ (.left _ (.right _ (.left _ .nil)))

end CS.Spec

/-! ## C04 by OBJECT identity (Model/Spec/ObjTree.lean)

The statements above read "different files and folders" by PATH: the two sides' paths are unrelated.
The statements below read it by OBJECT: no object is operated on by both sides, while the PATHS may
be related — one side renames or moves a folder, the other side creates, renames, edits a file inside
it or moves a file into it; one side empties a folder into a folder the other side renames, and
deletes the emptied folder.  The monitor layer `monc04` computes `objMerge`, projects it to paths
(`toPaths`) and compares both sides exactly (`objMergeOk`). -/
namespace CS.Spec.Obj
open CS.Spec

/-- two operations on different objects commute: both orders give literally the same object tree.
    No validity is needed, only unique (ascending) ids. -/
theorem objOp_comm (t : OTree) (hs : Sorted t) (a b : OOp) (hd : disjointOp a b = true) :
    applyOp (applyOp t a) b = applyOp (applyOp t b) a :=
  applyOp_comm hs a b (by simpa [disjointOp] using hd)

/-- the exact side condition under which both orders are VALID histories: for two operations on
    different objects, each valid in `t`, `Compatible` (no name clash, neither deletes the folder the
    other puts its object into, neither move puts the other object beneath itself) holds iff each
    is still valid after the other.  For the cycle clause the equivalence is definitional: `cycleAfter t a b` IS the no-cycle test
    of `valid` evaluated in `applyOp t a`; a characterisation of that conflict in terms of `t` is not attempted. -/
theorem compatible_iff (t : OTree) (a b : OOp) (hva : valid t a = true) (hvb : valid t b = true)
    (hd : disjointOp a b = true) :
    Compatible t a b = true ↔ (valid (applyOp t a) b = true ∧ valid (applyOp t b) a = true) := by
  have hne : a.target ≠ b.target := by simpa [disjointOp] using hd
  constructor
  · exact Compatible.both hva hvb hne
  · rintro ⟨hab, hba⟩
    obtain ⟨hcl, hoab, hcab⟩ := valid_after_no_conflict hva hne hab
    obtain ⟨_, hoba, hcba⟩ := valid_after_no_conflict hvb hne.symm hba
    exact compatible_eq_true_iff.mpr ⟨hcl, hoab, hoba, hcab, hcba⟩

/-- `objOp_comm` with validity: on a well-formed tree two compatible operations on different objects can be applied in either
    order: both orders are valid histories, give the same tree, and it is well formed -/
theorem objOp_comm_valid (t : OTree) (hw : t.WF) (a b : OOp) (hva : valid t a = true) (hvb : valid t b = true)
    (hd : disjointOp a b = true) (hc : Compatible t a b = true) :
    validSeq t [a, b] = true ∧ validSeq t [b, a] = true ∧
    applyOps t [a, b] = applyOps t [b, a] ∧ (applyOps t [a, b]).WF := by
  obtain ⟨hab, hba⟩ := (compatible_iff t a b hva hvb hd).mp hc
  refine ⟨by simp [validSeq, hva, hab], by simp [validSeq, hvb, hba], objOp_comm t hw.sorted a b hd, ?_⟩
  exact (hw.applyOp hva).applyOp hab

/-- the three conflicts are genuine (kernel-checked): in each case the two operations are about
    different objects and each is valid, but one order is not a valid history -/
theorem conflict_name_clash :
    let t : OTree := [⟨1, none, "d", .dir⟩, ⟨2, none, "f", .file 1⟩]
    let a : OOp := .move 2 (some 1) "x"
    let b : OOp := .create 3 (some 1) "x" 2
    wfB t = true ∧ disjointOp a b = true ∧ valid t a = true ∧ valid t b = true ∧
    Compatible t a b = false ∧ valid (applyOp t a) b = false ∧ valid (applyOp t b) a = false := by
  decide +kernel

theorem conflict_delete_vs_put_inside :
    let t : OTree := [⟨1, none, "d", .dir⟩, ⟨2, none, "f", .file 1⟩]
    let a : OOp := .delete 1
    let b : OOp := .move 2 (some 1) "f"
    wfB t = true ∧ disjointOp a b = true ∧ valid t a = true ∧ valid t b = true ∧
    Compatible t a b = false ∧ valid (applyOp t a) b = false ∧ valid (applyOp t b) a = false := by
  decide +kernel

theorem conflict_move_cycle :
    let t : OTree := [⟨1, none, "a", .dir⟩, ⟨2, none, "b", .dir⟩]
    let a : OOp := .move 1 (some 2) "a"
    let b : OOp := .move 2 (some 1) "b"
    wfB t = true ∧ disjointOp a b = true ∧ valid t a = true ∧ valid t b = true ∧
    Compatible t a b = false ∧ valid (applyOp t a) b = false ∧ valid (applyOp t b) a = false := by
  decide +kernel

/-- the spec needs no "a name is used once" assumption.  A folder deleted and a FILE created at
    its name by one side, while the other side edits another file, is a valid, object-disjoint, compatible pair of histories;
    the merge is the same in both orders and has the new FILE (tag 2) at the name, not the folder; `objMergeOk` accepts exactly
    that pair of trees and rejects the tree in which the folder is resurrected (kernel-checked witness; the harness family
    `replace-dir-by-file|write` of harness/c04_objects.py runs this shape on the real engine over schedules) -/
theorem name_reuse_after_delete :
    let t : OTree := [⟨1, none, "e", .dir⟩, ⟨2, none, "k", .file 1⟩]
    let l : List OOp := [.delete 1, .create 3 none "e" 2]
    let r : List OOp := [.write 2 3]
    wfB t = true ∧ validSeq t l = true ∧ validSeq t r = true ∧ disjointSeqs l r = true ∧ CompatibleSeqs t l r = true ∧
    objMerge t l r = objMerge t r l ∧
    toPaths (objMerge t l r) = [(["k"], .file 3), (["e"], .file 2)] ∧
    objMergeOk t l r [(["k"], .file 3), (["e"], .file 2)] [(["k"], .file 3), (["e"], .file 2)] = true ∧
    objMergeOk t l r [(["k"], .file 3), (["e"], .dir), (["e.conflicted"], .file 2)]
      [(["k"], .file 3), (["e"], .dir), (["e.conflicted"], .file 2)] = false := by
  decide +kernel

/-- unlike the three conflicts above, a creation inside a folder and a move of that folder are compatible:
    they touch different objects although the paths are related -/
theorem create_inside_vs_move_compatible :
    let t : OTree := [⟨1, none, "e", .dir⟩, ⟨2, some 1, "f", .file 1⟩]
    let a : OOp := .move 1 none "e2"
    let b : OOp := .create 3 (some 1) "g" 2
    wfB t = true ∧ disjointOp a b = true ∧ valid t a = true ∧ valid t b = true ∧ Compatible t a b = true ∧
    toPaths (applyOps t [a, b]) = [(["e2"], .dir), (["e2", "f"], .file 1), (["e2", "g"], .file 2)] := by
  decide +kernel

theorem compatibleSeqs_iff (t : OTree) (as bs : List OOp) :
    CompatibleSeqs t as bs = true ↔
      (∀ a ∈ as, ∀ b ∈ bs, a.target ≠ b.target) ∧ ∀ m, Interleaving as bs m → validSeq t m = true := by
  simp only [CompatibleSeqs, Bool.and_eq_true, disjointSeqs_iff, allValidF_iff _ t as bs (Nat.le_refl _), AllValid]

theorem compatibleSeqs_comm (t : OTree) (as bs : List OOp) : CompatibleSeqs t as bs = CompatibleSeqs t bs as := by
  have swap : ∀ as bs, CompatibleSeqs t as bs = true → CompatibleSeqs t bs as = true := fun as bs h => by
    rw [compatibleSeqs_iff] at h ⊢
    exact ⟨fun b hb a ha => (h.1 a ha b hb).symm, fun m hm => h.2 m hm.symm⟩
  exact Bool.eq_iff_iff.mpr ⟨swap as bs, swap bs as⟩

/-- whatever the real-time interleaving of the two sides' operations was, it was a valid history and
    the object tree it produced is the merged tree `objMerge`, which is well formed -/
theorem objMerge_order_independent (t : OTree) (hw : t.WF) (as bs m : List OOp)
    (hc : CompatibleSeqs t as bs = true) (hm : Interleaving as bs m) :
    validSeq t m = true ∧ applyOps t m = objMerge t as bs ∧ (applyOps t m).WF := by
  obtain ⟨hd, hv⟩ := (compatibleSeqs_iff t as bs).mp hc
  exact ⟨hv m hm, applyOps_interleaving hw.sorted hd hv hm, hw.applyOps (hv m hm)⟩

/-- in particular the merged tree does not depend on which side is applied first -/
theorem objMerge_comm (t : OTree) (hw : t.WF) (as bs : List OOp) (hc : CompatibleSeqs t as bs = true) :
    objMerge t as bs = objMerge t bs as := by
  have h2 := (objMerge_order_independent t hw as bs _ hc (Interleaving.append' as bs)).2.1
  rw [← h2, applyOps_append]
  rfl

theorem objMerge_WF (t : OTree) (hw : t.WF) (as bs : List OOp) (hc : CompatibleSeqs t as bs = true) :
    (objMerge t as bs).WF := by
  have h := objMerge_order_independent t hw as bs _ hc (Interleaving.append as bs)
  rw [h.2.1] at h
  exact h.2.2

/-- where `a` meets `b` in `t`, the interleavings `a, b, …` and `b, a, …` are valid, so each of the two is valid after the
    other, which is `Compatible t a b` (`compatible_iff`) -/
theorem compatRow_of_allValid {t : OTree} {a : OOp} {as bs : List OOp} (hda : ∀ b ∈ bs, a.target ≠ b.target)
    (hv : AllValid t (a :: as) bs) : compatRow t a bs = true := by
  induction bs generalizing t with
  | nil => rfl
  | cons b bs ih =>
    obtain ⟨hva, hvl⟩ := hv.left
    obtain ⟨hvb, hvr⟩ := hv.right
    simp only [compatRow, Bool.and_eq_true]
    exact ⟨(compatible_iff t a b hva hvb (by simpa [disjointOp] using hda b List.mem_cons_self)).mpr ⟨hvl.right.1, hvr.left.1⟩,
      ih (fun x hx => hda x (List.mem_cons_of_mem _ hx)) hvr⟩

/-- every pair of operations of compatible sequences is `Compatible` in the tree in which the two
    meet (the sequence-level premise implies the pairwise one, along the whole grid) -/
theorem compatibleSeqs_pairwise (t : OTree) (as bs : List OOp) (hc : CompatibleSeqs t as bs = true) :
    compatGrid t as bs = true := by
  obtain ⟨hd, hv⟩ : _ ∧ AllValid t as bs := (compatibleSeqs_iff t as bs).mp hc
  clear hc
  induction as generalizing t with
  | nil => rfl
  | cons a as ih =>
    simp only [compatGrid, Bool.and_eq_true]
    exact ⟨compatRow_of_allValid (hd a List.mem_cons_self) hv,
      ih (applyOp t a) (fun x hx y hy => hd x (List.mem_cons_of_mem _ hx) y hy) hv.left.2⟩

/-- and conversely (the lift of `objOp_comm`/`compatible_iff` to sequences): pairwise `Compatible`, each pair in the tree in
    which the two meet, makes every interleaving a valid history, which (by `objMerge_order_independent`) yields the same
    merged tree -/
theorem compatibleSeqs_of_pairwise (t : OTree) (hw : t.WF) (as bs : List OOp) (hva : validSeq t as = true)
    (hvb : validSeq t bs = true) (hd : disjointSeqs as bs = true) (hg : compatGrid t as bs = true) :
    CompatibleSeqs t as bs = true := by
  rw [compatibleSeqs_iff]
  exact ⟨disjointSeqs_iff.mp hd, compatGrid_allValid hw.sorted hva hvb (disjointSeqs_iff.mp hd) hg⟩

/-- so the two forms of C04's premise agree -/
theorem compatibleSeqs_iff_pairwise (t : OTree) (hw : t.WF) (as bs : List OOp) :
    CompatibleSeqs t as bs = true ↔
      (validSeq t as = true ∧ validSeq t bs = true ∧ disjointSeqs as bs = true ∧ compatGrid t as bs = true) := by
  constructor
  · intro hc
    obtain ⟨hd, hv'⟩ : _ ∧ AllValid t as bs := (compatibleSeqs_iff t as bs).mp hc
    exact ⟨hv'.seq_left, hv'.symm.seq_left, disjointSeqs_iff.mpr hd, compatibleSeqs_pairwise t as bs hc⟩
  · rintro ⟨h1, h2, h3, h4⟩
    exact compatibleSeqs_of_pairwise t hw as bs h1 h2 h3 h4

/-- projection: the path view of a well-formed object tree is a well-formed path tree of
    `Spec/Sync.lean` (every path listed once), so `sameAs` / `converged` apply to it -/
theorem toPaths_wf (t : OTree) (hw : t.WF) : (toPaths t).WF := toPaths_paths_unique hw.sorted hw.sib

/-- … and it contains exactly the objects: each at its derived path with its kind, nothing else -/
theorem toPaths_exact (t : OTree) (hw : t.WF) (p : RPath) (k : Node) :
    (toPaths t).get p = some k ↔ ∃ o ∈ t, pathOf t o.id = some p ∧ o.kind = k := by
  rw [Tree.get_eq_some_iff (toPaths_wf t hw), mem_toPaths]

/-- in the merged tree every object sits at the path obtained from its final (parent, name) chain:
    a top-level object at `[name]`, any other object directly beneath the path of its final parent —
    so the children of a moved folder are found beneath the folder's new path — and the path view
    shows it there with its kind (content) -/
theorem objMerge_paths (t : OTree) (hw : t.WF) (as bs : List OOp) (hc : CompatibleSeqs t as bs = true) :
    ∀ o ∈ objMerge t as bs, ∃ p, pathOf (objMerge t as bs) o.id = some p ∧
      (toPaths (objMerge t as bs)).get p = some o.kind ∧
      (match o.parent with
       | none => p = [o.name]
       | some q => ∃ pq, pathOf (objMerge t as bs) q = some pq ∧ p = pq ++ [o.name]) := by
  have hu := objMerge_WF t hw as bs hc
  intro o ho
  obtain ⟨p, hp⟩ := hu.rooted o ho
  refine ⟨p, hp, toPaths_get hu ho hp, ?_⟩
  obtain ⟨o', ho', h⟩ := pathOf_inv hp
  rw [hu.sorted.get_of_mem ho] at ho'
  cases ho'
  rcases h with ⟨hpar, hpe⟩ | ⟨q, pq, hpar, hpq, hpe⟩
  · rw [hpar]; exact hpe
  · rw [hpar]; exact ⟨pq, hpq, hpe⟩

/-- distinct objects never share a path in the merged tree (nothing is duplicated) -/
theorem objMerge_paths_inj (t : OTree) (hw : t.WF) (as bs : List OOp) (hc : CompatibleSeqs t as bs = true)
    (i j : Nat) (p : RPath) (hi : pathOf (objMerge t as bs) i = some p) (hj : pathOf (objMerge t as bs) j = some p) :
    i = j :=
  pathOf_inj (objMerge_WF t hw as bs hc) hi hj

/-- a move of an object IS, in the path view, the subtree rename of `Spec/Sync.lean`: every object
    beneath the moved one keeps its relative position beneath the new path, every other path is
    unchanged -/
theorem objMove_children_follow (t : OTree) (hw : t.WF) (i : Nat) (p : Option Nat) (n : String)
    (hv : valid t (.move i p n) = true) :
    ∃ po pn, pathOf t i = some po ∧ pathOf (applyOp t (.move i p n)) i = some pn ∧
      (∀ j pj, pathOf t j = some pj → pathOf (applyOp t (.move i p n)) j = some (rebase po pn pj)) ∧
      toPaths (applyOp t (.move i p n)) = CS.Spec.applyOp (toPaths t) (.rename po pn) := by
  have hw' := hw.applyOp hv
  obtain ⟨o, ho, hid⟩ := has_iff.mp (valid_move_iff.mp hv).1
  obtain ⟨po, hpo⟩ := hw.rooted o ho
  rw [hid] at hpo
  have hmem : setPlace i p n o ∈ applyOp t (.move i p n) := List.mem_map.mpr ⟨o, ho, rfl⟩
  obtain ⟨pn, hpn⟩ := hw'.rooted _ hmem
  rw [setPlace_id, hid] at hpn
  exact ⟨po, pn, hpo, hpn, fun j pj hj => pathOf_move hw hpo hpn hj, toPaths_move hw hpo hpn⟩

/-- the verdict does not depend on the side order -/
theorem objMergeOk_comm (t : OTree) (hw : t.WF) (as bs : List OOp) (l r : Tree) (hc : CompatibleSeqs t as bs = true) :
    objMergeOk t as bs l r = objMergeOk t bs as l r := by
  simp only [objMergeOk, objMerge_comm t hw as bs hc]

/-- nor on the interleaving: replaying the real-time order of the user operations on the base tree
    and projecting to paths is accepted on both sides -/
theorem objMergeOk_of_interleaving (t : OTree) (hw : t.WF) (as bs m : List OOp) (hc : CompatibleSeqs t as bs = true)
    (hm : Interleaving as bs m) :
    objMergeOk t as bs (toPaths (applyOps t m)) (toPaths (applyOps t m)) = true := by
  obtain ⟨_, he, hwf⟩ := objMerge_order_independent t hw as bs m hc hm
  simp only [objMergeOk, ← he, Tree.sameAs_refl (toPaths_wf _ hwf), Bool.and_self]

/-- meaning of the verdict on well-formed snapshots: both sides are exactly the path view of the merged object tree -/
theorem objMergeOk_iff (t : OTree) (hw : t.WF) (as bs : List OOp) (l r : Tree) (hl : l.WF) (hr : r.WF)
    (hc : CompatibleSeqs t as bs = true) :
    objMergeOk t as bs l r = true ↔
      (∀ p, l.get p = (toPaths (objMerge t as bs)).get p) ∧ (∀ p, r.get p = (toPaths (objMerge t as bs)).get p) := by
  have hu := toPaths_wf _ (objMerge_WF t hw as bs hc)
  simp only [objMergeOk, Bool.and_eq_true, sameAs_iff _ _ hl hu, sameAs_iff _ _ hr hu]

/-- C04's verdict implies C01's -/
theorem objMergeOk_implies_converged (t : OTree) (as bs : List OOp) (l r : Tree)
    (h : objMergeOk t as bs l r = true) : converged l r = true := by
  simp only [objMergeOk, Bool.and_eq_true] at h
  exact converged_of_sameAs_both h.1 h.2

/-- the decidable well-formedness test the monitor applies to the base tree is exact -/
theorem wfB_sound (t : OTree) : wfB t = true ↔ t.WF := by
  simp only [wfB, Bool.and_eq_true, sortedB_iff, List.all_eq_true, Bool.or_eq_true, beq_iff_eq, Bool.not_eq_true',
    Bool.and_eq_false_iff, beq_eq_false_iff_ne, Option.isSome_iff_exists]
  constructor
  · rintro ⟨⟨⟨h1, h2⟩, h3⟩, h4⟩
    exact ⟨h1, fun a ha b hb hp hn => (h2 a ha b hb).resolve_right (fun h => h.elim (· hp) (· hn)), h3, h4⟩
  · intro h
    refine ⟨⟨⟨h.sorted, fun a ha b hb => ?_⟩, h.par⟩, h.rooted⟩
    by_cases hp : a.parent = b.parent
    · by_cases hn : a.name = b.name
      · exact Or.inl (h.sib a ha b hb hp hn)
      · exact Or.inr (Or.inr hn)
    · exact Or.inr (Or.inl hp)

/-- non-vacuity: LOCAL moves file a/f into folder d and deletes the now-empty folder a while REMOTE
    renames d to d2.  The sequences are compatible; every interleaving gives the same object tree;
    its path view is {d2, d2/f}; the verdict accepts it and rejects the tree in which a/f was put back. -/
example :
    let base : OTree := [⟨1, none, "a", .dir⟩, ⟨2, some 1, "f", .file 1⟩, ⟨3, none, "d", .dir⟩]
    let opsL : List OOp := [.move 2 (some 3) "f", .delete 1]
    let opsR : List OOp := [.move 3 none "d2"]
    let good : Tree := [(["d2", "f"], .file 1), (["d2"], .dir)]
    let bad : Tree := [(["d2"], .dir), (["a"], .dir), (["a", "f"], .file 1)]
    wfB base = true ∧ CompatibleSeqs base opsL opsR = true ∧
    applyOps base [.move 2 (some 3) "f", .move 3 none "d2", .delete 1] = objMerge base opsL opsR ∧
    toPaths (objMerge base opsL opsR) = [(["d2", "f"], .file 1), (["d2"], .dir)] ∧
    objMergeOk base opsL opsR good good = true ∧ objMergeOk base opsL opsR good bad = false := by
  decide +kernel

example : Interleaving [.move 2 (some 3) "f", .delete 1] [.move 3 none "d2"]
    [.move 2 (some 3) "f", .move 3 none "d2", .delete 1] :=
  .left _ (.right _ (.left _ .nil))

end CS.Spec.Obj

