import Csverif.Proofs.Crash
import Csverif.Props.C02
/-
C07 — crash consistency: dying immediately before any individual storage write or immediately after any individual provider
write loses nothing.

Proved here, about the executable specification of Model/Spec/Crash.lean, which the driver layer `monc07` runs on the effect
log of every real engine run: a log the checker accepts is consistent at every cut (`check_crash_consistent`); the same orderings
read off the log itself; the decision logic of `create_synced` and of the same-hash merge; what the recovery verdict says.
NOT proved: that the real engine's recovery reaches that verdict (there is no Lean model of the engine; that half is the
crash enumeration on the real engine, judged by `recovered`), see DESIGN.md section 6 "recovery outcome partial".
-/
namespace CS.Spec.Crash

private theorem rows_step (st : St) (e : Eff) (hv : violation st e = none)
    (h : ∀ row ∈ st.rows, (∀ t, row.cl = some t → t ∈ (st.side false).puts) ∧ (∀ t, row.cr = some t → t ∈ (st.side true).puts)) :
    ∀ row ∈ (effect st e).rows, (∀ t, row.cl = some t → t ∈ ((effect st e).side false).puts) ∧
      (∀ t, row.cr = some t → t ∈ ((effect st e).side true).puts) := by
  have mono : ∀ row ∈ st.rows, (∀ t, row.cl = some t → t ∈ ((effect st e).side false).puts) ∧
      (∀ t, row.cr = some t → t ∈ ((effect st e).side true).puts) := fun row hm =>
    ⟨fun t ht => effect_puts_mono st e false t ((h row hm).1 t ht),
     fun t ht => effect_puts_mono st e true t ((h row hm).2 t ht)⟩
  cases e with
  | rowCreate eid cl cr =>
    obtain ⟨_, h2, h3⟩ := (violation_rowCreate _ _ _ _).1 hv
    intro row hm
    simp only [effect, List.mem_cons] at hm
    rcases hm with rfl | hm
    · exact ⟨(claimOk_iff _ _).1 h2, (claimOk_iff _ _).1 h3⟩
    · exact h row hm
  | rowUpdate eid cl cr =>
    obtain ⟨_, h2, h3⟩ := (violation_rowUpdate _ _ _ _).1 hv
    intro row hm
    simp only [effect, List.mem_cons, List.mem_filter] at hm
    rcases hm with rfl | ⟨hm, _⟩
    · exact ⟨(claimOk_iff _ _).1 h2, (claimOk_iff _ _).1 h3⟩
    · exact h row hm
  | rowDelete eid =>
    intro row hm
    simp only [effect, List.mem_filter] at hm
    exact h row hm.1
  | otherWrite => exact mono
  | cursorWrite | walkWrite | providerWrite | eventApplied =>
    intro row hm
    exact mono row (by simpa [effect] using hm)

private theorem cursor_step (st : St) (e : Eff) (hv : violation st e = none) (s : Side)
    (h : (st.side s).CursorOk) : ((effect st e).side s).CursorOk := by
  cases e with
  | rowCreate | rowUpdate | rowDelete => cases s <;> exact h
  | otherWrite => exact h
  | cursorWrite s' c =>
    simp only [effect, side_setSide]
    split
    · subst s'
      intro hw c' hc' i hi
      cases hc'
      exact (covered_iff _ _).1 ((violation_cursorWrite _ _ _).1 hv hw) i hi
    · exact h
  | walkWrite s' =>
    simp only [effect, side_setSide]
    split
    · subst s'
      intro _ c' hc' i hi
      exact Or.inl (Nat.le_trans hi (by rw [show (st.side s).cursor = some c' from hc']; exact Nat.le_max_right _ _))
    · exact h
  | providerWrite s' eng put =>
    simp only [effect, side_setSide]
    split
    · subst s'
      exact h
    · exact h
  | eventApplied s' j r =>
    simp only [effect, side_setSide]
    split
    · subst s'
      exact fun hw c' hc' i hi => (h hw c' hc' i hi).imp_right (List.mem_cons_of_mem _)
    · exact h

theorem effect_consistent (st : St) (e : Eff) (hv : violation st e = none) (hc : Consistent st) :
    Consistent (effect st e) := by
  rw [consistent_iff_sides] at hc ⊢
  exact ⟨rows_step st e hv hc.1, fun s => cursor_step st e hv s (hc.2 s)⟩

theorem step_consistent (st st' : St) (e : Eff) (h : step st e = .ok st') (hc : Consistent st) : Consistent st' := by
  obtain ⟨hv, rfl⟩ := (step_ok_iff _ _ _).1 h
  exact effect_consistent st e hv hc

theorem init_consistent : Consistent St.init := by decide

theorem run_consistent (st st' : St) (log : Log) (h : run st log = .ok st') (hc : Consistent st) : Consistent st' := by
  induction log generalizing st with
  | nil => cases h; exact hc
  | cons x xs ih =>
    obtain ⟨_, hv, h2⟩ := run_cons_ok _ _ _ _ h
    exact ih _ h2 (effect_consistent st x.e hv hc)

/-- the checker is prefix-closed: every prefix of an accepted run is an accepted run -/
theorem run_take (st st' : St) (log : Log) (h : run st log = .ok st') (k : Nat) :
    ∃ s1, run st (log.take k) = .ok s1 ∧ run s1 (log.drop k) = .ok st' :=
  (run_append_ok_iff st st' (log.take k) (log.drop k)).1 (by rw [List.take_append_drop]; exact h)

theorem check_take (log : Log) (h : check log = true) (k : Nat) : check (log.take k) = true := by
  obtain ⟨st, hst⟩ := (check_iff _).1 h
  obtain ⟨s1, h1, _⟩ := run_take _ _ _ hst k
  exact (check_iff _).2 ⟨s1, h1⟩

/-- main theorem: if the checker accepts the complete log of a run, then for EVERY crash point `k` the log prefix
    is accepted and the storage it leaves behind never claims unreflected work -/
theorem check_crash_consistent (log : Log) (h : check log = true) :
    ∀ k, ∃ st, run St.init (log.take k) = .ok st ∧ Consistent st := by
  intro k
  obtain ⟨st, hst⟩ := (check_iff _).1 (check_take log h k)
  exact ⟨st, hst, run_consistent _ _ _ hst init_consistent⟩

set_option linter.unusedVariables false in
/-- … in particular for the crash instants the property names: immediately before a storage write, immediately after an
    engine-issued provider write -/
theorem crash_points_consistent (log : Log) (h : check log = true) (k : Nat) (hk : CrashCut log k) :
    ∃ st, run St.init (log.take k) = .ok st ∧ Consistent st :=
  check_crash_consistent log h k

set_option linter.unusedVariables false in
/-- `cursor_never_ahead`: at every prefix of an accepted log, on every side whose walk marker is stored, every event
    up to the STORED cursor is handled (its state effect committed) or covered by the completed walk -/
theorem cursor_never_ahead (log : Log) (h : check log = true) (k : Nat) (st : St)
    (hst : run St.init (log.take k) = .ok st) (s : Side) (c : Nat)
    (hw : (st.side s).walked = true) (hc : (st.side s).cursor = some c) :
    ∀ i, i ≤ c → i ≤ (st.side s).base ∨ i ∈ (st.side s).handled :=
  ((consistent_iff_sides st).1 (run_consistent _ _ _ hst init_consistent)).2 s hw c hc

set_option linter.unusedVariables false in
/-- `storage_never_claims_unreflected_work`: at every prefix of an accepted log, every content a STORED row records as
    synced on a side was put on that side by a provider write -/
theorem storage_never_claims_unreflected_work (log : Log) (h : check log = true) (k : Nat) (st : St)
    (hst : run St.init (log.take k) = .ok st) (row : Row) (hm : row ∈ st.rows) :
    (∀ t, row.cl = some t → t ∈ st.l.puts) ∧ (∀ t, row.cr = some t → t ∈ st.r.puts) :=
  (run_consistent _ _ _ hst init_consistent).1 row hm

/-- the executable twin the driver evaluates at every crash instant agrees with `Consistent` -/
theorem consistentB_spec (st : St) : consistentB st = true ↔ Consistent st := consistentB_iff st

/-- effects are numbered by position: an accepted log is `0, 1, 2, …` -/
theorem check_numbered (log : Log) (h : check log = true) (i : Nat) (x : NEff) (hx : log[i]? = some x) : x.n = i := by
  obtain ⟨hi, rfl⟩ := List.getElem?_eq_some_iff.1 hx
  rw [← List.take_append_drop i log, List.drop_eq_getElem_cons hi] at h
  obtain ⟨st, hst, hn, _⟩ := check_cut _ _ _ h
  rw [hn, run_next _ _ _ hst, List.length_take, Nat.min_eq_left (Nat.le_of_lt hi)]
  exact Nat.zero_add i

/-- the contents ever put on a side are exactly those of the provider writes in the log so far -/
theorem mem_puts_iff (st0 st : St) (pre : Log) (h : run st0 pre = .ok st) (s : Side) (t : Nat) :
    t ∈ (st.side s).puts ↔ t ∈ (st0.side s).puts ∨ ∃ y ∈ pre, ∃ eng, y.e = .providerWrite s eng (some t) :=
  run_mem_iff SideSt.puts _ effect_puts_iff st0 st pre h s t

/-- … and the handled events exactly those reported in the log so far -/
theorem mem_handled_iff (st0 st : St) (pre : Log) (h : run st0 pre = .ok st) (s : Side) (i : Nat) :
    i ∈ (st.side s).handled ↔ i ∈ (st0.side s).handled ∨ ∃ y ∈ pre, ∃ r, y.e = .eventApplied s i r :=
  run_mem_iff SideSt.handled _ effect_handled_iff st0 st pre h s i

/-- `provider_write_before_commit`: in an accepted log, a storage row write that records content `t` as synced on a side
    is preceded, at an earlier position of the log, by a provider write that put `t` on that side -/
theorem provider_write_before_commit (log pre post : Log) (x : NEff) (h : check log = true)
    (hl : log = pre ++ x :: post) (eid : Nat) (cl cr : Option Nat)
    (hx : x.e = .rowCreate eid cl cr ∨ x.e = .rowUpdate eid cl cr) :
    (∀ t, cl = some t → ∃ y ∈ pre, ∃ eng, y.e = .providerWrite false eng (some t)) ∧
    (∀ t, cr = some t → ∃ y ∈ pre, ∃ eng, y.e = .providerWrite true eng (some t)) := by
  obtain ⟨st, hst, -, hv⟩ := check_cut pre post x (hl ▸ h)
  have key : st.l.claimOk cl = true ∧ st.r.claimOk cr = true := by
    rcases hx with hx | hx <;> rw [hx] at hv
    · exact ((violation_rowCreate _ _ _ _).1 hv).2
    · exact ((violation_rowUpdate _ _ _ _).1 hv).2
  exact ⟨fun t ht => ((mem_puts_iff _ _ _ hst false t).1 ((claimOk_iff _ _).1 key.1 t ht)).resolve_left List.not_mem_nil,
    fun t ht => ((mem_puts_iff _ _ _ hst true t).1 ((claimOk_iff _ _).1 key.2 t ht)).resolve_left List.not_mem_nil⟩

/-- `cursor_never_ahead` on the log: in an accepted log, a cursor write made while the side's walk marker is stored only stores a cursor
    each of whose events is covered by the completed walk or was handled at an earlier position of the log -/
theorem cursor_write_after_events (log pre post : Log) (x : NEff) (h : check log = true)
    (hl : log = pre ++ x :: post) (s : Side) (c : Nat) (hx : x.e = .cursorWrite s c)
    (st : St) (hst : run St.init pre = .ok st) (hw : (st.side s).walked = true) :
    ∀ i, i ≤ c → i ≤ (st.side s).base ∨ ∃ y ∈ pre, ∃ r, y.e = .eventApplied s i r := by
  obtain ⟨st', hst', -, hv⟩ := check_cut pre post x (hl ▸ h)
  cases hst.symm.trans hst'
  rw [hx] at hv
  exact fun i hi => ((covered_iff _ _).1 ((violation_cursorWrite _ _ _).1 hv hw) i hi).imp_right fun h1 =>
    ((mem_handled_iff _ _ _ hst s i).1 h1).resolve_left (by cases s <;> exact List.not_mem_nil)

/-- "committed" means STORED: in an accepted log an event is only ever reported handled-with-row `eid` while row `eid`
    is in the abstract storage — i.e. it was created at an earlier position and not deleted since -/
theorem handled_event_has_stored_row (log pre post : Log) (x : NEff) (h : check log = true)
    (hl : log = pre ++ x :: post) (s : Side) (i eid : Nat) (hx : x.e = .eventApplied s i (some eid))
    (st : St) (hst : run St.init pre = .ok st) : st.hasRow eid = true := by
  obtain ⟨st', hst', -, hv⟩ := check_cut pre post x (hl ▸ h)
  cases hst.symm.trans hst'
  rw [hx] at hv
  exact (violation_eventApplied _ _ _ _).1 hv

/-- `half_recorded_create_is_recognised`: the provider says "exists", the object found at the path has the hash of the content
    being created → the entry is finished and records exactly that object; no punt, no peer guess (= no hash conflict, so no
    '.conflicted' copy), whatever the priority -/
theorem half_recorded_create_is_recognised (i : Info) (tp : Nat) (priority : Int) :
    createSynced .existsErr (some i) i.hash tp priority =
      ⟨.finished, some ⟨i.oid, i.hash, i.path.getD tp⟩, none, false⟩ := by
  simp [createSynced_eq, record]

theorem adoption_equals_fresh_create (i : Info) (tp : Nat) (priority : Int) (ip : Option Info) (h : Nat) :
    createSynced .existsErr (some i) i.hash tp priority = createSynced (.ok i.oid i.hash i.path) ip h tp priority := by
  simp [createSynced_eq]

/-- different content at the path is never adopted (nothing is recorded as synced; the entry is punted) -/
theorem different_content_never_adopted (i : Info) (tempHash tp : Nat) (priority : Int) (hne : tempHash ≠ i.hash) :
    (createSynced .existsErr (some i) tempHash tp priority).recorded = none ∧
    (createSynced .existsErr (some i) tempHash tp priority).ret = .punt := by
  simp [createSynced_eq, hne]

/-- an entry is recorded as synced only for an object the provider itself reported, with the content that was to be written
    (decision-level `provider_write_before_commit`) -/
theorem recorded_only_if_present (cr : CreateRes) (ip : Option Info) (tempHash tp : Nat) (priority : Int) (r : Recorded)
    (h : (createSynced cr ip tempHash tp priority).recorded = some r) :
    (∃ oid hash path, cr = .ok oid hash path ∧ r = record ⟨oid, hash, path⟩ tp) ∨
    (∃ i, cr = .existsErr ∧ ip = some i ∧ tempHash = i.hash ∧ r = record i tp) := by
  -- the rows of `createSynced_eq` in its order: created; 'exists' with an object at the path (same hash, other hash); 'exists'
  -- without one; then the three other errors (`all_goals`)
  rw [createSynced_eq] at h
  split at h
  · exact Or.inl ⟨_, _, _, rfl, by simpa using h.symm⟩
  · split at h
    · exact Or.inr ⟨_, rfl, rfl, ‹_›, by simpa using h.symm⟩
    · cases h
  · split at h <;> cases h
  all_goals cases h

/-- a peer guess (the seed of a hash conflict) is only ever written when the content at the path differs -/
theorem peer_guess_only_if_differs (cr : CreateRes) (ip : Option Info) (tempHash tp : Nat) (priority : Int) (g : Nat × Nat)
    (h : (createSynced cr ip tempHash tp priority).peerGuess = some g) :
    ∃ i, cr = .existsErr ∧ ip = some i ∧ tempHash ≠ i.hash ∧ g = (i.oid, i.hash) ∧ priority > 0 := by
  -- rows as in `recorded_only_if_present`
  rw [createSynced_eq] at h
  split at h
  · cases h
  · split at h
    · cases h
    · split at h
      · exact ⟨_, rfl, rfl, ‹_›, by simpa using h.symm, ‹_›⟩
      · cases h
  · split at h <;> cases h
  all_goals cases h

/-- same-hash merge (manager.py:1641-1649): two entries for the same content are merged, the resolver is not called -/
theorem same_hash_merges_without_conflict (h : Nat) :
    handleSplitConflict true true true h h = .merged := by
  simp [handleSplitConflict]

/-- the resolver (hence a '.conflicted' copy) is only reached for a folder or for genuinely different content -/
theorem resolver_only_if_differs (f d e : Bool) (dh rh : Nat)
    (h : handleSplitConflict f d e dh rh = .resolverCalled) : f = false ∨ dh ≠ rh := by
  cases f with
  | false => exact Or.inl rfl
  | true =>
    right
    intro heq
    subst heq
    cases d <;> cases e <;> simp [handleSplitConflict] at h

/-- the rows of `create_synced`'s decision table in which the provider answers 'exists' and the object found has the hash
    being created, over a small alphabet (2 ids × 2 hashes × 2 paths, priorities -1..6): whenever the object at the path carries the
    content being created the call finishes with that object recorded (each row is `half_recorded_create_is_recognised`) -/
theorem create_table_same_hash :
    ∀ oid ∈ [0, 1], ∀ hash ∈ [0, 1], ∀ path ∈ [none, some 7], ∀ p ∈ ([-1, 0, 1, 2, 3, 6] : List Int),
      createSynced .existsErr (some ⟨oid, hash, path⟩) hash 9 p = ⟨.finished, some ⟨oid, hash, path.getD 9⟩, none, false⟩ :=
  fun oid _ hash _ path _ p _ => half_recorded_create_is_recognised ⟨oid, hash, path⟩ 9 p

open CS.Spec in
theorem noDup_iff (h : List LEv) (tr : Tree) :
    noDup h tr = true ↔ ∀ t ∈ tr.tags, tr.tags.count t ≤ writesOf h t := by
  simp only [noDup, List.all_eq_true, decide_eq_true_eq]

open CS.Spec in
theorem noArtefact_iff (tr : Tree) : noArtefact tr = true ↔ ∀ e ∈ tr, isConflicted e.1 = false := by
  simp only [noArtefact, Bool.not_eq_true', List.any_eq_false, Bool.not_eq_true]

open CS.Spec in
/-- `recovered` = converged ∧ no user content lost ∧ nothing duplicated ∧ (one-sided history → no '.conflicted' artefact) -/
theorem recovered_iff (h : List LEv) (oneSided : Bool) (l r : Tree) :
    recovered h oneSided l r = true ↔
      converged l r = true ∧
      (∀ t ∈ live h, t ∈ l.tags ∨ t ∈ r.tags) ∧
      (∀ t ∈ l.tags, l.tags.count t ≤ writesOf h t) ∧ (∀ t ∈ r.tags, r.tags.count t ≤ writesOf h t) ∧
      (oneSided = true → (∀ e ∈ l, isConflicted e.1 = false) ∧ (∀ e ∈ r, isConflicted e.1 = false)) := by
  simp only [recovered, Bool.and_eq_true, Bool.or_eq_true, Bool.not_eq_true', noLoss_iff, noDup_iff, noArtefact_iff,
    and_assoc]
  cases oneSided <;> simp

open CS.Spec in
/-- the recovery verdict implies C01's and C02's verdicts -/
theorem recovered_implies_converged_noLoss (h : List LEv) (o : Bool) (l r : Tree) (hr : recovered h o l r = true) :
    converged l r = true ∧ noLoss h l r = true := by
  simp only [recovered, Bool.and_eq_true] at hr
  obtain ⟨⟨⟨⟨hconv, hloss⟩, -⟩, -⟩, -⟩ := hr
  exact ⟨hconv, hloss⟩

/-- a run in the shape the real engine produces: first start (cursor, walk marker), a user create on L, the event, the transfer
    to R, the commit — accepted, and consistent at every cut -/
def sampleLog : Log :=
  [⟨0, .cursorWrite false 0⟩, ⟨1, .walkWrite false⟩, ⟨2, .providerWrite false false (some 1)⟩,
   ⟨3, .rowCreate 3 none none⟩, ⟨4, .eventApplied false 1 (some 3)⟩, ⟨5, .cursorWrite false 1⟩,
   ⟨6, .providerWrite true true (some 1)⟩, ⟨7, .rowUpdate 3 (some 1) (some 1)⟩]

theorem sample_accepted : check sampleLog = true := by decide

/-- the same run with the commit BEFORE the provider write is rejected (rule (b) of the checker) -/
theorem check_rejects_commit_before_provider_write :
    check [⟨0, .cursorWrite false 0⟩, ⟨1, .walkWrite false⟩, ⟨2, .providerWrite false false (some 1)⟩,
      ⟨3, .rowCreate 3 none none⟩, ⟨4, .eventApplied false 1 (some 3)⟩, ⟨5, .cursorWrite false 1⟩,
      ⟨6, .rowUpdate 3 (some 1) (some 1)⟩, ⟨7, .providerWrite true true (some 1)⟩] = false := by decide

/-- … and with the cursor saved BEFORE the event it covers is committed (rule (a)) -/
theorem check_rejects_cursor_before_event :
    check [⟨0, .cursorWrite false 0⟩, ⟨1, .walkWrite false⟩, ⟨2, .providerWrite false false (some 1)⟩,
      ⟨3, .cursorWrite false 1⟩, ⟨4, .rowCreate 3 none none⟩, ⟨5, .eventApplied false 1 (some 3)⟩] = false := by decide

/-- an event reported handled while its entry exists only in memory (no stored row) is rejected: the cursor may not move
    past it (the shape: id-style provider, new path-less entries whose first storage write is skipped) -/
theorem check_rejects_handled_without_row :
    check [⟨0, .cursorWrite false 0⟩, ⟨1, .walkWrite false⟩, ⟨2, .providerWrite false false (some 1)⟩,
      ⟨3, .eventApplied false 1 (some 3)⟩, ⟨4, .cursorWrite false 1⟩] = false := by decide

/-- … and if the harness (correctly) does not report the event handled, the cursor write is what is rejected -/
theorem check_rejects_cursor_past_uncommitted_entry :
    check [⟨0, .cursorWrite false 0⟩, ⟨1, .walkWrite false⟩, ⟨2, .providerWrite false false (some 1)⟩,
      ⟨3, .cursorWrite false 1⟩] = false := by decide

/-- without the rule the storage left by a crash right after the early commit WOULD claim unreflected work: the state is not
    `Consistent` (so `Consistent` is not vacuous and the rule is what excludes it) -/
theorem early_commit_state_inconsistent :
    ¬ Consistent ⟨7, [⟨3, some 1, some 1⟩], ⟨[1], [1], 0, some 1, true⟩, ⟨[], [], 0, none, false⟩⟩ := by decide

/-- before the walk marker is stored a cursor may be ahead (a restart walks again): accepted, and `Consistent` -/
theorem cursor_before_walk_marker_ok :
    check [⟨0, .cursorWrite true 5⟩, ⟨1, .rowCreate 1 none none⟩, ⟨2, .walkWrite true⟩, ⟨3, .eventApplied true 6 none⟩,
      ⟨4, .cursorWrite true 6⟩] = true := by decide

/-- non-vacuity of the main theorem's conclusion on the sample: the crash cut after the engine's provider write (k = 7) leaves
    a consistent storage that does NOT yet claim the transfer -/
example : ∃ st, run St.init (sampleLog.take 7) = .ok st ∧ Consistent st ∧ st.rows = [⟨3, none, none⟩] ∧ CrashCut sampleLog 7 := by
  refine ⟨_, rfl, by decide, rfl, Or.inr ⟨6, _, rfl, rfl, rfl⟩⟩

end CS.Spec.Crash
