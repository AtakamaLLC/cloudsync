import Csverif.Model.SchedSites
import Csverif.Props.C17Loop
import Csverif.Props.C10
/-
C17 — every failure of a sync step defers the entry: the audited `except`-clause tables of Model/SchedSites.lean
discharge the hypothesis `ProgressOnFailure` of the loop-level liveness theorem.
The tie to the source (generated table = audited table) is Props/C17Sites.lean.
-/
namespace CS.SchedSites
open CS.Faults CS.SchedLoop CS.Sched

/-- which clause of `_sync_one_entry` Python selects for each class (`CloudOutOfSpaceError` and `CloudResourceModifiedError`,
    subclasses of `CloudTemporaryError`, land in the first) -/
theorem audited_first_match :
    (∀ e ∈ [Exc.temporary, .outOfSpace, .resourceModified, .disconnected, .token, .namespace_],
      catches auditedSyncOneEntry e = auditedSyncOneEntry[0]?) ∧
    (∀ e ∈ [Exc.exception_, .cloudException, .fileNotFound, .fileName, .rootMissing, .fileExists, .cursor, .tooManyRetries,
            .corrupt, .backoffError, .otherException],
      catches auditedSyncOneEntry e = auditedSyncOneEntry[1]?) := by decide

/-- whatever `Exception` the sync work raises, the clause of `_sync_one_entry` Python selects (first match, subclass order)
    punts the entry and requests a backoff; it neither finishes the entry nor re-raises -/
theorem audited_every_exception_punts (e : Exc) (he : isSub e .exception_ = true) :
    ∃ c, catches auditedSyncOneEntry e = some c ∧ c.punts = true ∧ c.backsOff = true ∧ c.finishes = false ∧
      c.raises = false := by
  have : ∀ e ∈ Exc.all, isSub e .exception_ = true →
      ∃ c, catches auditedSyncOneEntry e = some c ∧ c.punts = true ∧ c.backsOff = true ∧ c.finishes = false ∧
        c.raises = false := by decide
  exact this e (Exc.all_complete e) he

/-- a clause that punts and backs off without finishing counts as progress -/
theorem audited_progress : ProgressOnFailure auditedSyncOneEntry := by
  intro e he
  obtain ⟨c, hc, hp, hb, hf, _⟩ := audited_every_exception_punts e he
  simp [workOfExc, hc, workOfClause, hp, hb, hf, Work.progress]

/-- legitimately not punted: a `BaseException` that is not an `Exception` (KeyboardInterrupt, SystemExit) is caught by no
    clause and leaves `do()` with the entry untouched: the service is being torn down -/
theorem audited_base_escapes :
    catches auditedSyncOneEntry .otherBase = none ∧ catches auditedSyncOneEntry .baseException = none ∧
    workOfExc auditedSyncOneEntry .otherBase = .stuck := by decide

/-- legitimately not punted: the one clause of `sync()` marks the side FINISHED and is re-raised only on request, which
    `_sync_one_entry` never makes -/
theorem audited_sync_too_many_retries :
    workOfClause (catches auditedSync .tooManyRetries) = .finished ∧ auditedSyncCalledPlain = true ∧
    (∀ e ∈ Exc.all, e ≠ .tooManyRetries → catches auditedSync e = none) := by decide

theorem audited_do_no_handler : auditedDo = [] := rfl

/-- no handler outside `_sync_one_entry` punts; none outside it and `_validate_provider_roots` backs off: the inner helpers
    of the sync path convert the classes they know into return codes or re-raise, so everything else reaches the funnel -/
theorem audited_punt_only_in_funnel :
    (∀ s ∈ auditedSites, s.punt = true → s.fn = "_sync_one_entry") ∧
    (∀ s ∈ auditedSites, s.backoff = true → s.fn = "_sync_one_entry" ∨ s.fn = "_validate_provider_roots") := by
  decide +kernel

/-- what the sync work of one iteration does: returns normally (finished / punted / requeue), or raises -/
inductive Ev where
  | ok (w : Work)
  | exc (e : Exc)

def Ev.toWork (cl : List Clause) : Ev → Work
  | .ok w => w
  | .exc e => workOfExc cl e

/-- every failure counts towards the bound; a normal return counts unless it is a pure requeue -/
def Ev.counts : Ev → Bool
  | .ok w => w.progress
  | .exc _ => true

def toSteps (cl : List Clause) (evs : List (Ev × Rat)) : List Step :=
  evs.map (fun x => { work := x.1.toWork cl, dur := x.2 })

theorem filter_length_le_map {α β : Type} (p : α → Bool) (q : β → Bool) (f : α → β) (l : List α)
    (h : ∀ x ∈ l, p x = true → q (f x) = true) : (l.filter p).length ≤ ((l.map f).filter q).length := by
  rw [← List.countP_eq_length_filter, ← List.countP_eq_length_filter, List.countP_map]
  exact List.countP_mono_left h

/-- **no starvation, failures as exception classes.**  Handler table `cl` with `ProgressOnFailure cl`; `y` queued and
    eligible.  As long as `y` is not attempted, every iteration attempts something, and the iterations whose sync work
    raised — any `Exception`, any entry, any number of times — together with the normal returns that are not pure
    requeues number at most `potential y P`. -/
theorem loop_no_starvation_failures (cl : List Clause) (hP : ProgressOnFailure cl)
    (c : Cfg) (hc : c.Sane) (y : Entry) (evs : List (Ev × Rat)) (L : Loop)
    (hy : y ∈ L.P) (hel : eligible y L.now c.age = true) (hd : ∀ x ∈ evs, 0 ≤ x.2)
    (hexc : ∀ x ∈ evs, ∀ e, x.1 = .exc e → isSub e .exception_ = true)
    (hnot : ∀ r ∈ (run c L (toSteps cl evs)).2, ∀ e, r.ent = some e → e.id ≠ y.id) :
    (∀ r ∈ (run c L (toSteps cl evs)).2, r.ent ≠ none) ∧
    (evs.filter (fun x => x.1.counts)).length ≤ potential y L.P := by
  have hd' : ∀ w ∈ toSteps cl evs, 0 ≤ w.dur := by
    intro w hw
    obtain ⟨x, hx, rfl⟩ := List.mem_map.1 hw
    exact hd x hx
  obtain ⟨h1, h2⟩ := loop_no_starvation c hc y (toSteps cl evs) L hy hel hd' hnot
  refine ⟨h1, le_trans ?_ h2⟩
  apply filter_length_le_map
  intro x hx hcnt
  cases hev : x.1 with
  | ok w => simp only [hev, Ev.counts] at hcnt; simpa [Ev.toWork, hev] using hcnt
  | exc e => simpa [Ev.toWork, hev] using hP e (hexc x hx e hev)

/-- the bound for the audited table of `_sync_one_entry` -/
theorem loop_no_starvation_head (c : Cfg) (hc : c.Sane) (y : Entry) (evs : List (Ev × Rat)) (L : Loop)
    (hy : y ∈ L.P) (hel : eligible y L.now c.age = true) (hd : ∀ x ∈ evs, 0 ≤ x.2)
    (hexc : ∀ x ∈ evs, ∀ e, x.1 = .exc e → isSub e .exception_ = true)
    (hnot : ∀ r ∈ (run c L (toSteps auditedSyncOneEntry evs)).2, ∀ e, r.ent = some e → e.id ≠ y.id) :
    (evs.filter (fun x => x.1.counts)).length ≤ potential y L.P :=
  (loop_no_starvation_failures _ audited_progress c hc y evs L hy hel hd hexc hnot).2

/-- the hypothesis is needed: a table whose out-of-space clause forgets the punt does not satisfy it, and then the same entry
    is attempted for ever -/
theorem progress_needed :
    let bad : List Clause := ⟨[.outOfSpace], false, false, true, false⟩ :: auditedSyncOneEntry
    ¬ ProgressOnFailure bad ∧
    (let c : Cfg := { age := 1, sleep := 1/8, punt := (1/4, 1/4), bp := ⟨1/4, 8, 2⟩ }
     let x : Entry := { id := 0, l := { changed := some 1000, oid := some "a" } }
     let y : Entry := { id := 1, l := { changed := some 1001, oid := some "b" } }
     ((run c { P := [x, y], now := 1010, backoff := 0 }
        (toSteps bad [(.exc .outOfSpace, 0), (.exc .outOfSpace, 0), (.exc .outOfSpace, 0), (.exc .outOfSpace, 0)])).2.map
          (fun r => r.ent.map (·.id))) = [some 0, some 0, some 0, some 0]) := by
  refine ⟨fun h => absurd (h .outOfSpace (by decide)) (by decide), by decide +kernel⟩

end CS.SchedSites
