import Csverif.Proofs.Engine
import Csverif.Proofs.EngineXfer
import Csverif.Proofs.EngineMore
import Csverif.Proofs.EngineRefresh
/-
ENG — theorems about the decision tables of the sync engine (Model/Engine.lean; the model is tied to the real methods of
cloudsync/sync/manager.py by harness/eng_decide.py, driver layer `engine`).

Every theorem is universally quantified over ALL abstract entries (both sides, ignore reason, priority) and ALL oracles
(answers of translate / providers / other entries / transfer leaves), and proved by case analysis over the branch structure of
the model, not by enumeration (`Entry × Oracle` is finite only up to the two priorities).  `Entry.prio` is Python's priority in
tenths (Model/Engine.lean), so the 20, 40, 50 compared with below are the literals 2, 4, 5 of manager.py; `hpcc` / `hpccRest`
are `handle_path_change_or_creation` and its part after the trashed-peer test.
manager.py / state.py line numbers are those of the line tags of Model/Engine*.lean: the tree before the fix that added the first
step of `sync` (27-28 lines at manager.py 372-402; `embrace_change`, tagged 1417, stands at 1445 in /repo), except for that first
step and the hash-conflict branch after it, tagged 372-402 and 404-407 as they stand in /repo.
-/
namespace CS.Engine
open CS.Hints (Ex OT Ign)

/-! ## 0. the first step of `sync`: a peer that left the sync root is unlinked (manager.py 372-402) -/

theorem leftSync_oid (o : Oracle) (e : Entry) (s : Sd) (h : leftSync o e s = true) : (e.get s).oid = true := by
  unfold leftSync at h
  simp only [Bool.and_eq_true] at h
  exact h.1.1.1

/-- the first step of `sync` (`_unlink_peer_that_left_sync`, manager.py 372-402) fires ONLY when some side left the root while the
    other one, identified, has a change pending -/
theorem unlink_only_if_left_and_pending (o : Oracle) (e : Entry) (h : unlinks o e = true) :
    e.ign.isDiscarded = false ∧ ∃ s, leftSync o e s = true ∧ (e.get s.other).needsSync = true ∧ (e.get s.other).oid = true := by
  unfold unlinks at h
  simp only [Bool.and_eq_true, Bool.or_eq_true, Bool.not_eq_true'] at h
  obtain ⟨⟨⟨h1, h2⟩, h3⟩, h4⟩ := h
  refine ⟨h3, ?_⟩
  rcases h4 with ⟨a, b⟩ | ⟨a, b⟩
  · exact ⟨.rem, a, b, h1⟩
  · exact ⟨.loc, a, b, h2⟩

/-- … and it does fire then (both ids are there: a side that left has one) -/
theorem unlinks_of_left_and_pending (o : Oracle) (e : Entry) (s : Sd) (hl : leftSync o e s = true)
    (hn : (e.get s.other).needsSync = true) (hid : (e.get s.other).oid = true) (hd : e.ign.isDiscarded = false) :
    unlinks o e = true := by
  have hs := leftSync_oid o e s hl
  unfold unlinks
  cases s <;> simp only [Sd.other, Entry.get] at hn hid hs <;> simp [hd, hs, hid, hl, hn]

theorem sync_of_not_unlinks (o : Oracle) (e : Entry) (h : unlinks o e = false) : sync o e = syncPre o e := by
  unfold sync; simp [h]

/-- when the first step fires, `sync` does nothing but `state.split(sync)` and returns False -/
theorem sync_of_unlinks (o : Oracle) (e : Entry) (h : unlinks o e = true) :
    (sync o e).effs = [.split] ∧ (sync o e).done = .ok false ∧ splitEntry e = .ok (sync o e).ent := by
  -- `split` asks for LOCAL's id: it is the id of the side that left, or of the other one
  have hl : e.l.oid = true := by
    obtain ⟨-, s, hs, -, ho⟩ := unlink_only_if_left_and_pending o e h
    cases s
    · exact leftSync_oid o e .loc hs
    · exact ho
  unfold sync
  simp only [h, if_true]
  unfold splitEntry
  simp [hl]

theorem unlinks_false_of_idle (o : Oracle) (e : Entry) (hn : ∀ x, (e.get x).needsSync = false) : unlinks o e = false := by
  cases h : unlinks o e
  · rfl
  · obtain ⟨-, s, -, hs, -⟩ := unlink_only_if_left_and_pending o e h
    rw [hn] at hs; cases hs

/-! ## 1. a delete never beats a pending create -/

theorem isCreation_congr (e e' : Entry) (c : Sd) (h : ∀ s, e'.get s = e.get s) : isCreation e' c = isCreation e c := by
  rw [isCreation_eq, isCreation_eq, h, h]

/- FULL STATEMENT (false of the code as it is — see the counterexample below):
     theorem delete_never_beats_pending_create (o e c)
       (ht : (e.get c).ex = .trashed) (hc : isCreation e c.other) (hf : (e.get c.other).otype = .file)
       (hch : (e.get c.other).changed) : Eff.delete c.other ∉ (embrace o e c).effs                                      -/

/-- DELETE NEVER BEATS A PENDING CREATE (manager.py 1491-1496), partial: unless the head takes the moved-out-of-the-root exit
    (hypothesis `hm`), embracing a TRASHED side whose other side is a changed pending FILE creation issues no provider write
    at all — the only leaf call possible is the SYNC_DISCARDED notification. -/
theorem delete_never_beats_pending_create_partial (o : Oracle) (e : Entry) (c : Sd)
    (ht : (e.get c).ex = .trashed) (hc : isCreation e c.other = true) (hf : (e.get c.other).otype = .file)
    (hch : (e.get c.other).changed = true) (hm : movedOut o e c = false) :
    (embrace o e c).effs.all (fun f => !f.isWrite) = true ∧ Eff.delete c.other ∉ (embrace o e c).effs := by
  have hsub : (embrace o e c).effs ⊆ [.notifyDiscarded c] := by
    rcases embrace_cases o e c with ⟨h, -⟩ | ⟨-, h⟩ | ⟨e', he, h⟩
    · rw [hm] at h; cases h
    · exact h
    · -- the main part, on an entry with the same two sides: its pending-create guard (1492-1494) returns at once
      have hg : embraceMain o e' c [] = ⟨.ret .finished, [], e'⟩ := by
        unfold embraceMain
        simp [he, isCreation_congr _ _ _ he, ht, hc, hf, hch]
      rw [h, hg]
      exact List.nil_subset _
  exact ⟨List.all_eq_true.2 fun f hf => by cases List.mem_singleton.1 (hsub hf); rfl,
    fun hmem => by cases List.mem_singleton.1 (hsub hmem)⟩

/-- an outside world in which nothing special happens -/
def Oracle.quiet : Oracle :=
  { trL := .path, trR := .path, inRoot := true, nameConfl := false, parentConfl := false, pcPrio := 0, rdc := false,
    delCreate := false, delRename := false, del := .ok, kidsNeedSync := false, remaining := false, dl := .ok, up := .ok,
    childConfl := false, disjoint := false, mkd := .ok, cr := .ok, ren := .ok, rcEnt := false, rcNeedsSync := false,
    rcDelExists := false, fixFnf := false, hcTemp := false, revOtherL := false, revOtherR := false,
    revInfoL := .none, revInfoR := .none, revTrL := false, revTrR := false }

def Side.blank : Side :=
  { oid := false, p := .nn, h := .nn, ex := .unknown, saved := none, otype := .file, changed := false, force := false }

/-- a synced file that was moved (path differs from sync_path) and then deleted -/
def wTombMoved : Side := { Side.blank with oid := true, p := .ne, h := .eq, ex := .trashed, changed := true }

def wNewFile : Side := { Side.blank with oid := true, p := .cn, h := .cn, ex := .present, changed := true }

def wNewDir : Side := { Side.blank with oid := true, p := .cn, otype := .dir, ex := .present, changed := true }

def wSynced : Side := { Side.blank with oid := true, p := .eq, h := .eq, ex := .present }

def wEntry1 : Entry := { l := wTombMoved, r := wNewFile, lLeR := true, ign := .no, prio := 0 }

/-- COUNTEREXAMPLE to the full `delete_never_beats_pending_create`: LOCAL is a tombstone whose last known path no longer
    translates and lies outside the root (it had been synced: sync_path set), REMOTE is a changed pending FILE creation of the
    same entry.  The head of `embrace_change` (manager.py 1429-1435) runs `delete_synced` BEFORE the pending-create guard of
    1492-1494 is reached: the provider delete toward REMOTE is issued. -/
theorem delete_beats_pending_create_when_moved_out :
    (wEntry1.get .loc).ex = .trashed ∧ isCreation wEntry1 .rem = true ∧ (wEntry1.get .rem).otype = .file ∧
    (wEntry1.get .rem).changed = true ∧
    Eff.delete .rem ∈ (embrace { Oracle.quiet with trR := .none, inRoot := false } wEntry1 .loc).effs := by
  decide

/-! ## 2. no upload over a trashed peer -/

def Side.zeroed (s : Side) : Bool := !s.oid && s.p == .nn && s.h == .nn && !s.changed

theorem zeroPeer_zeroed (e : Entry) (c : Sd) : ((zeroPeer e c).get c.other).zeroed = true := by
  simp [zeroPeer, Side.zeroed, setChanged_get_self, When.flag]

theorem zeroPeer_changed_side (e : Entry) (c : Sd) :
    ((zeroPeer e c).get c).p.sync = false ∧ ((zeroPeer e c).get c).h.sync = false := by
  simp [zeroPeer]

/-- NO UPLOAD OVER A TRASHED PEER (manager.py 1580-1594): when the peer is TRASHED, MISSING or has no id, `handle_hash_diff`
    makes no leaf call at all; if the changed side has a path it returns PUNT and leaves the peer zeroed and both "synced" values
    of the changed side cleared. -/
theorem no_upload_over_trashed_peer (o : Oracle) (e : Entry) (c : Sd)
    (h : (e.get c.other).ex = .trashed ∨ (e.get c.other).ex = .missing ∨ (e.get c.other).oid = false) :
    (hashDiff o e c).effs = [] ∧
    ((e.get c).p.cur = true →
      (hashDiff o e c).out = .ret .punt ∧ (hashDiff o e c).ent = zeroPeer e c ∧
      ((hashDiff o e c).ent.get c.other).zeroed = true ∧
      ((hashDiff o e c).ent.get c).p.sync = false ∧ ((hashDiff o e c).ent.get c).h.sync = false) := by
  have hz := zeroPeer_zeroed e c
  have hc := zeroPeer_changed_side e c
  unfold hashDiff
  rcases h with h | h | h <;> simp [h] <;> (split <;> simp_all)

/-- … so that the next round is a CREATE (`is_creation`), whatever the hash of the changed side -/
theorem zeroed_peer_next_round_is_create (e : Entry) (c : Sd)
    (hp : (e.get c).p.cur = true) (hx : (e.get c).ex = .present) (hch : (e.get c).changed = true) (ho : (e.get c).oid = true)
    (hs : (e.get c).p.sync = false) (hz : (e.get c.other).oid = false) : isCreation e c = true := by
  have := Rel.not_same_of_cur_not_sync _ hp hs
  simp [isCreation, Side.needsSync, hp, hx, hch, ho, hz, this]

/-- reads before writes: whatever `handle_hash_diff` does starts with the download from the changed side -/
theorem upload_only_after_download (o : Oracle) (e : Entry) (c : Sd) :
    (hashDiff o e c).effs = [] ∨ (hashDiff o e c).effs.head? = some (.download c) := by
  fun_cases hashDiff o e c
  case case1 | case2 => exact .inl rfl   -- no path on the changed side, or the peer trashed / missing / id-less: no call
  all_goals exact .inr rfl

/-! ## 3. tombstones -/

/-- TOMBSTONE BLOCKS RESURRECTION (manager.py 1491-1496).  Embracing a side that is TRASHED never creates, uploads or makes a
    folder: the step ends in FINISHED without effect (pending creation on the other side, 1492-1494), in `delete_synced`, or
    earlier. -/
theorem tombstone_blocks_resurrection (o : Oracle) (e : Entry) (c : Sd) (h : (e.get c).ex = .trashed) :
    (embrace o e c).effs.all (fun f => !f.isTransfer) = true :=
  embrace_all o e c (quietTo_noTransfer _) fun _ he hn => absurd (he c ▸ h) hn

/-! ## 3b. tombstones, at the level of one `sync` call -/

theorem isCreation_above (e1 e : Entry) (h : e1.below e) (x : Sd) (hc : isCreation e1 x = true) : isCreation e x = true := by
  rw [isCreation_eq, Bool.and_eq_true] at hc ⊢
  exact ⟨(h x).pending hc.1, (h x.other).absent ▸ hc.2⟩

theorem isCreation_below (e1 e : Entry) (h : e1.below e) (x : Sd) (hn : isCreation e x = false) : isCreation e1 x = false := by
  cases hc : isCreation e1 x
  · rfl
  · rw [isCreation_above e1 e h x hc] at hn; cases hn

theorem isCreation_clear_peer (e : Entry) (s : Sd) (ht : (e.get s.other).ex = .trashed) (hn : isCreation e s = false) :
    isCreation (e.clearSide s.other) s = false := by
  -- the peer is TRASHED, so it is this side that is not pending; clearing the peer can only lower this side's flag
  have ha : (e.get s.other).absent = true := by simp [Side.absent, ht]
  rw [isCreation_eq, ha, Bool.and_true] at hn
  have hs := clearSide_other e s.other
  rw [Sd.other_other] at hs
  rw [isCreation_eq, hs]
  cases hp : ({ e.get s with changed := (e.get s).changed && (e.get s).oid } : Side).pending
  · rfl
  · rw [(below_lower _ _).pending hp] at hn; cases hn

theorem hpccRest_quiet_cleared (o : Oracle) (e : Entry) (s : Sd) (ho : (e.get s.other).oid = false) (hp : (e.get s.other).p = .nn)
    (hh : (e.get s.other).h = .nn) (hd : (e.get s.other).otype ≠ .dir) (hn : isCreation e s = false) :
    (hpccRest o e s).effs = [] ∧ ((hpccRest o e s).ent.get s.other).oid = false := by
  -- not a creation: `handle_rename`, which on a peer without sync_path and sync_hash that is no folder trips its assertion
  -- (`assert sync_hash or otype == DIRECTORY`) before any provider call; a corrupt side is FINISHED at once
  unfold hpccRest handleRename
  simp [hn, hp, hh, hd, TrAns.eqSync, Rel.sync]
  split <;> simp [ho]

/-- four exits: three return before any call with the peer still TRASHED (priority ≤ 0; the peer's own change goes first); the
    fourth clears the peer and goes on — hence the disjunction about the peer afterwards -/
theorem hpcc_quiet_on_tombstone (o : Oracle) (e : Entry) (s : Sd) (ht : (e.get s.other).ex = .trashed)
    (hn : isCreation e s = false) (hd : (e.get s.other).otype ≠ .dir) (hps : (e.get s).p.sync = true) :
    (hpcc o e s).effs = [] ∧
    (((hpcc o e s).ent.get s.other).ex = .trashed ∨ ((hpcc o e s).ent.get s.other).oid = false) := by
  obtain ⟨hoid, hp, hh, -, hot, -⟩ := clearSide_self e s.other
  have hq := hpccRest_quiet_cleared o (e.clearSide s.other) s hoid hp hh (by rw [hot]; exact hd)
    (isCreation_clear_peer e s ht hn)
  have hso : ((e.setChanged s .afterPeer).get s.other).ex = .trashed := by rw [setChanged_get_other]; exact ht
  unfold hpcc
  simp only [ht, hps]
  split
  · exact ⟨rfl, Or.inl ht⟩
  · simp only [Bool.true_and, beq_self_eq_true, if_true]
    split
    · exact ⟨rfl, Or.inl ht⟩
    · split
      · exact ⟨rfl, Or.inl hso⟩
      · exact ⟨hq.1, Or.inr hq.2⟩

theorem embraceHash_quiet (o : Oracle) (e : Entry) (c : Sd) (fx : List Eff)
    (h : (e.get c.other).ex = .trashed ∨ (e.get c.other).oid = false) : (embraceHash o e c fx).effs = fx := by
  rcases embraceHash_effs o e c fx with h' | h'
  · exact h'
  · rw [h', (no_upload_over_trashed_peer o e c (h.imp_right .inr)).1, List.append_nil]

theorem embraceTail_quiet_on_tombstone (o : Oracle) (e : Entry) (s : Sd) (ht : (e.get s.other).ex = .trashed)
    (hn : isCreation e s = false) (hd : (e.get s.other).otype ≠ .dir) : (embraceTail o e s).effs = [] := by
  unfold embraceTail
  simp only [hn, Bool.or_false]
  split
  · rename_i hpc
    have hps : (e.get s).p.sync = true := by simp [isPathChange] at hpc; exact hpc.1
    have hq := hpcc_quiet_on_tombstone o e s ht hn hd hps
    split
    · exact hq.1
    · exact hq.1
    · split
      · exact hq.1
      · rw [embraceHash_quiet o _ s _ hq.2]; exact hq.1
  · exact embraceHash_quiet o e s [] (Or.inl ht)

structure Tomb (e : Entry) (c : Sd) : Prop where
  ex : (e.get c).ex = .trashed
  notDir : (e.get c).otype ≠ .dir
  notCreation : isCreation e c.other = false

theorem Tomb.below {e1 e : Entry} {c : Sd} (h : Tomb e c) (hb : e1.below e) : Tomb e1 c :=
  ⟨by rw [(hb c).ex]; exact h.ex, by rw [(hb c).otype]; exact h.notDir, isCreation_below e1 e hb _ h.notCreation⟩

theorem embrace_opposite (o : Oracle) (e : Entry) (c : Sd) (h : Tomb e c) :
    (embrace o e c.other).effs.all noTransfer = true :=
  embrace_all o e c.other (quietTo_noTransfer _) fun e' he _ =>
    have h' : Tomb e' c := h.below fun x => by rw [he]; exact below_refl e x
    (embraceTail_quiet_on_tombstone o e' c.other (by simpa using h'.ex) h'.notCreation (by simpa using h'.notDir)).symm ▸ rfl

theorem embrace_tomb_any_side (o : Oracle) (e : Entry) (c side : Sd) (h : Tomb e c) :
    (embrace o e side).effs.all noTransfer = true := by
  rcases Sd.eq_or_other c side with rfl | rfl
  · exact tombstone_blocks_resurrection o e _ h.ex
  · exact embrace_opposite o e c h

def Step.fx : Step → List Eff
  | .cont _ fx | .brk _ _ fx | .raised _ _ fx => fx

theorem dispatch_fx (o : Oracle) (e : Entry) (side : Sd) (fx : List Eff) :
    (∀ e' fx', dispatch o e side fx ≠ .cont e' fx') ∧
    ∃ tail, tail ⊆ [.fin side, .punt] ∧ (dispatch o e side fx).fx =
      fx ++ (if (e.get side).corruptGone then [.notifyCorrupt side] else (embrace o e side).effs) ++ tail := by
  refine ⟨fun e' fx' => by unfold dispatch; dsimp only; split <;> nofun, ?_⟩
  unfold dispatch
  by_cases hcg : (e.get side).corruptGone = true
  · exact ⟨[.fin side], by simp, by simp [hcg, Step.fx]⟩
  · simp only [hcg]
    generalize embrace o e side = r
    -- the bookkeeping call goes by the code: `finished` (also for CloudTooManyRetriesError), `punt`, or none
    refine ⟨(match r.out with | .ret .finished | .raised .tooMany => [.fin side] | .ret .punt => [.punt] | _ => []), ?_, ?_⟩ <;>
      rcases r with ⟨(_ | _ | _ | _) | (_ | _ | _ | _ | _), efs, en⟩ <;> simp [Step.fx]

/- The branches of `syncSide` as `fun_cases` numbers them (manager.py 386-462): 1 nothing to do on this side, `continue`;
   2 a file without a hash, `break`; 3 no id and not TRASHED: finished, `continue`; 4 the other side's hash change goes first,
   `continue`; 5 path conflict, the other side's name wins, `continue`; 6 path conflict, `embrace_change`; 7 path conflict: split,
   then `embrace_change`; 8 the split raises; 9 `embrace_change`. -/

theorem syncSide_cont (o : Oracle) (e : Entry) (s : Sd) (e' : Entry) (fx : List Eff) (h : syncSide o e s = .cont e' fx) :
    e'.below e := by
  revert h
  fun_cases syncSide o e s <;> intro h
  case case1 =>   -- nothing to do on this side: its flag is taken down
    cases h
    split
    · exact below_setChanged_zero e s
    · exact below_refl e
  case case3 => cases h; exact below_finished e s   -- no id and not TRASHED: finished
  case case4 | case5 => cases h; exact below_refl e   -- the other side goes first
  case case6 | case7 | case9 => exact absurd h ((dispatch_fx o _ s _).1 e' fx)   -- `embrace_change` ends the loop
  all_goals cases h

/-- the loop of `sync` (manager.py 384-464) runs on the first side and, after a `continue`, on the other one: a rule for what every
    iteration guarantees of its calls, with an invariant that lowering flags keeps -/
theorem syncPre_all (p : Eff → Bool) (I : Entry → Prop) (o : Oracle) (e : Entry) (hc : hashConflict e = false) (h0 : I e)
    (hI : ∀ e1 e, e1.below e → I e → I e1) (step : ∀ e s, I e → (syncSide o e s).fx.all p = true) :
    (syncPre o e).effs.all p = true := by
  unfold syncPre
  rw [if_neg (by simp [hc])]
  dsimp only
  generalize firstSide e = s1
  have a1 := step e s1 h0
  cases h1 : syncSide o e s1 with
  | brk d e' fx => rw [h1] at a1; exact a1
  | raised x e' fx => rw [h1] at a1; exact a1
  | cont e' fx =>
    rw [h1] at a1
    have a2 := step e' s1.other (hI _ _ (syncSide_cont o e s1 e' fx h1) h0)
    dsimp only
    cases h2 : syncSide o e' s1.other <;> rw [h2] at a2 <;>
      exact List.all_append.trans (Bool.and_eq_true_iff.2 ⟨a1, a2⟩)

theorem pathConflict_tomb (o : Oracle) (e : Entry) (c : Sd) (h : Tomb e c) : pathConflict o e = false := by
  have := h.ex
  unfold pathConflict
  cases c <;> simp_all [Entry.get]

theorem syncSide_tomb (o : Oracle) (e : Entry) (c side : Sd) (h : Tomb e c) :
    (syncSide o e side).fx.all noTransfer = true := by
  have hp := pathConflict_tomb o e c h
  fun_cases syncSide o e side
  case case9 =>   -- `embrace_change`
    obtain ⟨-, tail, ht, hfx⟩ := dispatch_fx o e side []
    rw [hfx, List.all_append, List.all_append, Bool.and_eq_true, Bool.and_eq_true]
    refine ⟨⟨rfl, ?_⟩, all_sub ht rfl⟩
    split
    · rfl
    · exact embrace_tomb_any_side o e c side h
  case case1 | case2 | case3 | case4 => rfl   -- `continue` or `break` before `embrace_change`: at most `finished`
  all_goals exact absurd ‹pathConflict o e = true› (by rw [hp]; decide)   -- the path-conflict branches: there is none with a tombstone

/-- TOMBSTONE BLOCKS RESURRECTION, at the level of one `sync` call (manager.py 372-464): if one side of the entry is TRASHED
    (and is not a folder), the other side is not a pending creation, and there is no hash conflict, then `sync` creates nothing,
    uploads nothing and makes no folder.
    (For a FOLDER tombstone see the witness `folder_tombstone_reidentified`.) -/
theorem sync_tombstone_not_resurrected (o : Oracle) (e : Entry) (c : Sd) (ht : (e.get c).ex = .trashed)
    (hd : (e.get c).otype ≠ .dir) (hn : isCreation e c.other = false) (hc : hashConflict e = false) :
    (sync o e).effs.all (fun f => !f.isTransfer) = true := by
  by_cases hu : unlinks o e = true
  · rw [(sync_of_unlinks o e hu).1]; decide
  rw [sync_of_not_unlinks o e (by simpa using hu)]
  exact syncPre_all noTransfer (Tomb · c) o e hc ⟨ht, hd, hn⟩ (fun _ _ hb h => h.below hb) fun e s h => syncSide_tomb o e c s h

/-- the FOLDER corner excluded from `sync_tombstone_not_resurrected` (model level; folders carry no hashes in practice): REMOTE is
    a TRASHED folder; LOCAL was renamed AND has a hash difference, and its `exists` is UNKNOWN (so it is not a "creation").  With
    priority > 0 the trashed peer is cleared (manager.py 1219), `handle_rename` re-identifies it by the id the provider's rename
    returns (1342-1345: for a FILE peer the assertion of 1287 fails instead), and the fall-through to `handle_hash_diff` (1513)
    uploads over it. -/
theorem folder_tombstone_reidentified :
    Eff.upload .rem ∈ (sync { Oracle.quiet with trR := .gt }
      { l := { wSynced with p := .ne, h := .ne, ex := .unknown, changed := true },
        r := { wSynced with otype := .dir, ex := .trashed }, lLeR := true, ign := .no, prio := 10 }).effs := by
  decide

/-! ## 4. corrupt sides -/

/-- CORRUPT SIDE FROZEN (manager.py 1261-1278): after `handle_corrupt` the side is CORRUPT, its synced values equal its
    current ones, so it does not need sync (unless `force_sync` is set) until its hash changes; the other side is flagged;
    FINISHED, one notification, no provider write. -/
theorem corrupt_side_frozen (e : Entry) (s : Sd) :
    (handleCorrupt e s).out = .ret .finished ∧ (handleCorrupt e s).effs = [.notifyCorrupt s] ∧
    ((handleCorrupt e s).ent.get s).isCorrupt = true ∧ ((handleCorrupt e s).ent.get s).h.same = true ∧
    ((handleCorrupt e s).ent.get s).p.same = true ∧
    (((handleCorrupt e s).ent.get s).force = false → ((handleCorrupt e s).ent.get s).needsSync = false) ∧
    ((handleCorrupt e s).ent.get s.other).changed = true := by
  unfold handleCorrupt
  dsimp only
  generalize hx : Side.setEx _ .corrupt = x
  have hxe : x.ex = .corrupt := by rw [← hx, setEx_ex, ite_self]
  have hxs : x.h.same = true ∧ x.p.same = true := by rw [← hx]; simp
  -- flagging the OTHER side comes last and leaves this side alone, but for its change flag
  have hg := setChanged_get_of_other (e.set s x) s .now
  rw [get_set_same] at hg
  rw [hg]
  refine ⟨rfl, rfl, ?_, hxs.1, hxs.2, ?_, ?_⟩
  · simpa [Side.isCorrupt] using hxe
  · intro hf
    simp [Side.needsSync, hxe, hxs] at hf ⊢
    simp [hf]
  · simp [setChanged_get_self, When.flag]

/-- a `corrupt_gone` side (corrupt, and gone at the provider) is finished by `sync` with a notification and without any
    provider call (manager.py 440-444) -/
theorem corrupt_gone_finishes_without_write (o : Oracle) (e : Entry) (side : Sd) (fx : List Eff)
    (h : (e.get side).corruptGone = true) :
    dispatch o e side fx = .brk true (finished e side) (fx ++ [.notifyCorrupt side, .fin side]) := by
  simp [dispatch, h]

/-! ## 5. discarded entries -/

/-- an IRRELEVANT entry is revived only when a provider reports a path for a flagged, never-synced side with an id and the
    application translates that path now -/
theorem irrelevant_revived_only_if (o : Oracle) (e : Entry) (h : checkRevivify o e ≠ e) :
    e.ign = .irrelevant ∧ ∃ i, o.revInfo i = .path ∧ o.revTr i = true ∧ o.revOther i = false := by
  have hs : ∀ (e' : Entry) (i : Sd), revivifySide o e' i ≠ e' →
      e'.ign = .irrelevant ∧ o.revInfo i = .path ∧ o.revTr i = true ∧ o.revOther i = false := by
    intro e' i
    fun_cases revivifySide o e' i <;> simp_all
  unfold checkRevivify at h
  split at h
  · by_cases h1 : revivifySide o e .loc = e
    · rw [h1] at h
      have := hs e .rem h
      exact ⟨this.1, .rem, this.2⟩
    · have := hs e .loc h1
      exact ⟨this.1, .loc, this.2⟩
  · exact absurd rfl h

/-- a DISCARDED entry is never revived (`check_revivify` only revives IRRELEVANT ones, manager.py 340) -/
theorem discarded_never_revived (o : Oracle) (e : Entry) (h : e.ign = .discarded) : checkRevivify o e = e :=
  Decidable.byContradiction fun hne => by cases h.symm.trans (irrelevant_revived_only_if o e hne).1

/-- DISCARDED NEVER WRITES (manager.py 348-354): an entry that is still discarded/irrelevant after `check_revivify` is
    finished on both sides by `pre_sync`: `_sync_one_entry` makes no provider call, reports progress, and leaves both change
    flags (and `force_sync`) down -/
theorem discarded_never_writes (o : Oracle) (e : Entry) (h : (checkRevivify o e).ign.isDiscarded = true) :
    (syncOne o e).1 = .done true ∧ (syncOne o e).2.1 = [.fin .loc, .fin .rem] ∧
    ∀ x, ((syncOne o e).2.2.get x).changed = false ∧ ((syncOne o e).2.2.get x).force = false := by
  have hb := finished_both (checkRevivify o e)
  simp [syncOne, preSync, h, hb]

theorem discarded_entry_never_writes (o : Oracle) (e : Entry) (h : e.ign = .discarded) :
    (syncOne o e).2.1.all (fun f => !f.isWrite) = true := by
  have := discarded_never_writes o e (by rw [discarded_never_revived o e h]; simp [h, Ign.isDiscarded])
  rw [this.2.1]; decide

/-- … but `embrace_change` itself looks at `is_discarded` only AFTER its head (manager.py 1420-1444): called on a discarded
    entry whose changed path does not translate and lies outside the root, it deletes the peer.  (`_sync_one_entry` never gets
    there: `pre_sync` finishes discarded entries first.) -/
theorem discarded_embrace_can_delete :
    Eff.delete .rem ∈ (embrace { Oracle.quiet with trR := .none, inRoot := false }
      { l := wTombMoved, r := wSynced, lLeR := true, ign := .discarded, prio := 0 } .loc).effs := by
  decide

/-! ## 6. conflicted names -/

/-- CONFLICTED NAME NOT PROPAGATED (manager.py 1446-1449): a conflicted entry whose changed path contains "conflicted" (and
    translates) is FINISHED without any leaf call and without touching the entry -/
theorem conflicted_name_not_propagated (o : Oracle) (e : Entry) (c : Sd) (h1 : e.ign = .conflict) (h2 : o.nameConfl = true)
    (h3 : (e.get c).p.cur = true) (h4 : (translate o e c.other).some = true) :
    embrace o e c = ⟨.ret .finished, [], e⟩ := by
  unfold embrace embraceBody
  simp [h1, h2, h3, h4, Ign.isDiscarded]

/-! ## 7. nothing to do -/

theorem syncSide_idle (o : Oracle) (e : Entry) (s : Sd) (h1 : (e.get s).needsSync = false)
    (h2 : (e.get s.other).isCorrupt = false) :
    syncSide o e s = .cont (if (e.get s).changed then e.setChanged s .zero else e) [] := by
  simp [syncSide, h1, h2]

theorem sync_idle (o : Oracle) (e : Entry) (hn : ∀ x, (e.get x).needsSync = false) (hk : ∀ x, (e.get x).isCorrupt = false)
    (hc : hashConflict e = false) :
    (sync o e).effs = [] ∧ (sync o e).done = .ok true ∧ ∀ x, ((sync o e).ent.get x).changed = false := by
  -- an idle iteration makes no call, takes the flag of its side down and raises nothing
  have idle : ∀ (e1 : Entry) (s : Sd), e1.below e →
      ∃ e2, syncSide o e1 s = .cont e2 [] ∧ e2.below e1 ∧ (e2.get s).changed = false := by
    intro e1 s hb
    have h1 : (e1.get s).needsSync = false := by
      cases h : (e1.get s).needsSync
      · rfl
      · exact absurd ((hb s).needsSync h) (by rw [hn s]; decide)
    have h2 : (e1.get s.other).isCorrupt = false := by rw [Side.isCorrupt, (hb s.other).ex]; exact hk s.other
    have hi := syncSide_idle o e1 s h1 h2
    refine ⟨_, hi, syncSide_cont o e1 s _ _ hi, ?_⟩
    split
    · rw [setChanged_get_self]; rfl
    · exact Bool.eq_false_iff.2 ‹_›
  rw [sync_of_not_unlinks o e (unlinks_false_of_idle o e hn)]
  unfold syncPre
  rw [if_neg (by simp [hc])]
  dsimp only
  generalize firstSide e = s1
  obtain ⟨e1, h1, b1, c1⟩ := idle e s1 (below_refl e)
  obtain ⟨e2, h2, b2, c2⟩ := idle e1 s1.other b1
  rw [h1]
  dsimp only
  rw [h2]
  refine ⟨rfl, rfl, fun x => ?_⟩
  rcases Sd.eq_or_other s1 x with rfl | rfl
  · cases h : (e2.get x).changed
    · rfl
    · rw [(b2 x).changed h] at c1; cases c1
  · exact c2

/-- NEEDS-SYNC FALSE, NO WRITE (manager.py 386-397): if neither side needs sync, no side is corrupt and there is no hash
    conflict, `sync` makes no leaf call at all, reports progress and leaves both change flags down -/
theorem needs_sync_false_no_write (o : Oracle) (e : Entry) (hl : e.l.needsSync = false) (hr : e.r.needsSync = false)
    (cl : e.l.isCorrupt = false) (cr : e.r.isCorrupt = false) (hc : hashConflict e = false) :
    (sync o e).effs = [] ∧ (sync o e).done = .ok true ∧
    (sync o e).ent.l.changed = false ∧ (sync o e).ent.r.changed = false := by
  have h := sync_idle o e (by intro x; cases x <;> assumption) (by intro x; cases x <;> assumption) hc
  exact ⟨h.1, h.2.1, h.2.2 .loc, h.2.2 .rem⟩

/-! ## 8. hash conflicts first -/

/-- HASH CONFLICT GOES TO THE RESOLVER FIRST (manager.py 404-407), unless a peer that left the sync root is unlinked first
    (`sync_of_unlinks`): nothing else is looked at, the entry is left as it is -/
theorem hash_conflict_goes_to_resolver_first (o : Oracle) (e : Entry) (h : hashConflict e = true) (hu : unlinks o e = false) :
    (sync o e).effs = [.hashConflict] ∧ (sync o e).ent = e := by
  rw [sync_of_not_unlinks o e hu]
  unfold syncPre
  simp [h]
  split <;> simp

/-! ## 9. totality -/

/-- PUNT OR FINISH, TOTALITY (manager.py 1417-1517): `embrace_change` returns FINISHED, PUNT or REQUEUE or lets an exception
    escape — never Python `None` (the `None` of `mkdir_synced` after CloudFileExistsError is absorbed: see
    `mkdir_exists_error_is_finished`); and REQUEUE is returned only by the parent-conflict branch (1453-1484): a flagged,
    existing ancestor was found for a side that EXISTS and has a path. -/
theorem punt_or_finish_total (o : Oracle) (e : Entry) (c : Sd) :
    (embrace o e c).out ≠ .ret .none_ ∧
    ((embrace o e c).out = .ret .requeue →
      o.parentConfl = true ∧ (e.get c).ex = .present ∧ (e.get c).p.cur = true ∧ (embrace o e c).effs = [.reprioritise]) := by
  have fp : ∀ r : Res, r.out.fp = true → r.out ≠ .ret .none_ ∧ r.out ≠ .ret .requeue := by
    intro r h; constructor <;> intro h' <;> rw [h'] at h <;> cases h
  rcases embrace_cases o e c with ⟨-, h⟩ | ⟨h, -⟩ | ⟨e', he, h⟩
  · rw [h]
    exact ⟨(fp _ (embraceMovedOut_code o e c)).1, fun hq => absurd hq (fp _ (embraceMovedOut_code o e c)).2⟩
  · constructor <;> intro hq <;> rw [hq] at h <;> rcases h with h | h <;> cases h
  · rw [h]
    rcases embraceMain_code o e' c with hc | ⟨hq, hfx, h1, h2, h3⟩
    · exact ⟨(fp _ hc).1, fun hq => absurd hq (fp _ hc).2⟩
    · rw [he] at h2 h3
      exact ⟨by rw [hq]; decide, fun _ => ⟨h1, h2, h3, hfx⟩⟩

/-- a REQUEUE makes no provider call (only the priorities move) -/
theorem requeue_never_writes (o : Oracle) (e : Entry) (c : Sd) (h : (embrace o e c).out = .ret .requeue) :
    (embrace o e c).effs.all (fun f => !f.isWrite) = true := by
  rw [((punt_or_finish_total o e c).2 h).2.2.2]; decide

theorem dispatch_not_done (o : Oracle) (e : Entry) (side : Sd) (fx fx' : List Eff) (e' : Entry)
    (h : dispatch o e side fx = .brk false e' fx') : Eff.punt ∈ fx' ∨ o.parentConfl = true := by
  have ht := punt_or_finish_total o e side
  unfold dispatch at h
  by_cases hcg : (e.get side).corruptGone = true
  · simp [hcg] at h
  · simp only [hcg] at h
    generalize embrace o e side = r at h ht
    rcases r with ⟨out, efs, en⟩
    cases out with
    | raised x => cases x <;> simp at h
    | ret r =>
      cases r
      · simp at h
      · simp at h; left; rw [← h.2]; simp
      · right; exact (ht.2 rfl).1
      · exact absurd rfl ht.1

theorem syncSide_not_done (o : Oracle) (e : Entry) (side : Sd) (fx' : List Eff) (e' : Entry)
    (h : syncSide o e side = .brk false e' fx') : Eff.punt ∈ fx' ∨ o.parentConfl = true := by
  revert h
  fun_cases syncSide o e side <;> intro h
  case case6 | case7 | case9 => exact dispatch_not_done o _ side _ _ _ h   -- the three calls of `dispatch`
  all_goals cases h   -- a `continue`, a raise, or the `break` for a file without a hash, which reports progress

theorem sync_not_done (o : Oracle) (e : Entry) (h : (sync o e).done = .ok false) :
    Eff.punt ∈ (sync o e).effs ∨ o.parentConfl = true ∨ Eff.split ∈ (sync o e).effs := by
  by_cases hu : unlinks o e = true
  · rw [(sync_of_unlinks o e hu).1]; exact .inr (.inr (List.mem_singleton_self _))
  rw [sync_of_not_unlinks o e (by simpa using hu)] at h ⊢
  revert h
  fun_cases syncPre o e <;> intro h
  case case3 => cases h; exact (syncSide_not_done o _ _ _ _ ‹_›).imp_right .inl                              -- `break` in the first iteration
  case case5 => cases h; exact (syncSide_not_done o _ _ _ _ ‹_›).imp (List.mem_append_right _) .inl          -- … in the second
  all_goals cases h   -- the hash conflict, a raise, and two `continue`s report True or no result

/-- TOTALITY OF ONE ENGINE STEP (manager.py 180-203, 372-464): `_sync_one_entry` either reports progress, or the entry was
    punted (`sync.punt()`), or the parent-conflict REQUEUE was taken, or the entry was split because a peer left the sync root, or an
    exception escaped — and then the entry was punted before backing off.  There is no silent "nothing happened" path. -/
theorem sync_one_total (o : Oracle) (e : Entry) :
    (syncOne o e).1 = .done true ∨ Eff.punt ∈ (syncOne o e).2.1 ∨
      ((syncOne o e).1 = .done false ∧ (o.parentConfl = true ∨ Eff.split ∈ (syncOne o e).2.1)) := by
  unfold syncOne
  rcases preSync o e with ⟨_ | _, fx, e1⟩
  · dsimp only
    cases hd : (sync o e1).done with
    | error x => exact .inr (.inl (by simp))
    | ok b =>
      cases b
      · right
        rcases sync_not_done o e1 hd with h | h | h
        · exact .inl (List.mem_append_right _ h)
        · exact .inr ⟨rfl, .inl h⟩
        · exact .inr ⟨rfl, .inr (List.mem_append_right _ h)⟩
      · exact .inl rfl
  · exact .inl rfl

/-! ## 10a. every write of `embrace_change` goes to the other side -/

/-- `embrace_change(sync, changed, synced)` addresses every provider write to the SYNCED side: the side whose change is
    propagated is only read (download) -/
theorem embrace_writes_towards_peer (o : Oracle) (e : Entry) (c : Sd) :
    (embrace o e c).effs.all (Eff.towards c.other) = true :=
  embrace_all o e c (quietTo_towards _) fun e' _ _ => embraceTail_effs o e' c

/-! ## 10b. further laws -/

/-- a file is created / a folder made on the other side only for a side that `is_creation` — possibly after the trashed peer
    was cleared (manager.py 1219: "converting to create") -/
theorem create_only_for_creation (o : Oracle) (e : Entry) (c : Sd)
    (h : Eff.create c.other ∈ (hpccRest o e c).effs ∨ Eff.mkdir c.other ∈ (hpccRest o e c).effs) : isCreation e c = true := by
  have hr := handleRename_effs o e c
  by_cases hc : isCreation e c = true
  · exact hc
  · exfalso
    unfold hpccRest at h
    simp [hc] at h
    split at h
    · have := List.all_eq_true.mp hr
      rcases h with h | h <;> (have := this _ h; cases c <;> simp [Eff.quietTo, Eff.isTransfer] at this)
    · simp at h

/-- `handle_changed_is_missing` (manager.py 1557-1574): while the other side EXISTS, a MISSING side is punted until the
    priority exceeds 4 (`prio` is in tenths: 40); only then is it cleared and the other side un-synced and forced -/
theorem missing_punts_until_priority_4 (e : Entry) (c : Sd) (h : (e.get c.other).ex = .present) :
    (e.prio ≤ 40 → handleMissing e c = ⟨.ret .punt, [], e⟩) ∧
    (e.prio > 40 → (handleMissing e c).out = .ret .finished ∧ ((handleMissing e c).ent.get c.other).force = true ∧
      ((handleMissing e c).ent.get c.other).changed = true ∧ ((handleMissing e c).ent.get c.other).p.sync = false ∧
      ((handleMissing e c).ent.get c).oid = false) := by
  constructor
  · intro hp; simp [handleMissing, h, hp]
  · intro hp
    have hp' : ¬ e.prio ≤ 40 := by omega
    have cs := clearSide_self e c
    have hex : ((e.clearSide c).get c.other).ex = .present := by rw [clearSide_other]; exact h
    have ho : ∀ (x : Entry) (w : When), ((x.setChanged c.other w).get c).oid = (x.get c).oid := fun x w => by
      rw [setChanged_get_of_other]
    simp [handleMissing, h, hp', Entry.forceSync, setChanged_get_self, When.flag, ho, cs]

/-- after a successful create (`createOk`, whatever `translate` answered) both sides are in sync -/
theorem successful_create_is_in_sync (e : Entry) (c : Sd) (t : TrAns) :
    ((createOk e c t).get c).h.same = true ∧ ((createOk e c t).get c).p.same = true ∧
    ((createOk e c t).get c.other).oid = true ∧ ((createOk e c t).get c.other).p = .eq ∧ ((createOk e c t).get c.other).h = .eq := by
  have hx : ∀ s : Side, s.existsTrue.oid = s.oid ∧ s.existsTrue.p = s.p ∧ s.existsTrue.h = s.h := by
    intro s; unfold Side.existsTrue; split_ifs <;> simp
  have hn : ∀ s : Side, s.newHashSynced.h = .eq := by
    intro s; unfold Side.newHashSynced; dsimp only
  simp [createOk, hx, hn]

/-! ## 11. shapes worth a look (kernel-checked on the model; the model is tied to the code by the harness) -/

/-- MKDIR AGAINST AN EXISTING OBJECT IS SILENTLY FINISHED.  `mkdir_synced` falls off its end after CloudFileExistsError
    (manager.py 632-633) and returns `None`; `handle_path_change_or_creation` passes it on; `embrace_change` only tests
    `ret == PUNT` (1504), falls through to "nothing changed" and returns FINISHED; `sync` clears the folder's change flag.
    The folder is not created on the other side and nothing is queued to retry. -/
theorem mkdir_exists_error_is_finished :
    (sync { Oracle.quiet with mkd := .none_ } { l := wNewDir, r := Side.blank, lLeR := true, ign := .no, prio := 0 }).done.toOption = some true ∧
    (sync { Oracle.quiet with mkd := .none_ } { l := wNewDir, r := Side.blank, lLeR := true, ign := .no, prio := 0 }).effs
      = [.checkDisjoint, .mkdir .rem, .fin .loc] ∧
    (sync { Oracle.quiet with mkd := .none_ } { l := wNewDir, r := Side.blank, lLeR := true, ign := .no, prio := 0 }).ent.l.changed = false ∧
    (sync { Oracle.quiet with mkd := .none_ } { l := wNewDir, r := Side.blank, lLeR := true, ign := .no, prio := 0 }).ent.r.oid = false ∧
    (sync { Oracle.quiet with mkd := .none_ } { l := wNewDir, r := Side.blank, lLeR := true, ign := .no, prio := 0 }).ent.needsSync = false := by
  decide

/-- `handle_rename` calls `rename_to_fix_conflict` twice (manager.py 1331-1338): after the try/except the call is repeated
    unconditionally -/
theorem rename_fix_called_twice :
    (handleRename { Oracle.quiet with trR := .gt, ren := .exists_ }
      { l := { wSynced with p := .ne, changed := true }, r := wSynced, lLeR := true, ign := .no, prio := 10 } .loc).effs =
      [.rename .rem, .conflictRename .rem, .conflictRename .rem] := by
  decide

/-! ## 12. the feature space as explicit lists, with coverage -/

def Rel.all : List Rel := [.nn, .cn, .ns, .eq, .ne]
def exAll : List Ex := [.unknown, .present, .trashed, .missing, .likely, .corrupt]
def savedAll : List (Option Ex) := none :: exAll.map some
def otAll : List OT := [.file, .dir, .notknown]
def boolAll : List Bool := [false, true]
def ignAll : List Ign := [.no, .discarded, .conflict, .tempRename, .irrelevant]

theorem Rel.mem_all (r : Rel) : r ∈ Rel.all := by cases r <;> decide
theorem mem_exAll (x : Ex) : x ∈ exAll := by cases x <;> decide
theorem mem_savedAll (x : Option Ex) : x ∈ savedAll := by
  cases x <;> simp [savedAll, mem_exAll]
theorem mem_otAll (x : OT) : x ∈ otAll := by cases x <;> decide
theorem mem_boolAll (x : Bool) : x ∈ boolAll := by cases x <;> decide
theorem mem_ignAll (x : Ign) : x ∈ ignAll := by cases x <;> decide

/-- every abstract side, as an explicit list (the harness samples this space: each side exhaustively for the predicates) -/
def Side.all : List Side :=
  boolAll.flatMap fun oid => Rel.all.flatMap fun p => Rel.all.flatMap fun h => exAll.flatMap fun ex =>
  savedAll.flatMap fun saved => otAll.flatMap fun otype => boolAll.flatMap fun changed => boolAll.map fun force =>
    { oid := oid, p := p, h := h, ex := ex, saved := saved, otype := otype, changed := changed, force := force }

theorem Side.mem_all (s : Side) : s ∈ Side.all := by
  rcases s with ⟨oid, p, h, ex, saved, otype, changed, force⟩
  simp only [Side.all, List.mem_flatMap, List.mem_map]
  exact ⟨oid, mem_boolAll _, p, Rel.mem_all _, h, Rel.mem_all _, ex, mem_exAll _, saved, mem_savedAll _, otype, mem_otAll _,
    changed, mem_boolAll _, force, mem_boolAll _, rfl⟩

theorem length_flatMap_const {α β : Type} (l : List α) (f : α → List β) (n : Nat) (h : ∀ a, (f a).length = n) :
    (l.flatMap f).length = l.length * n := by
  induction l with
  | nil => simp
  | cons a t ih => simp [List.flatMap_cons, ih, h, Nat.succ_mul, Nat.add_comm]

/-- 2 · 5 · 5 · 6 · 7 · 3 · 2 · 2 abstract sides (the harness samples the 6600 of them in which `_saved_exists` is only set on a
    CORRUPT side, once each for the predicates) -/
theorem Side.all_length : Side.all.length = 25200 := by
  unfold Side.all
  rw [length_flatMap_const _ _ 12600]
  · rfl
  intro _; rw [length_flatMap_const _ _ 2520]
  · rfl
  intro _; rw [length_flatMap_const _ _ 504]
  · rfl
  intro _; rw [length_flatMap_const _ _ 84]
  · rfl
  intro _; rw [length_flatMap_const _ _ 12]
  · rfl
  intro _; rw [length_flatMap_const _ _ 4]
  · rfl
  intro _; rw [length_flatMap_const _ _ 2]
  · rfl
  intro _; simp [boolAll]

/-- the priority ranges over ℤ; the code compares it with 0, 1, 2, 4, 5, 10 only -/
def Entry.allAt (prio : Int) : List Entry :=
  Side.all.flatMap fun l => Side.all.flatMap fun r => boolAll.flatMap fun ord => ignAll.map fun ign =>
    { l := l, r := r, lLeR := ord, ign := ign, prio := prio }

theorem Entry.mem_allAt (e : Entry) : e ∈ Entry.allAt e.prio := by
  rcases e with ⟨l, r, ord, ign, prio⟩
  simp only [Entry.allAt, List.mem_flatMap, List.mem_map]
  exact ⟨l, Side.mem_all _, r, Side.mem_all _, ord, mem_boolAll _, ign, mem_ignAll _, rfl⟩

/-! ## satisfiability of the hypotheses -/

example : (wEntry1.get .loc).ex = .trashed ∧ isCreation wEntry1 .rem = true ∧ (wEntry1.get .rem).otype = .file ∧
    (wEntry1.get .rem).changed = true ∧ movedOut Oracle.quiet wEntry1 .loc = false := by decide

example : hashConflict { l := { wSynced with h := .ne }, r := { wSynced with h := .ne }, lLeR := true, ign := .no, prio := 0 } = true := by
  decide

example : (checkRevivify Oracle.quiet { l := wSynced, r := wSynced, lLeR := true, ign := .irrelevant, prio := 0 }).ign.isDiscarded = true := by
  decide

example : (embrace { Oracle.quiet with parentConfl := true } { l := wNewFile, r := Side.blank, lLeR := true, ign := .no, prio := 0 } .loc).out
    = .ret .requeue := by decide

/-! Assumption of every theorem below that mentions `FS.wf`: the temp directories only contain files this engine wrote — a finished
file under an md5 name holds the bytes that were downloaded for that name's hash, and random names in use are older than the next
one drawn (Proofs/EngineXfer.lean).  `download_changed` re-establishes it (`downloadChanged_any`). -/
namespace Xfer

/-! ## 13. the transfer leaves (make_temp_file, download_changed, upload_synced, create_synced, clean_temps)

Assumption of every theorem below that mentions `FS.wf`: the temp directories only contain files this engine wrote (`fileOk`,
Proofs/EngineXfer.lean); `download_changed` re-establishes it (`downloadChanged_any`). -/

/-- UPLOADED BYTES HAVE THE CURRENT HASH (manager.py 1600-1605, 1238-1253 with 512-542, 646-653, 698-712).  Whenever the transfer
    part of `handle_hash_diff` / `handle_path_change_or_creation` reaches the provider's `upload` / `create` (or hashes the temp
    file to adopt an existing object), the bytes handed over are bytes downloaded for the side's CURRENT hash — never a temp file
    left by an attempt made for an older hash. -/
theorem uploaded_bytes_have_current_hash (o : XOracle) (fs : FS) (e : XEntry) (hw : fs.wf) (hd : e.c.otype ≠ .dir) :
    (∀ t, XEff.sent t ∈ (transferUpload o fs e).effs → t = e.c.hash.getD 0) ∧
    (∀ t, XEff.created t ∈ (transferCreate o fs e).effs ∨ XEff.hashData t ∈ (transferCreate o fs e).effs → t = e.c.hash.getD 0) := by
  obtain ⟨-, hdfx, -⟩ := downloadChanged_any o fs e hw hd
  have htrue := downloadChanged_true o fs e hw hd
  -- the download itself hands nothing to the provider of the synced side
  have hnd : ∀ t, XEff.sent t ∉ (downloadChanged o fs e).effs ∧ XEff.created t ∉ (downloadChanged o fs e).effs ∧
      XEff.hashData t ∉ (downloadChanged o fs e).effs := by
    intro t; rcases hdfx with h | h <;> simp [h]
  constructor
  · intro t ht
    obtain ⟨-, -, -, -, hfx⟩ | ⟨hdl, -, -, -, hfx⟩ := transferUpload_cases o fs e
    · rw [hfx] at ht; exact absurd ht (hnd t).1
    · rw [hfx, List.mem_append] at ht
      obtain ⟨_, l, hent, hfind, _⟩ := htrue hdl
      exact ht.elim (fun h => absurd h (hnd t).1) ((uploadSynced_bytes o (downloadChanged o fs e).fs (downloadChanged o fs e).ent l _ (by rw [hent]) hfind) t)
  · intro t ht
    unfold transferCreate at ht
    dsimp only at ht
    split at ht
    · rename_i hout
      obtain ⟨_, l, hent, hfind, _⟩ := htrue hout
      simp only [List.mem_append] at ht
      have hb := (createSynced_bytes o (downloadChanged o fs e).fs (downloadChanged o fs e).ent l _ (by rw [hent]) hfind) t
      rcases ht with (h | h) | (h | h)
      · exact absurd h (hnd t).2.1
      · exact hb (.inl h)
      · exact absurd h (hnd t).2.2
      · exact hb (.inr h)
    all_goals exact ht.elim (fun h => absurd h (hnd t).2.1) (fun h => absurd h (hnd t).2.2)

/-- TEMP REUSE ONLY FOR THE SAME HASH (manager.py 504-506, 520-522).  If `download_changed` of a non-folder returns True without
    calling the provider, the file it reuses is named by the md5 of the side's CURRENT path and hash. -/
theorem temp_reuse_only_same_hash (o : XOracle) (fs : FS) (e : XEntry) (hw : fs.wf) (hd : e.c.otype ≠ .dir)
    (h : (downloadChanged o fs e).out = .bool true) (hn : XEff.download ∉ (downloadChanged o fs e).effs) :
    ∃ l p hh, (downloadChanged o fs e).ent.c.temp = some l ∧ e.c.path = some p ∧ e.c.hash = some hh ∧ l.name = .keyed p hh ∧
      (downloadChanged o fs e).fs.find l false = some hh := by
  obtain ⟨_, l, hent, hfind, hfx⟩ := downloadChanged_true o fs e hw hd h
  rcases hfx with hfx | ⟨_, p, hh, hp, hhh, hname⟩
  · rw [hfx] at hn; simp at hn
  · exact ⟨l, p, hh, by rw [hent], hp, hhh, hname, by rw [hfind, hhh]; rfl⟩

/-- RECORDED SYNC HASH MATCHES THE UPLOADED BYTES (manager.py 656-661 after 1601-1604).  After a successful upload the changed side's
    `sync_hash` is its current hash, and the bytes the provider received were downloaded for exactly that hash. -/
theorem recorded_sync_hash_matches_uploaded_bytes (o : XOracle) (fs : FS) (e : XEntry) (hw : fs.wf) (hd : e.c.otype ≠ .dir)
    (hup : o.up = .ok) (hf : (transferUpload o fs e).out = .code .finished) :
    (transferUpload o fs e).ent.c.syncHash = e.c.hash ∧ (transferUpload o fs e).ent.c.syncPath = e.c.path ∧
    XEff.sent (e.c.hash.getD 0) ∈ (transferUpload o fs e).effs := by
  obtain ⟨-, hnf, -⟩ | ⟨hdl, hfin, hent', -, hfx'⟩ := transferUpload_cases o fs e
  · exact absurd hf hnf
  · obtain ⟨_, l, hent, hfind, _⟩ := downloadChanged_true o fs e hw hd hdl
    obtain ⟨hfx, hrec⟩ :=
      uploadSynced_ok o (downloadChanged o fs e).fs (downloadChanged o fs e).ent l _ (by rw [hent]) hfind hup
    have hu := hfin hf
    rw [hent', hfx', hfx]
    exact ⟨(hrec hu).1.trans (by rw [hent]), (hrec hu).2.trans (by rw [hent]), by simp⟩

/-- FAILED UPLOAD KEEPS THE ENTRY PENDING (manager.py 666-693).  Whatever goes wrong in `upload_synced` — the temp file vanished,
    FileNotFoundError, CloudFileNotFoundError, CloudFileExistsError, CloudFileNameError, or an exception that escapes — the changed
    side is left exactly as it was, the temp directory is untouched, and the call returns False or raises (so `handle_hash_diff`
    punts / `_sync_one_entry` punts), except that a name error makes the entry IRRELEVANT and an upload onto a folder hands over
    to the split-conflict handling. -/
theorem failed_upload_keeps_entry_pending (o : XOracle) (fs : FS) (e : XEntry) (h : o.up ≠ .ok) :
    (uploadSynced o fs e).ent.c = e.c ∧ (uploadSynced o fs e).fs = fs ∧
    ((uploadSynced o fs e).out = .bool true →
      (o.up = .nameErr ∧ (uploadSynced o fs e).ent.ign = .irrelevant) ∨
      (o.up = .exists_ ∧ o.splitRet = true ∧ XEff.split ∈ (uploadSynced o fs e).effs)) := by
  unfold uploadSynced
  cases ht : e.c.temp with
  | none => simp
  | some l =>
    simp only
    cases hf : fs.find l false with
    | none => simp
    | some b =>
      simp only
      cases hu : o.up <;> simp only
      · exact absurd hu h
      all_goals (try split_ifs)
      all_goals simp

/-- … and at the level of the transfer: unless the upload succeeded, the step is not FINISHED with the change flag or `sync_hash`
    of the changed side touched -/
theorem failed_transfer_keeps_flag (o : XOracle) (fs : FS) (e : XEntry) (hw : fs.wf) (hd : e.c.otype ≠ .dir) (h : o.up ≠ .ok) :
    (transferUpload o fs e).ent.c.changed = e.c.changed ∧ (transferUpload o fs e).ent.c.syncHash = e.c.syncHash ∧
    (transferUpload o fs e).ent.c.hash = e.c.hash := by
  obtain ⟨-, -, -, hhash, hsync, hchanged, -⟩ := downloadChanged_any o fs e hw hd
  obtain ⟨-, -, hent, -⟩ | ⟨-, -, hent, -⟩ := transferUpload_cases o fs e
  · rw [hent]; exact ⟨hchanged, hsync, hhash⟩
  · rw [hent, (failed_upload_keeps_entry_pending o _ _ h).1]; exact ⟨hchanged, hsync, hhash⟩

/-- RETRY AFTER A RE-EDIT UPLOADS THE NEW BYTES (sequence level).  First attempt for hash h1 — whatever happens to it (downloaded and
    the upload failed, or punted earlier) — then the user edits the file again (the side's hash becomes h2) and the engine retries:
    every byte string the retry hands to the provider was downloaded for h2.  The temp file left by the first attempt is never sent
    (its md5 name no longer matches, `make_temp_file` unlinks it and picks the name for h2). -/
theorem retry_after_reedit_uploads_new_bytes (o1 o2 : XOracle) (fs : FS) (e : XEntry) (h2 : Tag) (hw : fs.wf)
    (hd : e.c.otype ≠ .dir) :
    ∀ t, XEff.sent t ∈ (retryAfterReedit o1 o2 fs e h2).2.effs → t = h2 := by
  obtain ⟨w1, ot1⟩ := transferUpload_wf o1 fs e hw hd
  intro t ht
  unfold retryAfterReedit at ht
  simp only at ht
  have := (uploaded_bytes_have_current_hash o2 (transferUpload o1 fs e).fs
    { (transferUpload o1 fs e).ent with c := { (transferUpload o1 fs e).ent.c.setHash (some h2) with changed := true } } w1
    (by simp only [XSide.setHash]; split_ifs <;> simpa [ot1] using hd)).1 t ht
  simpa [XSide.setHash] using this

/-- after a successful `_create_synced` — a create, or the adoption of an existing object whose hash equals the hash of our bytes
    (manager.py 706-715) — the changed side's `sync_hash`/`sync_path` are its current hash/path, it HAS a hash, and the synced side
    has an id -/
theorem recorded_sync_hash_after_create (o : XOracle) (fs : FS) (e e' : XEntry) (fx : List XEff)
    (h : createInner o fs e = .done fx e') :
    e'.c.syncHash = e.c.hash ∧ e'.c.syncPath = e.c.path ∧ e.c.hash.isSome = true ∧ e'.s.oid = true := by
  have key : ∀ (ih ip : Option Tag) (fx0 : List XEff), recordCreate o e ih ip fx0 = .done fx e' →
      e'.c.syncHash = e.c.hash ∧ e'.c.syncPath = e.c.path ∧ e.c.hash.isSome = true ∧ e'.s.oid = true := by
    intro ih ip fx0 hr
    unfold recordCreate at hr
    cases ih with
    | none => cases hr
    | some hv =>
      simp only at hr
      split_ifs at hr with hn
      generalize hu : updateSynced _ _ _ _ = u at hr
      cases u with
      | error x => cases hr
      | ok e2 =>
        cases hr
        have hc := updateSynced_c _ _ _ _ _ hu
        exact ⟨by rw [hc], by rw [hc], by cases hq : e.c.hash <;> simp_all, updateSynced_oid _ _ _ _ hu⟩
  revert h
  fun_cases createInner o fs e <;> intro h
  case case3 | case6 => exact key _ _ _ h   -- the create succeeded; "use existing"
  all_goals cases h

/-- `finished` → `clean_temps` (manager.py 478-491): afterwards neither side's temp file exists; the directory stays well-formed -/
theorem finished_cleans_temps (fs : FS) (e : XEntry) (hw : fs.wf) :
    (cleanTemps fs e).wf ∧ (∀ l, e.c.temp = some l ∨ e.s.temp = some l → (cleanTemps fs e).find l false = none) := by
  refine ⟨wf_cleanTemp _ _ (wf_cleanTemp _ _ hw), ?_⟩
  intro l hl
  have gone : ∀ (g : FS) (l : Loc), (g.unlink l false).find l false = none := by
    intro g l
    unfold FS.find
    split
    · simp only [FS.unlink, File.is, Option.map_eq_none_iff, List.find?_eq_none]
      intro f hf
      have := (List.mem_filter.mp hf).2
      cases hq : (f.loc == l && f.part == false) <;> simp_all
    · rfl
  have stays : ∀ (g : FS) (l l' : Loc), g.find l false = none → (g.unlink l' false).find l false = none := by
    intro g l l' hg
    unfold FS.find at hg ⊢
    rw [unlink_dirExists]
    split at hg
    · simp only [Option.map_eq_none_iff, List.find?_eq_none] at hg ⊢
      rename_i hdx
      simp only [hdx, if_true, Option.map_eq_none_iff, List.find?_eq_none]
      intro f hf
      exact hg f (List.mem_filter.mp hf).1
    · rename_i hdx; simp [hdx]
  unfold cleanTemps cleanTemp
  rcases hl with hl | hl
  · rw [hl]
    cases e.s.temp with
    | none => exact gone fs l
    | some l' => exact stays _ _ _ (gone fs l)
  · rw [hl]
    cases e.c.temp <;> exact gone _ l

/-- `make_temp_file` is stable for a side WITH a hash: called again on its own result it keeps the name (manager.py 505-506).
    (Without a hash every call unlinks the previous temp file and draws a new random name.) -/
theorem make_temp_file_stable (fs fs' : FS) (c c' : XSide) (hw : fs.wf) (hd : c.otype ≠ .dir) (hh : c.hash.isSome = true)
    (h : makeTempFile fs c = .ok (fs', c')) : makeTempFile fs' c' = .ok (fs', c') := by
  obtain ⟨_, l, hc, hde, hname⟩ := makeTempFile_spec fs fs' c c' hw hd h
  rcases hname with ⟨p, hv, hp, hhh, hn⟩ | ⟨hnone, _⟩
  · subst hc
    unfold makeTempFile
    have hd' : (c.otype == OT.dir) = false := by simpa using hd
    simp [hd', hp, hhh, hn, hde]
  · rw [hnone] at hh; cases hh

/-! satisfiability: a well-formed directory with a stale temp of an older hash, a file side with a newer hash -/
example : (⟨true, true, [⟨⟨.cur, .keyed 1 1⟩, false, 1⟩], 0⟩ : FS).wf := by
  intro f hf
  simp at hf
  subst hf
  intro _
  rfl

end Xfer
end CS.Engine

namespace CS.Engine.More
open CS.Hints (Ex OT Ign)
open CS.Engine
open CS.Path (Str Cfg)

/-! ## 14. the conflict path, conflict names, the file-not-found handler, disjoint creates, folder/file conflicts -/

/-- CONFLICT NAME FRESH, and the loop of `conflict_rename` (manager.py 1403-1413) TERMINATES: against any finite set of taken
    names, one of the first `taken.length + 1` candidates `stem.conflicted[N]ext` is free (the extension is everything from the
    FIRST dot of the base name); the name produced is the first free one: not taken, stem and extension kept, ".conflicted" between. -/
theorem conflict_name_fresh (stem ext : Str) (taken : List Str) :
    ∃ n k, conflictName stem ext taken = some (n, k) ∧ n ∉ taken ∧ 1 ≤ k ∧ k ≤ taken.length + 1 ∧
      n = conflictBase stem ext k ∧ stem <+: n ∧ conflictedTag <:+: n ∧ ext <:+ n ∧
      ∀ j, 1 ≤ j → j < k → conflictBase stem ext j ∈ taken := by
  -- pigeonhole: not all candidates can be taken
  have hex : ∃ k ∈ List.range (taken.length + 1), (!taken.contains (conflictBase stem ext (k + 1))) = true := by
    apply Classical.byContradiction
    intro hno
    have hsub : candidates stem ext (taken.length + 1) ⊆ taken := by
      intro x hx
      simp only [candidates, List.mem_map] at hx
      obtain ⟨k, hk, rfl⟩ := hx
      apply Classical.byContradiction
      intro hnot
      exact hno ⟨k, hk, by simpa using hnot⟩
    have := (candidates_nodup stem ext (taken.length + 1)).length_le_of_subset hsub
    simp [candidates] at this
    omega
  cases hf : (List.range (taken.length + 1)).find? (fun k => !taken.contains (conflictBase stem ext (k + 1))) with
  | none =>
    rw [List.find?_eq_none] at hf
    obtain ⟨k, hk, hp⟩ := hex
    exact absurd hp (hf k hk)
  | some k =>
    obtain ⟨hp, hm, hbefore⟩ := List.find?_range_eq_some.mp hf
    have hname : conflictName stem ext taken = some (conflictBase stem ext (k + 1), k + 1) := by
      unfold conflictName; rw [hf]; rfl
    have hnot : conflictBase stem ext (k + 1) ∉ taken := by simpa using hp
    have hle : k + 1 ≤ taken.length + 1 := by have := List.mem_range.mp hm; omega
    refine ⟨conflictBase stem ext (k + 1), k + 1, hname, hnot, by omega, hle, rfl, ?_, ?_, ?_, ?_⟩
    · exact ⟨conflictedTag ++ (if k + 1 ≤ 1 then [] else numStr (k + 1)) ++ ext, by simp [conflictBase]⟩
    · exact ⟨stem, (if k + 1 ≤ 1 then [] else numStr (k + 1)) ++ ext, by simp [conflictBase]⟩
    · exact ⟨stem ++ conflictedTag ++ (if k + 1 ≤ 1 then [] else numStr (k + 1)), by simp [conflictBase]⟩
    · intro j hj1 hjk
      have := hbefore (j - 1) (by omega)
      have hj : j - 1 + 1 = j := by omega
      rw [hj] at this
      simpa using this

/-- `conflict_rename` never gets stuck: a path with a base name whose object exists is renamed, to a path whose name is fresh -/
theorem conflict_rename_total (c : Cfg) (path : Str) (present : Bool) (taken : List Str) :
    conflictRename c path present taken ≠ .stuck := by
  unfold conflictRename
  simp only
  split_ifs
  · simp
  · simp
  · obtain ⟨n, k, h, _⟩ := conflict_name_fresh (splitExt (CS.Path.split c path).2).1 (splitExt (CS.Path.split c path).2).2 taken
    simp [h]

/-- `handle_cloud_file_not_found_error` only ever punts, or gives up (priority > 5), or trips its own assertion -/
theorem fnf_out (e : Entry) (c : Sd) (parent : Option Entry) (pt ps : Bool) :
    (fnfHandler e c parent pt ps).out = .ret .punt ∨ (fnfHandler e c parent pt ps).out = .raised .tooMany ∨
    (fnfHandler e c parent pt ps).out = .raised .assertion := by
  fun_cases fnfHandler e c parent pt ps <;> simp

/-- FNF GIVES UP AFTER BOUNDED PUNTS (manager.py 785-786, 447-455).  (1) once the priority exceeds 5 (`prio` is in tenths: 50) the handler raises
    CloudTooManyRetriesError whatever the parent looks like; (2) six punts take any non-negative priority above 5; (3) `sync`
    turns that exception into FINISHED: the side is finished and progress is reported. -/
theorem fnf_gives_up_after_bounded_punts :
    (∀ (e : Entry) (c : Sd) (parent : Option Entry) (pt ps : Bool), e.prio > 50 →
        (fnfHandler e c parent pt ps).out = .raised .tooMany ∧ (fnfHandler e c parent pt ps).parent = parent) ∧
    (∀ e : Entry, 0 ≤ e.prio → e.punt.punt.punt.punt.punt.punt.prio > 50) ∧
    (∀ (o : Oracle) (e : Entry) (side : Sd) (fx : List Eff), (e.get side).corruptGone = false →
        (embrace o e side).out = .raised .tooMany →
        dispatch o e side fx = .brk true (finished (embrace o e side).ent side) (fx ++ (embrace o e side).effs ++ [.fin side])) := by
  refine ⟨?_, ?_, ?_⟩
  · intro e c parent pt ps h
    simp [fnfHandler, h]
  · intro e h
    simp only [punt_prio]
    omega
  · intro o e side fx hcg hout
    simp [dispatch, hcg, hout]

/-- when the handler re-flags the parent ("updated entry as missing", 825-830) and returns, the parent IS a pending creation that
    needs sync, its peer is MISSING (or CORRUPT), and its own sync_path is cleared -/
theorem fnf_parent_becomes_creation (e : Entry) (c : Sd) (pe pe' : Entry) (pt : Bool)
    (hch : ((pe.get c).changed && isCreation pe c) = false) (hp : 20 < e.prio) (hp5 : e.prio ≤ 50)
    (hex : (pe.get c).ex = .present) (hr : fnfHandler e c (some pe) pt false = ⟨.ret .punt, [.infoParentOid], some pe'⟩) :
    isCreation pe' c = true ∧ (pe'.get c).needsSync = true ∧ (pe'.get c).p.sync = false := by
  revert hr
  fun_cases fnfHandler e c (some pe) pt false <;> intro hr
  all_goals try (cases hr; done)
  · contradiction
  · rename_i h
    injection hr with _ _ hpe
    injection hpe with hpe
    subst hpe
    simp only [Bool.or_eq_true, Bool.not_eq_true', not_or, Bool.not_eq_false] at h
    exact ⟨h.1, h.2, by simp +zetaDelta [setChanged_get_self]⟩

/-- DISJOINT CREATE NEVER OVERWRITES (manager.py 1140-1180 with 1226-1231).
    (1) `check_disjoint_create` answers False — "go on and create" — only when no other entry at the translated path exists on the
        synced side (or the changed side is not a file), or the provider has nothing at that path.
    (2) the synced side of another entry is adopted (`sync[synced] = e[synced]`) only if that entry exists, holds exactly the object at
        the path, its hash is synced and it has no pending change: an unsynced peer object is never taken over (and so never uploaded
        over).
    (3) when it answers True, `handle_path_change_or_creation` punts without any provider write. -/
theorem disjoint_create_never_overwrites (cO sO : OT) (peers : List Peer) (info : Bool) :
    ((checkDisjoint cO sO peers info).1 = false →
        info = false ∨ cO ≠ .file ∨ ∀ p ∈ peers, p.ex ≠ .present) ∧
    (∀ i, DjEff.merge i ∈ (checkDisjoint cO sO peers info).2 →
        ∃ p, peers[i]? = some p ∧ p.ex = .present ∧ p.oidMatch = true ∧ p.hashSynced = true ∧ p.changed = false) ∧
    (∀ (o : Oracle) (e : Entry) (c : Sd), isCreation e c = true →
        (hpccRest { o with disjoint := true } e c).out = .ret .punt ∧
        (hpccRest { o with disjoint := true } e c).effs.all (fun f => !f.isWrite) = true) := by
  refine ⟨?_, ?_, ?_⟩
  case refine_3 =>
    intro o e c hcr
    unfold hpccRest
    simp only [hcr, Bool.true_and]
    split_ifs <;> simp [Eff.isWrite]
  all_goals rcases untrashed_cases cO peers with ⟨hnone, hwhy, hnm⟩ | ⟨live, hu, hne, hlive⟩
  · exact fun _ => .inr hwhy
  · rcases checkDisjoint_live cO sO peers info live hu hne with ⟨hi, -⟩ | ⟨-, h1, -⟩
    · exact fun _ => .inl hi
    · exact fun h => by rw [h1] at h; cases h
  · intro i hm
    unfold checkDisjoint at hm
    rcases hu : untrashedPeers cO peers with ⟨lv, fx⟩
    rw [hu] at hnone hnm hm
    cases hnone
    exact absurd hm (hnm i)
  · intro i hm
    rcases checkDisjoint_live cO sO peers info live hu hne with ⟨-, h⟩ | ⟨-, -, h2⟩
    · simp [h] at hm
    · rcases djLoop_merge live none sO _ i (h2 i hm) with h' | ⟨p, hp, hq⟩
      · simp at h'
      · exact ⟨p, mem_enum peers i p (hlive (i, p) hp).1, (hlive (i, p) hp).2, hq⟩

/-- `get_folder_file_conflict` returns only a LIVE NON-FOLDER the provider still knows, and marks MISSING only entries whose object
    the provider no longer knows -/
theorem folder_file_conflict_is_live_file (peers : List FfPeer) :
    (∀ i, (folderFileConflict peers).1 = some i →
        ∃ p, peers[i]? = some p ∧ p.ex = .present ∧ p.otype ≠ .dir ∧ p.infoThere = true) ∧
    (∀ i ∈ (folderFileConflict peers).2, ∃ p, peers[i]? = some p ∧ p.ex = .present ∧ p.otype ≠ .dir ∧ p.infoThere = false) := by
  unfold folderFileConflict
  simp only [List.filter_filter, ← List.head?_map]
  constructor
  · intro i h
    obtain ⟨p, hp, hq⟩ := mem_enum_filter _ _ i (List.mem_of_mem_head? h)
    simp only [Bool.and_eq_true, beq_iff_eq, bne_iff_ne] at hq
    exact ⟨p, hp, hq.2.1, hq.2.2, hq.1⟩
  · intro i h
    obtain ⟨p, hp, hq⟩ := mem_enum_filter _ _ i h
    simp only [Bool.and_eq_true, beq_iff_eq, bne_iff_ne, Bool.not_eq_true'] at hq
    exact ⟨p, hp, hq.2.1, hq.2.2, hq.1⟩

/-- `mkdir_synced` punts exactly when a live other entry sits at the path and the entry was not punted before (priority ≤ 0);
    it discards only entries whose side is a FOLDER, and no entry twice -/
theorem mkdir_head_law (others : List MkOther) (prio : Int) :
    ((mkdirHead others prio).2.1 = .punt ↔
      (others.any (fun o => !(o.cEx == .trashed || o.cEx == .missing) && !(o.sEx == .trashed || o.sEx == .missing)) = true ∧ prio ≤ 0)) ∧
    (∀ i ∈ (mkdirHead others prio).1, ∃ o, others[i]? = some o ∧ o.cOtype = .dir) ∧
    (∀ i ∈ (mkdirHead others prio).2.2, i ∉ (mkdirHead others prio).1 ∧ ∃ o, others[i]? = some o ∧ o.sOtype = .dir) := by
  unfold mkdirHead
  simp only
  have hd1 : ∀ i ∈ ((enum others).filter (fun io => io.2.cOtype == .dir)).map (·.1), ∃ o, others[i]? = some o ∧ o.cOtype = .dir := by
    intro i h
    obtain ⟨o, ho, hq⟩ := mem_enum_filter _ _ i h
    exact ⟨o, ho, by simpa using hq⟩
  split_ifs with h
  · refine ⟨⟨fun _ => ?_, fun _ => rfl⟩, hd1, by simp⟩
    simpa using h
  · refine ⟨⟨fun hh => (by cases hh), fun hh => absurd (by simpa using hh) h⟩, hd1, ?_⟩
    intro i hi
    obtain ⟨o, ho, hq⟩ := mem_enum_filter _ _ i hi
    simp only [Bool.and_eq_true, beq_iff_eq, bne_iff_ne] at hq
    refine ⟨fun hmem => ?_, o, ho, hq.1⟩
    obtain ⟨o', ho', hod⟩ := hd1 _ hmem
    rw [ho] at ho'
    cases ho'
    exact hq.2 hod

end CS.Engine.More

namespace CS.Engine.Conflict
open CS.Hints (Ex OT Ign)
open CS.Engine

/-- CONFLICT RESTORES ON A CLOUD EXCEPTION (manager.py 1626-1632).  When a CloudException (temporary or not) escapes from the
    conflict handling of a hash-conflict entry whose REMOTE side has an id, the deferring entry gets its six saved fields back on
    both sides — id, path, sync_path, hash, sync_hash (as relations) and exists — and the replacement entry created by `split` is
    DISCARDED and no longer holds the LOCAL id.  (The change flag of LOCAL is NOT restored; REMOTE stays flagged, so the entry
    remains in the change set and the conflict is offered again.) -/
theorem conflict_restores_on_cloud_exception (o : COracle) (e : Entry) (x : Exc) (hc : hashConflict e = true)
    (hro : e.r.oid = true) (hout : (hashConflictHandler o e).out = .raised x) (hx : x ≠ .assertion) :
    (hashConflictHandler o e).ents.defer.l.oid = e.l.oid ∧ (hashConflictHandler o e).ents.defer.l.p = e.l.p ∧
    (hashConflictHandler o e).ents.defer.l.h = e.l.h ∧ (hashConflictHandler o e).ents.defer.l.ex = e.l.ex ∧
    (hashConflictHandler o e).ents.defer.r.oid = e.r.oid ∧ (hashConflictHandler o e).ents.defer.r.p = e.r.p ∧
    (hashConflictHandler o e).ents.defer.r.h = e.r.h ∧ (hashConflictHandler o e).ents.defer.r.ex = e.r.ex ∧
    (hashConflictHandler o e).ents.replace.ign = .discarded ∧ (hashConflictHandler o e).ents.replace.l.oid = false ∧
    (hashConflictHandler o e).ents.defer.r.changed = true := by
  have hlh : e.l.h.cur = true := by
    unfold hashConflict at hc; split_ifs at hc with h1; simp only [Bool.and_eq_true] at h1; exact h1.1.1.1
  unfold hashConflictHandler splitFull at hout ⊢
  cases hs : splitEntry e with
  | error y =>
    simp only [hs] at hout
    injection hout with hout
    have : y = .assertion := by
      unfold splitEntry at hs; split_ifs at hs; injection hs with hs; exact hs.symm
    exact absurd (hout ▸ this) hx
  | ok d =>
    obtain ⟨hlo, hdr, hdi⟩ := splitEntry_ok e d hs
    have hnc := splitEntry_local_not_corrupt e d hs hlh
    simp only [hs] at hout ⊢
    generalize ht : (TwoEntries.mk d (Entry.mk { e.l with changed := true, p := e.l.p.clearSync } (blankSide e.l.otype) true Ign.no 0)) = t at hout ⊢
    have htd : t.defer = d := by rw [← ht]
    cases hsc : (splitConflict o t).out with
    | ret b => simp [hsc] at hout
    | raised y =>
      have hents := splitConflict_raised o t y hsc
      simp only [hsc, hents] at hout ⊢
      have := exceptBranch_restores e t y (.split :: (splitConflict o t).effs) hro (by rw [htd]; exact hnc)
        (by rw [htd, hdr]) (by rw [htd, hdr])
      exact this.2

open CS.Resolver

/-- a content is PRESERVED by a visit: it is at the path on both sides, or parked under a '.conflicted' name on some side, or the
    conflict is still open and the content is still at the path of a side -/
def preserved {α : Type} (st : St α) (c : α) : Prop :=
  (st.pair.loc.main = some c ∧ st.pair.rem.main = some c) ∨ c ∈ st.pair.loc.conf ∨ c ∈ st.pair.rem.conf ∨
  (st.«open».isSome = true ∧ (st.pair.loc.main = some c ∨ st.pair.rem.main = some c))

/-- the application's answer, after validation, is an explicit "do not keep the other version" -/
def explicitDiscard {α : Type} (b : Behaviour α) : Prop := ∃ fh, (safeCall Side.rem OType.file OType.file b).1 = .pair fh false

/-- CONFLICT NEVER LOSES A SIDE (manager.py 377-380 → 1614-1658 → 958-1027, content level = Model/Resolver.lean).  One visit of a
    file/file hash conflict by `sync`: for EVERY behaviour of the application's resolver — a pick with keep, merged data with keep,
    None, garbage, an exception, a CloudTemporaryError — except an explicit answer with keep = False, both the LOCAL and the
    REMOTE content are preserved: at the path on both sides, under a '.conflicted' sibling, or (CloudTemporaryError / merged+keep:
    the conflict stays open) still where they were. -/
theorem conflict_never_loses_a_side {α : Type} [DecidableEq α] (b : Behaviour α) (cl cr : α) (h : ¬ explicitDiscard b) :
    preserved (visit b cl cr) cl ∧ preserved (visit b cl cr) cr := by
  unfold visit episode initSt
  simp only
  by_cases heq : cl = cr
  · subst heq
    simp [preserved]
  · simp only [heq, if_false, fileLikes, sideStates, if_true]
    cases hsc : (safeCall Side.rem OType.file OType.file b).1 with
    | reraised => simp [preserved]
    | pair fh keep =>
      cases keep with
      | false => exact absurd ⟨fh, hsc⟩ h
      | true =>
        cases fh with
        | handle i =>
          cases i <;>
            simp [preserved, resolveStep, replaceLoser, settle, Pair.get, Pair.set, Side.other]
        | data d =>
          simp [preserved, resolveStep, replaceLoser, Pair.get, Pair.set, Side.other]

/-- the same-hash shortcut (1644-1652): the deferring side's bytes hash to the replaced side's hash — the resolver is not called,
    the replacement entry is discarded and both sides of the surviving entry are recorded as synced (hash and path) -/
theorem same_hash_conflict_merges_without_resolver (t : TwoEntries) (rc : RcAns)
    (hf : t.defer.r.otype = .file) :
    let r := splitConflict ⟨.ok, false, true, rc⟩ t
    r.out = .ret true ∧ CEff.resolve ∉ r.effs ∧ r.ents.replace.ign = .discarded ∧
    r.ents.defer.l.h.same = true ∧ r.ents.defer.l.p.same = true ∧ r.ents.defer.r.h.same = true ∧ r.ents.defer.r.p.same = true := by
  have hp0 : ∀ x : Entry, (if t.replace.l.p.cur = true then x.setPrio 0 else x).l = x.l ∧ (if t.replace.l.p.cur = true then x.setPrio 0 else x).r = x.r := by
    intro x; split_ifs
    · rw [setPrio_of_nonpos x 0 (Int.le_refl 0)]; exact ⟨rfl, rfl⟩
    · exact ⟨rfl, rfl⟩
  simp only [splitConflict, hf, beq_self_eq_true, if_true, Bool.false_eq_true, if_false, mergeSame]
  refine ⟨trivial, by simp, setIgn_ign _ _, ?_, ?_, ?_, ?_⟩
  all_goals simp [hp0]

/-- `sync` on a hash conflict: it reports progress (True) whatever `handle_hash_conflict` returns, or the exception leaves it -/
theorem hash_conflict_sync_total (o : COracle) (e : Entry) (h : hashConflict e = true) :
    ∃ r, syncClosed o e = some r ∧ (r.out = .ret true ∨ ∃ x, r.out = .raised x) ∧ CEff.split ∈ r.effs := by
  unfold syncClosed
  simp only [h, if_true]
  refine ⟨_, rfl, ?_, ?_⟩
  · cases hh : (hashConflictHandler o e).out with
    | ret b => left; rfl
    | raised x => right; exact ⟨x, by simp [hh]⟩
  · have hex : ∀ t x fx, CEff.split ∈ fx → CEff.split ∈ (exceptBranch e t x fx).effs := by
      intro t x fx hfx; unfold exceptBranch; simp only; split_ifs <;> exact hfx
    have : CEff.split ∈ (hashConflictHandler o e).effs := by
      unfold hashConflictHandler
      cases splitFull e with
      | error y => simp
      | ok t =>
        simp only
        cases (splitConflict o t).out with
        | ret b => simp
        | raised y => exact hex _ _ _ (by simp)
    cases hh : (hashConflictHandler o e).out <;> simpa [hh] using this

end CS.Engine.Conflict

/-! satisfiability: a hash conflict whose handling lets a CloudTemporaryError escape -/
example : CS.Engine.hashConflict { l := { CS.Engine.wSynced with h := .ne }, r := { CS.Engine.wSynced with h := .ne }, lLeR := true, ign := .no, prio := 0 } = true ∧
    (CS.Engine.Conflict.hashConflictHandler ⟨.temp, false, false, .ok⟩
      { l := { CS.Engine.wSynced with h := .ne }, r := { CS.Engine.wSynced with h := .ne }, lLeR := true, ign := .no, prio := 0 }).out = .raised .temp := by
  decide

namespace CS.Engine.Refresh
open CS.Engine CS.Hints

/-! ## 15. refresh scopes: which entry is re-read on which sides before the engine decides -/

/-- SCOPE LAW of `SyncEntry.get_latest(force, sides=(a, b))`: a side is re-read exactly when `force` or the newest change stamp OF
    THE LISTED SIDES is newer than the side's `_last_gotten` mark -/
theorem get_latest_scope_law (w : World) (r : RE) (a b : Sd) (hab : a ≠ b) (force : Bool) (t : Sd) :
    t ∈ (getLatest w r [a, b] force).2 ↔ fires force (max (r.ch a) (r.ch b)) (r.lg t) := by
  have ht : t = a ∨ t = b := by cases t <;> cases a <;> cases b <;> simp_all
  rw [getLatest_reread w r [a, b] force (by simp [hab]), List.mem_filter]
  simp [ht, maxStamp]

/-- the same for a one-sided call (`sides=(a,)`): only `a` can be re-read, and only ITS stamp counts -/
theorem get_latest_one_side_law (w : World) (r : RE) (a : Sd) (force : Bool) (t : Sd) :
    t ∈ (getLatest w r [a] force).2 ↔ t = a ∧ fires force (r.ch a) (r.lg a) := by
  rw [getLatest_reread w r [a] force (by simp), List.mem_filter, maxStamp_one, List.mem_singleton]
  exact ⟨fun ⟨h1, h2⟩ => ⟨h1, by simpa [h1] using h2⟩, fun ⟨h1, h2⟩ => ⟨h1, by simpa [h1] using h2⟩⟩

/-- after a two-sided `get_latest`, each side's mark is at least the newest stamp the entry carried: both sides were read at or after
    the latest recorded change -/
theorem full_refresh_marks_cover_stamps (w : World) (r : RE) (force : Bool) (t : Sd) :
    max r.chL r.chR ≤ (getLatest w r [.loc, .rem] force).1.lg t := by
  have ht : t ∈ [Sd.loc, Sd.rem] := by cases t <;> simp
  rw [getLatest_marks w r _ force (by decide) t, maxStamp_full]
  simp only [ht, true_and]
  by_cases h : fires force (max r.chL r.chR) (r.lg t)
  · rw [if_pos h]; exact Nat.le_refl _
  · rw [if_neg h]
    unfold fires at h
    omega

/-- a call restricted to a side WITHOUT a change stamp re-reads nothing, whatever the other side's stamp says (state.py 639: the
    maximum runs over the listed sides only).  This is why restricting the refresh at a destructive decision loses edits. -/
theorem restricted_scope_is_blind (w : World) (r : RE) (s : Sd) (h : r.ch s = 0) : getLatest w r [s] false = (r, []) := by
  unfold getLatest
  simp [h]

/-- the full scope re-reads a side as soon as EITHER stamp is newer than its mark -/
theorem full_scope_sees_other_stamp (w : World) (r : RE) (s : Sd) (h : r.lg s < r.ch s.other) :
    s ∈ (getLatest w r [.loc, .rem] false).2 := by
  rw [get_latest_scope_law w r .loc .rem (by decide)]
  right
  cases s <;> simp only [RE.ch, Sd.other] at h ⊢ <;> omega

/-- the call sites: every refresh before a decision on the whole entry is two-sided; the one-sided ones are the defer side of a split
    conflict and the path fill-in of `change` -/
theorem refresh_sites_scopes (site : Site) :
    site.scope.1 = [.loc, .rem] ∨ (∃ d, site = .splitDefer d ∧ site.scope = ([d], false)) ∨ (∃ d, site = .changeFill d ∧ site.scope = ([d], false)) := by
  cases site <;> simp [Site.scope]

theorem rename_conflict_refresh_is_full : Site.renameConflict.scope = ([.loc, .rem], false) := rfl

/-- the oracle of the decision table `handleRename` (Model/Engine.lean) that the refreshed entry at the target stands for -/
def tableOracle (o : Oracle) (wc : World) (cf : Option RE) : Oracle :=
  { o with rcEnt := cf.isSome,
           rcNeedsSync := match cf with
             | some k => !quiet (atSite wc k .renameConflict).1
             | none => false }

/-- REFINEMENT: `handleRenameR` (the entry at the target is a real entry, refreshed, then asked) takes the decisions of the
    table `handleRename` of Model/Engine.lean whose oracle bits say "there is such an entry" and "after the refresh a side of it needs sync" -/
theorem handle_rename_refines_table (o : Oracle) (w wc : World) (me : RE) (cf : Option RE) (c : Sd) :
    (handleRenameR o w wc me cf c).out = (handleRename (tableOracle o wc cf) me.e c).out ∧
    (handleRenameR o w wc me cf c).effs = (handleRename (tableOracle o wc cf) me.e c).effs := by
  have htr : (tableOracle o wc cf).tr c.other = o.tr c.other := by cases c <;> rfl
  have hren : (tableOracle o wc cf).ren = o.ren := rfl
  unfold handleRenameR handleRename
  dsimp only
  rw [htr, hren]
  by_cases h1 : (o.tr c.other).eqSync (me.e.get c.other).p = true
  · simp only [h1, ↓reduceIte, and_self]
  simp only [h1, ↓reduceIte, Bool.false_eq_true]
  by_cases h2 : (!((me.e.get c.other).h.sync || (me.e.get c.other).otype == OT.dir)) = true
  · simp only [h2, ↓reduceIte, and_self]
  simp only [h2, ↓reduceIte, Bool.false_eq_true]
  by_cases h3 : (o.tr c.other).matchSync (me.e.get c.other).p = true
  · simp only [h3, ↓reduceIte, and_self]
  simp only [h3, ↓reduceIte, Bool.false_eq_true]
  cases hr : o.ren with
  | exists_ =>
    dsimp only
    by_cases h4 : me.e.prio ≤ 0
    · simp only [h4, ↓reduceIte, and_self]
    · simp only [h4, ↓reduceIte]
      cases cf with
      | none =>
        by_cases h5 : o.fixFnf = true <;> simp [tableOracle, renameFix, h5]
      | some k =>
        by_cases h5 : quiet (atSite wc k Site.renameConflict).1 = true
        · by_cases h6 : o.rcDelExists = true <;> by_cases h7 : o.fixFnf = true <;> simp [tableOracle, renameFix, h5, h6, h7]
        · by_cases h7 : o.fixFnf = true <;> simp [tableOracle, renameFix, h5, h7]
  | ok | fnf | nameErr | temp => exact ⟨rfl, rfl⟩

theorem handleRename_deleteOther (o : Oracle) (e : Entry) (c s : Sd) (h : Eff.deleteOther s ∈ (handleRename o e c).effs) :
    o.ren = .exists_ ∧ 0 < e.prio ∧ o.rcEnt = true ∧ o.rcNeedsSync = false := by
  revert h
  fun_cases handleRename o e c <;> intro h
  case case8 | case9 => exact ⟨‹_›, by omega, by simp_all⟩   -- an entry at the target that needs no sync: its object is deleted
  case case10 => unfold renameFix at h; split at h <;> simp at h   -- otherwise only conflict renames follow
  all_goals simp at h

/-- SAFETY of the CloudFileExistsError branch of `handle_rename`: the provider delete of ANOTHER entry's object (manager.py 1317) is
    chosen only when there is an entry at the target, it was refreshed on BOTH sides (each mark at or after the newest stamp it
    carried) and, after that refresh, neither side needs sync — and only on a retry (priority > 0) -/
theorem rename_over_delete_only_after_full_refresh (o : Oracle) (w wc : World) (me : RE) (cf : Option RE) (c s : Sd)
    (h : Eff.deleteOther s ∈ (handleRenameR o w wc me cf c).effs) :
    ∃ k, cf = some k ∧ quiet (atSite wc k .renameConflict).1 = true ∧
      (∀ t, max k.chL k.chR ≤ (atSite wc k .renameConflict).1.lg t) ∧ 0 < me.e.prio ∧ o.ren = .exists_ := by
  rw [(handle_rename_refines_table o w wc me cf c).2] at h
  obtain ⟨h1, h2, h3, h4⟩ := handleRename_deleteOther _ _ _ _ h
  cases cf with
  | none => simp [tableOracle] at h3
  | some k =>
    refine ⟨k, rfl, ?_, fun t => full_refresh_marks_cover_stamps wc k false t, h2, h1⟩
    simpa [tableOracle] using h4

/-- … and what that refresh is worth (PARTIAL: the full statement "an object whose content the entry does not record is never deleted"
    is false on HEAD, see the two witnesses below).  If the entry at the target is not ignored, its synced side is identified and
    flag and stamp agree, SOME stamp of the entry is newer than that side's mark (an event was taken in since the side was last
    read), and the object now has another hash than the entry records, then the object is NOT deleted: the refresh re-reads the
    side, finds the hash, and the side needs sync. -/
theorem rename_over_spares_seen_edit_partial (o : Oracle) (w wc : World) (me k : RE) (c : Sd) (pa : Ans) (ot : OT)
    (hpre : Pre k c.other) (hp : wc.probe c.other = .present .newOther pa ot) (hf : k.lg c.other < max k.chL k.chR) :
    Eff.deleteOther c.other ∉ (handleRenameR o w wc me (some k) c).effs := by
  intro h
  obtain ⟨k', hk, hq, -⟩ := rename_over_delete_only_after_full_refresh o w wc me (some k) c c.other h
  cases hk
  have hd : Dirty ((atSite wc k .renameConflict).1.e.get c.other) :=
    getLatest_edit_dirty wc k [.loc, .rem] c.other pa ot (by decide) (by cases c <;> decide) hpre hp false
      (by rw [maxStamp_full]; exact .inr hf)
  have := hd.needsSync
  unfold quiet at hq
  cases c <;> simp only [Sd.other, Entry.get] at this <;> simp [this] at hq

/-- LOCAL renamed a -> b (retry, priority 1.0), REMOTE answers CloudFileExistsError -/
def wRenOracle : Oracle := { Oracle.quiet with trR := .gt, ren := .exists_ }

def wRenMe : RE :=
  { e := { l := { wSynced with p := .ne, changed := true }, r := wSynced, lLeR := false, ign := .no, prio := 10 },
    chL := 5, chR := 0, lgL := 5, lgR := 5, clock := 1000 }

/-- the REMOTE object of the entry at the target has been edited (another hash), LOCAL is as recorded -/
def wEdited : World := ⟨.present .same .same .file, .present .newOther .same .file, false, false⟩

/-- an entry in sync that carries NO change stamp: no event about the edit has been taken in -/
def wTargetUnstamped : RE :=
  { e := { l := wSynced, r := wSynced, lLeR := true, ign := .no, prio := 0 }, chL := 0, chR := 0, lgL := 0, lgR := 0, clock := 1000 }

/-- COUNTEREXAMPLE 1 to "an object whose content the entry does not record is never deleted": without any change stamp `get_latest`
    re-reads nothing (`max(changed) = 0 > _last_gotten` is false), the entry still looks in sync, and the edited object is deleted -/
theorem rename_over_deletes_unseen_edit_when_unstamped :
    (handleRenameR wRenOracle wEdited wEdited wRenMe (some wTargetUnstamped) .loc).effs = [.rename .rem, .deleteOther .rem] ∧
    (handleRenameR wRenOracle wEdited wEdited wRenMe (some wTargetUnstamped) .loc).calls = [⟨.conflict, .renameConflict, []⟩] := by
  decide

/-- an entry ignored as CONFLICT whose LOCAL side carries a stamp newer than both marks; REMOTE (in sync, unflagged) has been edited -/
def wTargetIgnored : RE :=
  { e := { l := { wSynced with changed := true }, r := wSynced, lLeR := false, ign := .conflict, prio := 0 },
    chL := 7, chR := 0, lgL := 3, lgR := 3, clock := 1000 }

/-- COUNTEREXAMPLE 2: both sides ARE re-read and the new hash is recorded, but `unconditionally_get_latest` stamps a side only when the
    entry is not ignored (state.py 1412): the unflagged side does not need sync, and the edited object is deleted -/
theorem rename_over_deletes_edit_of_ignored_entry :
    (handleRenameR wRenOracle wEdited wEdited wRenMe (some wTargetIgnored) .loc).effs = [.rename .rem, .deleteOther .rem] ∧
    (handleRenameR wRenOracle wEdited wEdited wRenMe (some wTargetIgnored) .loc).calls = [⟨.conflict, .renameConflict, [.loc, .rem]⟩] ∧
    ((handleRenameR wRenOracle wEdited wEdited wRenMe (some wTargetIgnored) .loc).conflict.map (fun k => k.e.r.h)) = some .ne := by
  decide

/-- the entry of the OLD b after `delete b; rename a -> b` on a path-id side: LOCAL is a flagged tombstone whose id went to the renamed
    file, REMOTE is in sync and unflagged; the marks are older than LOCAL's stamp -/
def wTargetRenamedOver : RE :=
  { e := { l := { Side.blank with ex := .trashed, changed := true }, r := wSynced, lLeR := false, ign := .no, prio := 0 },
    chL := 5, chR := 0, lgL := 3, lgR := 3, clock := 1000 }

/-- what `conflict.get_latest(sides=(synced,))` would do: restricted to the unstamped synced side the
    refresh is blind and the entry looks in sync, the two-sided refresh of HEAD re-reads REMOTE, finds the edit, and the entry needs sync -/
theorem restricted_conflict_refresh_is_blind :
    quiet (getLatest wEdited wTargetRenamedOver [.rem] false).1 = true ∧ (getLatest wEdited wTargetRenamedOver [.rem] false).2 = [] ∧
    quiet (getLatest wEdited wTargetRenamedOver [.loc, .rem] false).1 = false ∧
    (handleRenameR wRenOracle wEdited wEdited wRenMe (some wTargetRenamedOver) .loc).effs = [.rename .rem, .conflictRename .rem, .conflictRename .rem] := by
  decide

/-- `handle_split_conflict` refreshes the defer side only, and only by ITS stamp -/
theorem split_defer_reads_defer_side_only (w : World) (r : RE) (d : Sd) :
    (atSite w r (.splitDefer d)).2 = if fires false (r.ch d) (r.lg d) then [d] else [] := by
  show (getLatest w r [d] false).2 = _
  rw [getLatest_reread w r [d] false (by simp), maxStamp_one, List.filter_cons]
  split <;> simp_all

/-- the path fill-in of `SyncState.change` does nothing for a side without a change stamp (whatever the other side's stamp says) -/
theorem change_fill_needs_stamp (w : World) (r : RE) (s : Sd) (h : r.ch s = 0) : atSite w r (.changeFill s) = (r, []) :=
  restricted_scope_is_blind w r s h

/-- what `sync` gets to see after `pre_sync`: both marks at or after the newest stamp -/
theorem pre_sync_refresh_covers_stamps (w : World) (r : RE) (t : Sd) : max r.chL r.chR ≤ (preSyncR w r).1.lg t :=
  full_refresh_marks_cover_stamps w r false t

end CS.Engine.Refresh

namespace CS.Engine
open CS.Hints (Ex OT Ign)

/-! ## 16. root confinement: a peer that left the sync root is never written by id -/

/-- CONFINEMENT DECISION (manager.py 372-402).  Side `s`'s object is live (id, path, EXISTS) and its path no longer translates to the
    other side; the other side has an id and needs sync; the entry is not discarded.  Then `sync` chooses NO provider action at
    all: it splits the entry and returns False.  The entry afterwards is what `state.split` leaves (`splitEntry`): two unrelated
    objects. -/
theorem left_sync_peer_never_written (o : Oracle) (e : Entry) (s : Sd) (hl : leftSync o e s = true)
    (hn : (e.get s.other).needsSync = true) (hid : (e.get s.other).oid = true) (hd : e.ign.isDiscarded = false) :
    (sync o e).effs = [.split] ∧ (sync o e).done = .ok false ∧ splitEntry e = .ok (sync o e).ent ∧
      (sync o e).effs.all (fun f => !f.isWrite) = true := by
  have hu := unlinks_of_left_and_pending o e s hl hn hid hd
  obtain ⟨h1, h2, h3⟩ := sync_of_unlinks o e hu
  refine ⟨h1, h2, h3, ?_⟩
  rw [h1]; decide

/-- the same for one engine step (`_sync_one_entry`): the refresh, the split, nothing else; the step reports "nothing done" so the
    two entries are picked up again -/
theorem left_sync_peer_never_written_step (o : Oracle) (e : Entry) (s : Sd) (hl : leftSync o e s = true)
    (hn : (e.get s.other).needsSync = true) (hid : (e.get s.other).oid = true) (hd : e.ign.isDiscarded = false) :
    (syncOne o e).2.1 = [.getLatest, .split] ∧ (syncOne o e).1 = .done false := by
  obtain ⟨h1, h2, -, -⟩ := left_sync_peer_never_written o e s hl hn hid hd
  have hp : preSync o e = (false, [.getLatest], e) := by
    unfold preSync checkRevivify
    simp [hd]
  unfold syncOne
  rw [hp]
  simp only [h2, h1, List.singleton_append]
  exact ⟨trivial, trivial⟩

/-- the entry of the C12 defect: LOCAL was edited (hash differs, flagged); REMOTE is alive but was moved out of the root — its new
    path is known, does not translate (`trL = none`) -/
def wLeftEntry : Entry :=
  { l := { wSynced with h := .ne, changed := true }, r := { wSynced with p := .ne }, lLeR := true, ign := .no, prio := 0 }

def wLeftOracle : Oracle := { Oracle.quiet with trL := .none, trR := .path }

/-- WITNESS of the defect the fix is for: the decision function BEFORE the fix (`syncPre`) downloads LOCAL and UPLOADS it by id
    into the REMOTE object that left the sync root; the fixed `sync` splits instead -/
theorem pre_fix_sync_writes_peer_that_left :
    leftSync wLeftOracle wLeftEntry .rem = true ∧ wLeftEntry.l.needsSync = true ∧
    Eff.upload .rem ∈ (syncPre wLeftOracle wLeftEntry).effs ∧
    (sync wLeftOracle wLeftEntry).effs = [.split] := by
  decide

end CS.Engine
