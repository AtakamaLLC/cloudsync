import Csverif.Model.RunnableThreads
/-
C18 — the stop / start protocol of `Runnable` over the two-thread small-step model (Model/RunnableThreads.lean):
for EVERY schedule (interleaving of the caller thread's and the service thread's statements) and every sequence of
outcomes of `do()`.
-/
namespace CS.Runnable.Th
open CS.Runnable

/-- the service thread does not exist, or has left the loop for good (it is in `run()`'s finally block or has ended) -/
def SPc.exiting : SPc → Bool
  | .none | .f129 | .f130 | .f131 | .f140 | .f141 | .dead => true
  | _ => false

def CPc.inStart : CPc → Bool
  | .a178 | .a180 | .a181 | .a181j | .a182 | .a184 | .a185 | .a186 | .a187 => true
  | _ => false

def Tick.isStartCall : Tick → Bool
  | .call .start => true
  | _ => false

def noStartCall (l : List Tick) : Prop := ∀ t ∈ l, t.isStartCall = false

/-- how many more calls of `do()` the service thread can still begin once the stop request is in force: one if it has
    already read `__stopping` as False at the loop head (line 100), none otherwise -/
def SPc.mayDo : SPc → Nat
  | .r100b | .r105 => 1
  | _ => 0

/-- the stop request is in force: the flag is up, or the loop is already over -/
def Q (s : St) : Prop := s.stopping = true ∨ s.svc.exiting = true

/-- the service thread is between the flag test of line 119 and the end of the sleep: the only region in which it can
    block (or has decided to block) without looking at `__stopping` again first -/
def SPc.sleepy : SPc → Bool
  | .r119b | .r119c | .s67 | .s67w => true
  | _ => false

/-- *the stop request is in force and the loop cannot sleep through it*: wherever the loop could still block, its event is set.
    The third conjunct keeps the thread off `r96v`, a statement that only the variant program `.resetInRun` has (there it would
    erase the request); the program as it is never reaches it (`Inv.noVar`). -/
def T (s : St) : Prop := Q s ∧ (s.svc.sleepy = true → s.intr = .set) ∧ s.svc ≠ .r96v

/-- upper bound on the number of statements the service thread still executes once `T` holds: the length of the longest path
    from the program point to `dead` when every flag test sees the request and every sleep finds its event set.  The longest of
    all starts right after the test of line 119 has read `__stopping` as False:
    r119b → r119c → s67 → s67w → s68 → r100 → f129 → f130 → f131 → f140 → f141 → dead, hence the 11 of `loop_exits_after_stop`. -/
def SPc.rank : SPc → Nat
  | .none | .dead => 0
  | .f141 => 1 | .f140 => 2 | .f131 => 3 | .f130 => 4 | .f129 => 5
  | .r100 | .r119 => 6
  | .s68 | .r105 | .r96 | .r96v => 7
  | .r95 | .r100b | .s67w => 8
  | .s67 => 9
  | .r119c => 10
  | .r119b => 11

def svcOnly (l : List Tick) : Prop := ∀ t ∈ l, ∃ tmo o u, t = Tick.s tmo o u

def Tick.isSvc : Tick → Bool
  | .s _ _ _ => true
  | _ => false

def svcCount (l : List Tick) : Nat := (l.filter Tick.isSvc).length

def Tick.isCall : Tick → Bool
  | .call _ => true
  | _ => false

theorem SPc.rank_eq_zero {p : SPc} : p.rank = 0 ↔ p.alive = false := by cases p <;> decide

theorem SPc.rank_le (p : SPc) : p.rank ≤ 11 := by cases p <;> decide

theorem SPc.mayDo_le (p : SPc) : p.mayDo ≤ 1 := by cases p <;> decide

theorem exec_append (v : Prog) (s : St) (l₁ l₂ : List Tick) : exec v s (l₁ ++ l₂) = exec v (exec v s l₁) l₂ := by
  induction l₁ generalizing s with
  | nil => rfl
  | cons t ts ih => simp [exec, ih]

theorem exec_induct {v : Prog} {P : St → Prop} {R : Tick → Prop}
    (hstep : ∀ s s' t, P s → R t → step v s t = some s' → P s') {s : St} {l : List Tick}
    (hs : P s) (hl : ∀ t ∈ l, R t) : P (exec v s l) := by
  induction l generalizing s with
  | nil => exact hs
  | cons t ts ih =>
    have hts := fun x hx => hl x (List.mem_cons_of_mem _ hx)
    cases h : step v s t with
    | none => simpa [exec, h] using ih hs hts
    | some s' => simpa [exec, h] using ih (hstep s s' t hs (hl t (List.mem_cons_self ..)) h) hts

theorem step_call {v : Prog} {s s' : St} {k : Call} (h : step v s (.call k) = some s') :
    s.cal = .idle ∧ s' = { s with cal := k.entry, ret := .none } := by
  simp only [step] at h
  split at h
  · next hc => exact ⟨by simpa using hc, (Option.some.inj h).symm⟩
  · cases h

theorem Call.entry_outside {k : Call} (h : (Tick.call k).isStartCall = false) : k.entry.inStart = false := by
  cases k <;> first | rfl | cases h

theorem svcOnly_isSvc {l : List Tick} (h : svcOnly l) {t : Tick} (ht : t ∈ l) : t.isSvc = true ∧ t.isStartCall = false := by
  obtain ⟨_, _, _, rfl⟩ := h t ht
  exact ⟨rfl, rfl⟩

/-! A proof that goes through the statements of `stepS` / `stepC` one by one is stated with the hypotheses it needs and no others
(single clauses of `Inv`, not `Inv`), and eliminates by `cases` the premises about program points the statement cannot come from,
or lead to, before anything is simplified: `simp_all` is slow in a large context. -/

section
variable {v : Prog} {s s' : St} {tmo : Bool} {o : Outcome} {u : Bool}

theorem stepS_frame (h : stepS v s tmo o u = some s') :
    alive s = true ∧ s'.cal = s.cal ∧ s'.shutdown = s.shutdown ∧ s'.thr = s.thr ∧ s'.nStart = s.nStart ∧
      s'.nFinal = s.nFinal ∧ s'.ret = s.ret := by
  revert h
  fun_cases stepS v s tmo o u <;> intro h <;> cases h <;> simp [alive, SPc.alive, *]

theorem dead_stepS (ha : alive s = false) : stepS v s tmo o u = none := by
  cases h : stepS v s tmo o u with
  | none => rfl
  | some s' => rw [(stepS_frame h).1] at ha; cases ha

theorem Q_stepS (hQ : Q s) (h : stepS .head s tmo o u = some s') :
    Q s' ∧ nDo s' + s'.svc.mayDo ≤ nDo s + s.svc.mayDo := by
  revert h
  fun_cases stepS .head s tmo o u <;> intro h <;> cases h <;> (try split) <;>
    simp_all [Q, nDo, SPc.exiting, SPc.mayDo, Prog.resets]

theorem T_stepS (hT : T s) (h : stepS .head s tmo o u = some s') : T s' ∧ s'.svc.rank < s.svc.rank := by
  revert h
  fun_cases stepS .head s tmo o u <;> intro h <;> cases h <;> (try split) <;>
    simp_all [T, Q, SPc.exiting, SPc.sleepy, SPc.rank, Prog.resets]

theorem T_enabled (tmo : Bool) (o : Outcome) (u : Bool) (hT : T s) (ha : alive s = true) :
    (stepS .head s tmo o u).isSome = true := by
  obtain ⟨svc⟩ := s
  cases svc <;> cases ha <;> simp_all [stepS, T, SPc.sleepy, Prog.resets]

theorem T_progress (s : St) (tmo : Bool) (o : Outcome) (u : Bool) (hT : T s) (ha : alive s = true) :
    ∃ s', stepS .head s tmo o u = some s' ∧ s'.svc.rank < s.svc.rank ∧ s'.cal = s.cal :=
  have ⟨s', h⟩ := Option.isSome_iff_exists.1 (T_enabled tmo o u hT ha)
  ⟨s', h, (T_stepS hT h).2, (stepS_frame h).2.1⟩

theorem step_outside {t : Tick} (hc : s.cal.inStart = false) (ht : t.isStartCall = false) (hs : t.isSvc = false)
    (h : step .head s t = some s') :
    s'.cal.inStart = false ∧ s'.svc = s.svc ∧ s'.dos = s.dos ∧ s'.nDone = s.nDone ∧
      (s.stopping = true → s'.stopping = true) ∧ (s'.intr = s.intr ∨ s'.intr = .set) := by
  cases t with
  | s tmo o u => cases hs
  | call k =>
    obtain ⟨-, rfl⟩ := step_call h
    exact ⟨Call.entry_outside ht, rfl, rfl, rfl, id, Or.inl rfl⟩
  | c tmo =>
    obtain ⟨_, cal⟩ := s
    cases cal
    case' k167 c | k170 c | w233 c _ | w235j c _ | w236 c _ => rcases c with _ | ⟨_, _⟩
    all_goals cases hc
    all_goals simp only [step, stepC, Prog.readsTwice, Bool.false_eq_true, ↓reduceIte] at h <;>
      (try split at h) <;> cases h <;> simp [wakeReturn, waitReturn, CPc.inStart]

/-- while the stop request is in force the potential `calls of do() so far + calls the loop may still begin` does not grow -/
theorem Q_step (s s' : St) (t : Tick) (hQ : Q s) (hc : s.cal.inStart = false) (ht : t.isStartCall = false)
    (h : step .head s t = some s') :
    Q s' ∧ s'.cal.inStart = false ∧ nDo s' + s'.svc.mayDo ≤ nDo s + s.svc.mayDo := by
  cases t with
  | s tmo o u =>
    obtain ⟨hq, hn⟩ := Q_stepS hQ h
    exact ⟨hq, (stepS_frame h).2.1 ▸ hc, hn⟩
  | _ =>
    obtain ⟨hc', hsvc, hd, -, hst, -⟩ := step_outside hc ht rfl h
    exact ⟨by rw [Q, hsvc]; exact hQ.imp_left hst, hc', by rw [nDo, nDo, hd, hsvc]; exact Nat.le_refl _⟩

theorem T_step (s s' : St) (t : Tick) (hT : T s) (hc : s.cal.inStart = false) (ht : t.isStartCall = false)
    (h : step .head s t = some s') : T s' ∧ s'.cal.inStart = false := by
  cases t with
  | s tmo o u => exact ⟨(T_stepS hT h).1, (stepS_frame h).2.1 ▸ hc⟩
  | _ =>
    obtain ⟨hc', hsvc, -, -, hst, hintr⟩ := step_outside hc ht rfl h
    refine ⟨⟨by rw [Q, hsvc]; exact hT.1.imp_left hst, fun hsl => ?_, hsvc ▸ hT.2.2⟩, hc'⟩
    rcases hintr with e | e
    · rw [e]; exact hT.2.1 (hsvc ▸ hsl)
    · exact e

theorem T_tick {t : Tick} (hT : T s) (hc : s.cal.inStart = false) (ht : t.isStartCall = false) :
    T ((step .head s t).getD s) ∧ ((step .head s t).getD s).cal.inStart = false ∧
      ((step .head s t).getD s).svc.rank ≤ s.svc.rank - (if t.isSvc then 1 else 0) := by
  cases t with
  | s tmo o u =>
    cases ha : alive s with
    | false =>
      rw [step, dead_stepS ha, Option.getD_none, SPc.rank_eq_zero.2 ha]
      exact ⟨hT, hc, Nat.zero_le _⟩
    | true =>
      obtain ⟨s', h, hr, -⟩ := T_progress s tmo o u hT ha
      rw [step, h]
      exact ⟨(T_stepS hT h).1, (stepS_frame h).2.1 ▸ hc, Nat.le_sub_one_of_lt hr⟩
  | _ =>
    cases h : step .head s _ with
    | none => exact ⟨hT, hc, Nat.le_refl _⟩
    | some s' =>
      obtain ⟨hT', hc'⟩ := T_step s s' _ hT hc ht h
      refine ⟨hT', hc', ?_⟩
      rw [Option.getD_some, (step_outside hc ht rfl h).2.1]
      exact Nat.le_refl _

theorem T_exec_rank (l : List Tick) (hT : T s) (hc : s.cal.inStart = false) (hl : noStartCall l) :
    T (exec .head s l) ∧ (exec .head s l).cal.inStart = false ∧ (exec .head s l).svc.rank ≤ s.svc.rank - svcCount l := by
  induction l generalizing s with
  | nil => exact ⟨hT, hc, Nat.le_refl _⟩
  | cons t ts ih =>
    obtain ⟨hT', hc', hr⟩ := T_tick hT hc (hl t (List.mem_cons_self ..))
    obtain ⟨hT'', hc'', hr'⟩ := ih hT' hc' fun x hx => hl x (List.mem_cons_of_mem _ hx)
    refine ⟨hT'', hc'', Nat.le_trans hr' ?_⟩
    have : svcCount (t :: ts) = (if t.isSvc then 1 else 0) + svcCount ts := by
      cases ht : t.isSvc <;> simp [svcCount, List.filter, ht, Nat.add_comm]
    omega

theorem dead_exec (s : St) (l : List Tick) (ha : alive s = false) (hc : s.cal.inStart = false) (hl : noStartCall l) :
    alive (exec .head s l) = false ∧ nDo (exec .head s l) = nDo s ∧ (exec .head s l).nDone = s.nDone := by
  have := exec_induct (P := fun x => alive x = false ∧ x.cal.inStart = false ∧ nDo x = nDo s ∧ x.nDone = s.nDone)
    (fun x x' t ⟨a, c, n, d⟩ ht h => by
      cases t with
      | s tmo o u => rw [step, dead_stepS (v := .head) a] at h; cases h
      | _ =>
        obtain ⟨c', hsvc, hd, hn, -⟩ := step_outside c ht rfl h
        exact ⟨by rw [alive, hsvc]; exact a, c', by rw [nDo, hd]; exact n, hn.trans d⟩)
    ⟨ha, hc, rfl, rfl⟩ hl
  exact ⟨this.1, this.2.2⟩

/-! The reachability invariant `Inv` of the program as it is, by rely/guarantee.  `stepS_frame`, `Q_stepS`, `T_stepS` are what the
service thread guarantees to the caller, `stepC_frame` what the caller guarantees to the service thread; `Inv_stepS` / `Inv_stepC`
show each clause stable under the other thread's guarantee and re-established by the statements of its own thread
(`stepS_local`; `startDead_stepC`, `stop_stepC`, `ret_stepC`). -/

/-- the caller is inside `stop()` and has executed `self.__stopping = True` (line 203) -/
def CPc.stopWritten : CPc → Bool
  | .k167 (some _) | .k170 (some _) | .p205 _ _ | .w233 (some _) _ | .w235j (some _) _ | .w236 (some _) _ => true
  | _ => false

/-- … and has also returned from the `self.wake()` of line 204 -/
def CPc.stopWoken : CPc → Bool
  | .p205 _ _ | .w233 (some _) _ | .w235j (some _) _ | .w236 (some _) _ => true
  | _ => false

/-- the `forever` argument of the `stop()` call in progress, once line 202 has been executed -/
def CPc.stopF : CPc → Option Bool
  | .p203 f _ | .p205 f _ => some f
  | .k167 (some (f, _)) | .k170 (some (f, _)) | .w233 (some (f, _)) _ | .w235j (some (f, _)) _ | .w236 (some (f, _)) _ => some f
  | _ => none

/-- `start()` is past its liveness test of lines 182-183 -/
def CPc.pastAliveCheck : CPc → Bool
  | .a184 | .a185 | .a186 | .a187 => true
  | _ => false

/-- program points of the service thread at which `self.__interrupt` is None -/
def SPc.noEvent : SPc → Bool
  | .none | .r95 | .f140 | .f141 | .dead => true
  | _ => false

theorem CPc.stopWoken_written (c : CPc) (h : c.stopWoken = true) : c.stopWritten = true := by
  cases c with
  | k167 c | k170 c | w233 c _ | w235j c _ | w236 c _ => rcases c with _ | ⟨_, _⟩ <;> first | rfl | cases h
  | _ => first | rfl | cases h

theorem CPc.stopWritten_notInStart (c : CPc) (h : c.stopWritten = true) : c.inStart = false := by
  cases c with
  | k167 c | k170 c | w233 c _ | w235j c _ | w236 c _ => rcases c with _ | ⟨_, _⟩ <;> first | rfl | cases h
  | _ => first | rfl | cases h

theorem SPc.noEvent_of_dead {p : SPc} (h : p.alive = false) : p.noEvent = true := by cases p <;> first | rfl | cases h

theorem SPc.not_sleepy_of_noEvent {p : SPc} (h : p.noEvent = true) : p.sleepy = false := by cases p <;> first | rfl | cases h

/-- what holds in every reachable state of the program as it is.  The first three clauses and the last three are about the
    fields themselves; the six in between say what the caller thread knows at a program point (they are established by the
    caller's own statements and must survive every statement of the service thread). -/
structure Inv (s : St) : Prop where
  /-- the service thread is never at `r96v`, a statement only the variant program `.resetInRun` has -/
  noVar : s.svc ≠ .r96v
  /-- `__interrupt` is None exactly between line 131 of one run and line 95 of the next -/
  intrAbs : s.intr = .absent ↔ s.svc.noEvent = true
  /-- no thread object, no service thread (line 185 comes before line 187) -/
  thrNone : s.thr = .none → s.svc = .none
  /-- `start()` goes past line 183 only if the old service thread has ended, and a thread that has ended stays so -/
  startDead : s.cal.pastAliveCheck = true → s.svc.alive = false
  /-- from line 203 to the end of `stop()` the request is in force: only the finally block lowers `__stopping` -/
  stopQ : s.cal.stopWritten = true → Q s
  /-- after the `wake()` of line 204 a loop that is about to sleep, or asleep, has its event set -/
  stopT : s.cal.stopWoken = true → s.svc.sleepy = true → s.intr = .set
  /-- between line 202 and the end of `stop(forever, …)` the flag `__shutdown` is `forever`: nobody else writes it -/
  shutF : ∀ f, s.cal.stopF = some f → s.shutdown = f
  /-- `stop(f, w)` has returned: `__shutdown` is still `f`, and if it waited the service thread has ended -/
  retStop : s.cal = .idle → ∀ f w, s.ret = .stopRet f w → s.shutdown = f ∧ (w = true → s.svc.alive = false)
  /-- `wait()` has returned True: the service thread has ended -/
  retWait : s.cal = .idle → s.ret = .waitTrue → s.svc.alive = false
  /-- every call of `done()` belongs to a service thread of its own that has ended since (line 141 is the last statement) -/
  doneOnce : s.nDone + (if s.svc.alive then 1 else 0) ≤ s.nStart
  /-- cleanup, done or about to be done, or `__shutdown` up: some `stop(forever=True)` has executed line 202 -/
  doneFinal : (s.shutdown = true ∨ s.svc = .f141 ∨ 0 < s.nDone) → 0 < s.nFinal
  /-- no call has raised AttributeError: `wake()` reads `__interrupt` once -/
  noAttrErr : s.ret ≠ .attrErr

theorem Inv_init : Inv init := by
  constructor <;> simp [init, SPc.noEvent, CPc.pastAliveCheck, CPc.stopWritten, CPc.stopWoken, CPc.stopF, SPc.alive]

/-- once the caller has returned from the `wake()` of line 204, the loop cannot sleep through the request -/
theorem Inv.T_of_stopWoken (hI : Inv s) (hw : s.cal.stopWoken = true) : T s ∧ s.cal.inStart = false :=
  have hwr := CPc.stopWoken_written _ hw
  ⟨⟨hI.stopQ hwr, hI.stopT hw, hI.noVar⟩, CPc.stopWritten_notInStart _ hwr⟩

theorem stepS_local (h : stepS .head s tmo o u = some s') :
    s'.svc ≠ .r96v ∧ ((s.intr = .absent ↔ s.svc.noEvent = true) → (s'.intr = .absent ↔ s'.svc.noEvent = true)) ∧
      (s'.svc.alive = true ∧ s'.nDone = s.nDone ∨
        s'.svc = .dead ∧ s'.nDone ≤ s.nDone + 1 ∧ (s.shutdown = true → s'.nDone = s.nDone + 1)) ∧
      (s'.svc = .f141 ∨ 0 < s'.nDone → s.shutdown = true ∨ s.svc = .f141 ∨ 0 < s.nDone) := by
  revert h
  fun_cases stepS .head s tmo o u <;> intro h <;> cases h <;> (try split) <;> refine ⟨?_, fun hi => ?_, ?_, ?_⟩ <;>
    simp_all [SPc.noEvent, SPc.alive, Prog.resets]

theorem Inv_stepS (hI : Inv s) (h : stepS .head s tmo o u = some s') : Inv s' := by
  obtain ⟨noVar, intrAbs, hdone, hfinal⟩ := stepS_local h
  have hq := fun hq => (Q_stepS hq h).1
  have ht := fun ht => (T_stepS ht h).1.2.1
  -- `s'` is opened so that the frame equations substitute field by field
  cases s'
  obtain ⟨ha, rfl, rfl, rfl, rfl, rfl, rfl⟩ := stepS_frame h
  -- what the caller knows about a thread that has ended cannot be disturbed: that thread does not move
  have hal : s.svc.alive = false → False := fun h0 => by rw [alive, h0] at ha; cases ha
  exact { hI with
    noVar, intrAbs := intrAbs hI.intrAbs
    thrNone := fun h0 => (hal (by rw [hI.thrNone h0]; rfl)).elim
    startDead := fun hc => (hal (hI.startDead hc)).elim
    stopQ := fun hc => hq (hI.stopQ hc)
    stopT := fun hc => ht (hI.T_of_stopWoken hc).1
    retStop := fun hc f w hr => ⟨(hI.retStop hc f w hr).1, fun hw => (hal ((hI.retStop hc f w hr).2 hw)).elim⟩
    retWait := fun hc hr => (hal (hI.retWait hc hr)).elim
    doneOnce := by
      have := hI.doneOnce
      rw [show s.svc.alive = true from ha] at this
      rcases hdone with ⟨e, en⟩ | ⟨e, en, -⟩ <;> rw [e]
      · exact en ▸ this
      · exact Nat.le_trans en this
    doneFinal := fun hd => hI.doneFinal (hd.elim Or.inl hfinal) }

/-- what a statement of the caller thread writes to the fields that the service thread's part of the invariant speaks of: the
    new thread of line 187, the thread object, the event's `set()`, the two fields of line 202 -/
theorem stepC_frame (h : stepC .head s tmo = some s') :
    s'.nDone = s.nDone ∧
    (s'.svc = s.svc ∧ s'.nStart = s.nStart ∧ (s'.thr = .none → s.thr = .none) ∨
      s.cal = .a187 ∧ s'.svc = .r95 ∧ s'.nStart = s.nStart + 1 ∧ s'.thr = .started) ∧
    (s'.intr = .absent ↔ s.intr = .absent) ∧
    (s'.shutdown = s.shutdown ∧ s'.nFinal = s.nFinal ∨
      ∃ f w, s.cal = .p202 f w ∧ s'.shutdown = f ∧ s'.nFinal = if f then s.nFinal + 1 else s.nFinal) ∧
    (s.ret ≠ .attrErr → s'.ret ≠ .attrErr) := by
  obtain ⟨_, cal⟩ := s
  cases cal
  case' k167 c | k170 c | w233 c _ | w235j c _ | w236 c _ => rcases c with _ | ⟨_, _⟩
  all_goals simp only [stepC, Prog.resets, Prog.readsTwice, Bool.false_eq_true, ↓reduceIte] at h <;>
    (try split at h) <;> cases h <;> simp_all [wakeReturn, waitReturn]

theorem startDead_stepC (thrNone : s.thr = .none → s.svc.alive = false)
    (startDead : s.cal.pastAliveCheck = true → s.svc.alive = false) (h : stepC .head s tmo = some s')
    (hp : s'.cal.pastAliveCheck = true) : s'.svc.alive = false := by
  obtain ⟨_, cal, _, _, _, _, thr⟩ := s
  cases cal
  case' k167 c | k170 c | w233 c _ | w235j c _ | w236 c _ => rcases c with _ | ⟨_, _⟩
  all_goals simp only [stepC, Prog.resets, Prog.readsTwice, Bool.false_eq_true, ↓reduceIte] at h <;>
    (try split at h) <;> cases h <;> cases hp <;> cases thr <;> simp_all [CPc.pastAliveCheck, alive]

theorem stop_stepC (intrAbs : s.intr = .absent ↔ s.svc.noEvent = true) (stopQ : s.cal.stopWritten = true → Q s)
    (stopT : s.cal.stopWoken = true → s.svc.sleepy = true → s.intr = .set) (h : stepC .head s tmo = some s') :
    (s'.cal.stopWritten = true → Q s') ∧ (s'.cal.stopWoken = true → s'.svc.sleepy = true → s'.intr = .set) := by
  obtain ⟨_, cal⟩ := s
  cases cal
  case' k167 c | k170 c | w233 c _ | w235j c _ | w236 c _ => rcases c with _ | ⟨_, _⟩
  all_goals simp only [stepC, Prog.resets, Prog.readsTwice, Bool.false_eq_true, ↓reduceIte] at h <;>
    (try split at h) <;> cases h <;> refine ⟨fun hp => ?_, fun hp hs => ?_⟩ <;> cases hp <;>
    simp_all [wakeReturn, CPc.stopWritten, CPc.stopWoken, Q, SPc.not_sleepy_of_noEvent]

theorem ret_stepC (thrNone : s.thr = .none → s.svc.alive = false) (shutF : ∀ f, s.cal.stopF = some f → s.shutdown = f)
    (h : stepC .head s tmo = some s') :
    (∀ f, s'.cal.stopF = some f → s'.shutdown = f) ∧
      (s'.cal = .idle → ∀ f w, s'.ret = .stopRet f w → s'.shutdown = f ∧ (w = true → s'.svc.alive = false)) ∧
      (s'.cal = .idle → s'.ret = .waitTrue → s'.svc.alive = false) := by
  obtain ⟨_, cal⟩ := s
  cases cal
  case' k167 c | k170 c | w233 c _ | w235j c _ | w236 c _ => rcases c with _ | ⟨_, _⟩
  all_goals simp only [stepC, Prog.resets, Prog.readsTwice, Bool.false_eq_true, ↓reduceIte] at h <;>
    (try split at h) <;> cases h <;>
    refine ⟨fun f hp => ?_, fun hp f w hr => ⟨?_, fun hw => ?_⟩, fun hp hr => ?_⟩ <;> cases hp <;> (try cases hr) <;>
    simp_all [wakeReturn, waitReturn, CPc.stopF, alive]

theorem Inv_stepC (hI : Inv s) (h : stepC .head s tmo = some s') : Inv s' := by
  obtain ⟨hn, hsvc, hintr, hsd, hret⟩ := stepC_frame h
  have hdead : s.thr = .none → s.svc.alive = false := fun h0 => by rw [hI.thrNone h0]; rfl
  obtain ⟨stopQ, stopT⟩ := stop_stepC hI.intrAbs hI.stopQ hI.stopT h
  obtain ⟨shutF, retStop, retWait⟩ := ret_stepC hdead hI.shutF h
  refine { startDead := startDead_stepC hdead hI.startDead h, stopQ, stopT, shutF, retStop, retWait,
           noAttrErr := hret hI.noAttrErr, noVar := ?noVar, intrAbs := ?intrAbs, thrNone := ?thrNone,
           doneOnce := ?doneOnce, doneFinal := ?doneFinal }
  case noVar =>
    rcases hsvc with ⟨e, -⟩ | ⟨-, e, -⟩ <;> rw [e]
    · exact hI.noVar
    · nofun
  case intrAbs =>
    -- `set()` keeps a present event present; the thread of line 187 begins where the ended one has dropped its event
    rw [hintr]
    rcases hsvc with ⟨e, -⟩ | ⟨ec, e, -⟩ <;> rw [e]
    · exact hI.intrAbs
    · exact ⟨fun _ => rfl, fun _ => hI.intrAbs.2 (SPc.noEvent_of_dead (hI.startDead (by rw [ec]; rfl)))⟩
  case thrNone =>
    rcases hsvc with ⟨e, -, et⟩ | ⟨-, -, -, et⟩
    · exact fun h0 => e ▸ hI.thrNone (et h0)
    · rw [et]; nofun
  case doneOnce =>
    have := hI.doneOnce
    rcases hsvc with ⟨e, en, -⟩ | ⟨ec, e, en, -⟩ <;> rw [hn, e, en]
    · exact this
    · rw [hI.startDead (by rw [ec]; rfl)] at this
      exact Nat.succ_le_succ this
  case doneFinal =>
    -- only line 202 writes `__shutdown`, and counts the final stops as it does
    have hf : (s'.svc = .f141 ∨ 0 < s'.nDone) → s.svc = .f141 ∨ 0 < s.nDone := by
      rw [hn]
      rcases hsvc with ⟨e, -⟩ | ⟨-, e, -⟩ <;> rw [e]
      · exact id
      · exact fun h0 => h0.elim nofun Or.inr
    rcases hsd with ⟨e, en⟩ | ⟨f, w, -, e, en⟩ <;> rw [e, en]
    · exact fun h0 => hI.doneFinal (h0.imp_right hf)
    · cases f
      · exact fun h0 => hI.doneFinal (Or.inr (hf (h0.resolve_left nofun)))
      · exact fun _ => Nat.succ_pos _

theorem Inv_call {k : Call} (hI : Inv s) (h : step .head s (.call k) = some s') : Inv s' := by
  obtain ⟨-, rfl⟩ := step_call h
  cases k <;>
    exact { hI with startDead := nofun, stopQ := nofun, stopT := nofun, shutF := nofun, retStop := nofun, retWait := nofun,
                    noAttrErr := nofun }

theorem Inv_reach (l : List Tick) : Inv (exec .head init l) :=
  exec_induct (R := fun _ => True) (hl := fun _ _ => trivial) (hs := Inv_init) fun s s' t hI _ h => by
    cases t with
    | c tmo => exact Inv_stepC hI h
    | s tmo o u => exact Inv_stepS hI h
    | call k => exact Inv_call hI h

end

/-- **Stop is never lost — safety.**  For every schedule `pre` after which the caller thread has executed the flag write of a
    `stop()` call (`self.__stopping = True`, line 203; final or not, waiting or not), and every continuation `post` in which
    `start()` is not called again: the service thread begins at most ONE further call of `do()` — and none at all unless it had
    already read `__stopping` as False at the loop head (it is at `r100b`/`r105`) when the flag was written.
    (The caller is sequential, so "no `start()` in `post`" is exactly "the write came after the last `start()` returned";
    a `start()` issued *after* the stop re-arms the service on purpose, line 184.) -/
theorem stop_is_never_lost (pre post : List Tick) (hw : (exec .head init pre).cal.stopWritten = true)
    (hp : noStartCall post) :
    nDo (exec .head init (pre ++ post)) ≤ nDo (exec .head init pre) + (exec .head init pre).svc.mayDo ∧
      nDo (exec .head init (pre ++ post)) ≤ nDo (exec .head init pre) + 1 := by
  have := exec_induct (R := fun t => t.isStartCall = false)
    (P := fun s => Q s ∧ s.cal.inStart = false ∧
      nDo s + s.svc.mayDo ≤ nDo (exec .head init pre) + (exec .head init pre).svc.mayDo)
    (fun s s' t ⟨q, c, n⟩ ht h => let ⟨q', c', n'⟩ := Q_step s s' t q c ht h; ⟨q', c', Nat.le_trans n' n⟩)
    ⟨(Inv_reach pre).stopQ hw, CPc.stopWritten_notInStart _ hw, Nat.le_refl _⟩ hp
  rw [exec_append]
  have hm := (exec .head init pre).svc.mayDo_le
  constructor <;> omega

/-- the bound is exact: one further call of `do()` does happen when the stop arrives between the loop-head test and `do()` -/
theorem stop_one_more_do_possible :
    let pre := [Tick.call .start, .c false, .c false, .c false, .c false, .c false, .c false, .c false,
                .s false .success false, .s false .success false, .s false .success false,     -- r95 r96 r100: reads __stopping = False
                .call (.stop false false), .c false, .c false]
    let post := [Tick.s false .success false, .s false .success false]
    (exec .head init pre).cal.stopWritten = true ∧ nDo (exec .head init (pre ++ post)) = nDo (exec .head init pre) + 1 := by
  decide

/-- the general form of `loop_exits_after_stop` below, with the caller thread interleaved arbitrarily (no `start()`): after 11
    ticks of the service thread it has ended -/
theorem loop_exits_after_stop_interleaved (pre post : List Tick) (hw : (exec .head init pre).cal.stopWoken = true)
    (hp : noStartCall post) (hlen : 11 ≤ svcCount post) : alive (exec .head init (pre ++ post)) = false := by
  obtain ⟨hT, hc⟩ := (Inv_reach pre).T_of_stopWoken hw
  obtain ⟨-, -, hr⟩ := T_exec_rank post hT hc hp
  rw [exec_append]
  have := SPc.rank_le (exec .head init pre).svc
  exact SPc.rank_eq_zero.1 (by omega)

/-- **Stop is never lost — termination.**  Once the caller has also returned from the `wake()` of line 204 (it is at line 205
    or beyond: about to join, joining, or — after any continuation `mid` without `start()` — long gone), the service thread
    running alone ends within 11 of its own statements, *whether or not any sleep times out* and whatever `do()` and `until()`
    return.  In particular the join of a waiting `stop()` is eventually enabled.  (11 statements of this model; the coarser
    model of Props/C18.lean, one step per flag access, is proved with 8: `loop_terminates_after_stop`.) -/
theorem loop_exits_after_stop (pre mid svcTicks : List Tick) (hw : (exec .head init pre).cal.stopWoken = true)
    (hm : noStartCall mid) (hs : svcOnly svcTicks) (hlen : 11 ≤ svcTicks.length) :
    alive (exec .head init (pre ++ mid ++ svcTicks)) = false := by
  rw [List.append_assoc]
  refine loop_exits_after_stop_interleaved pre _ hw
    (fun t ht => (List.mem_append.1 ht).elim (hm t) fun h => (svcOnly_isSvc hs h).2) ?_
  rw [svcCount, List.filter_append, List.length_append, List.filter_eq_self.2 fun t ht => (svcOnly_isSvc hs ht).1]
  omega

/-- … and until then it is never blocked: every tick of a live service thread is enabled, sleep timeout or not -/
theorem never_sleeps_through_stop (pre post : List Tick) (tmo : Bool) (o : Outcome) (u : Bool)
    (hw : (exec .head init pre).cal.stopWoken = true) (hp : noStartCall post)
    (ha : alive (exec .head init (pre ++ post)) = true) :
    (stepS .head (exec .head init (pre ++ post)) tmo o u).isSome = true := by
  obtain ⟨hT, hc⟩ := (Inv_reach pre).T_of_stopWoken hw
  rw [exec_append] at ha ⊢
  exact T_enabled tmo o u (T_exec_rank post hT hc hp).1 ha

/-- **No `do()` after `stop(wait=True)` / `wait()` has returned.**  If after `pre` the caller is idle and its last call was a
    `stop(forever, wait=True)` that returned normally (or a `wait()` that returned True), then the service thread is not
    alive, and in every continuation without a new `start()` no call of `do()` (and no `done()`) happens. -/
theorem no_do_after_waiting_stop_returns (pre post : List Tick) (hidle : (exec .head init pre).cal = .idle)
    (hret : (∃ f, (exec .head init pre).ret = .stopRet f true) ∨ (exec .head init pre).ret = .waitTrue)
    (hp : noStartCall post) :
    alive (exec .head init pre) = false ∧ alive (exec .head init (pre ++ post)) = false ∧
      nDo (exec .head init (pre ++ post)) = nDo (exec .head init pre) ∧
      (exec .head init (pre ++ post)).nDone = (exec .head init pre).nDone := by
  have hI := Inv_reach pre
  have ha : alive (exec .head init pre) = false :=
    hret.elim (fun ⟨f, hr⟩ => (hI.retStop hidle f true hr).2 rfl) (hI.retWait hidle)
  rw [exec_append]
  exact ⟨ha, dead_exec _ post ha (by rw [hidle]; rfl) hp⟩

/-- **Cleanup at most once.**  For every schedule: the number of calls of `done()` never exceeds the number of service threads
    started, and a thread that is still alive has not called it yet. -/
theorem cleanup_at_most_once_per_start (l : List Tick) :
    (exec .head init l).nDone + (if alive (exec .head init l) then 1 else 0) ≤ (exec .head init l).nStart :=
  (Inv_reach l).doneOnce

/-- **Cleanup only for a final stop.**  For every schedule: `done()` has been called only if some `stop(forever=True)` has executed
    its line 202 before (a non-final stop never triggers cleanup, and the service stays restartable). -/
theorem cleanup_only_after_final_stop (l : List Tick) (h : 0 < (exec .head init l).nDone) : 0 < (exec .head init l).nFinal :=
  (Inv_reach l).doneFinal (Or.inr (Or.inr h))

def FinalDue (base : Nat) (s : St) : Prop :=
  s.shutdown = true ∧ ((s.svc.alive = true ∧ s.nDone = base) ∨ (s.svc = .dead ∧ s.nDone = base + 1))

theorem FinalDue_step {base : Nat} {s s' : St} {t : Tick} (hF : FinalDue base s)
    (hc : s.cal.stopF = some true ∨ s.cal = .idle) (ht : t.isCall = false) (h : step .head s t = some s') :
    FinalDue base s' ∧ (s'.cal.stopF = some true ∨ s'.cal = .idle) := by
  cases t with
  | c tmo =>
    obtain ⟨_, cal⟩ := s
    cases cal
    case' k167 c | k170 c | w233 c _ | w235j c _ | w236 c _ => rcases c with _ | ⟨_, _⟩
    all_goals rcases hc with hc | hc <;> cases hc
    -- what is left is `stop()` past line 202, which writes neither `__shutdown` nor the fields of the service thread
    all_goals simp only [step, stepC, Prog.readsTwice, Bool.false_eq_true, ↓reduceIte] at h <;>
      (try split at h) <;> cases h <;> exact ⟨hF, by simp [CPc.stopF, wakeReturn, waitReturn]⟩
  | s tmo o u =>
    obtain ⟨ha, hcal, hsd, -⟩ := stepS_frame h
    -- the thread moves, so it has not cleaned up yet; it ends by cleaning up, `__shutdown` being up
    obtain ⟨-, hb⟩ | ⟨hd, -⟩ := hF.2
    · refine ⟨⟨hsd ▸ hF.1, ?_⟩, hcal ▸ hc⟩
      rw [← hb]
      exact (stepS_local h).2.2.1.imp_right fun ⟨e, en⟩ => ⟨e, en.2 hF.1⟩
    · rw [alive, hd] at ha; cases ha
  | call k => cases ht

/-- **Cleanup exactly once after a final waiting stop of a live loop.**  If line 202 of a `stop(forever=True, wait)` call is
    executed while the service thread is alive, and the call later returns normally having waited (`wait=True`), then — whatever
    the interleaving — `done()` has been called exactly once in between and the service thread has ended. -/
theorem cleanup_exactly_once_after_final_waiting_stop (pre post : List Tick) (w : Bool)
    (h0 : (exec .head init pre).cal = .p203 true w) (ha : alive (exec .head init pre) = true)
    (hp : ∀ t ∈ post, t.isCall = false)
    (h1 : (exec .head init (pre ++ post)).cal = .idle) (h2 : (exec .head init (pre ++ post)).ret = .stopRet true true) :
    (exec .head init (pre ++ post)).nDone = (exec .head init pre).nDone + 1 ∧ alive (exec .head init (pre ++ post)) = false := by
  have hsd : (exec .head init pre).shutdown = true := (Inv_reach pre).shutF true (by rw [h0]; rfl)
  obtain ⟨⟨-, hF⟩, -⟩ := exec_induct (fun _ _ _ ⟨hF, hc⟩ => FinalDue_step hF hc)
    (P := fun s => FinalDue (exec .head init pre).nDone s ∧ (s.cal.stopF = some true ∨ s.cal = .idle))
    ⟨⟨hsd, Or.inl ⟨ha, rfl⟩⟩, Or.inl (by rw [h0]; rfl)⟩ hp
  rw [← exec_append] at hF
  have hdead := ((Inv_reach _).retStop h1 true true h2).2 rfl
  rcases hF with ⟨hal, -⟩ | ⟨-, hn⟩
  · rw [hdead] at hal; cases hal
  · exact ⟨hn, hdead⟩

/-- the ticks of one complete `start()` call when the old thread (if any) has ended: lines 178, 180, 182, 184, 185, 186, 187 -/
def startTicks : List Tick := .call .start :: List.replicate 7 (.c false)

/-- FULL STATEMENT (false on the code as it is): "`start()` after any completed `stop(forever=False)` runs the loop again".
    It fails for `stop(forever=False, wait=False)` while the old loop is still alive: `start()` waits one second
    (`join(timeout=1)`, line 181) and then raises RuntimeError("Service already started") — see
    `restart_refused_while_old_loop_alive`.  What holds (the five ticks of the new service thread are r95, r96, r100, r100b and
    r105, the first `do()`): -/
theorem restart_after_nonfinal_stop_partial (pre : List Tick) (o : Outcome)
    (hidle : (exec .head init pre).cal = .idle) (hret : (exec .head init pre).ret = .stopRet false true) :
    let s := exec .head init pre
    let s1 := exec .head s startTicks
    s1.ret = .startOk ∧ s1.cal = .idle ∧ s1.svc = .r95 ∧ s1.stopping = false ∧ s1.shutdown = false ∧
      nDo (exec .head s1 (List.replicate 5 (.s false o false))) = nDo s + 1 := by
  have hI := Inv_reach pre
  obtain ⟨hsd, hal⟩ := hI.retStop hidle false true hret
  have hal := hal rfl
  have hth := hI.thrNone
  have hia := hI.intrAbs
  -- from here on a symbolic run of `startTicks` and five service ticks, from a state known only through `Inv`
  generalize exec .head init pre = s at *
  obtain ⟨svc⟩ := s
  simp only at hidle hsd hal hth hia
  subst hidle hsd
  cases svc <;> simp [SPc.alive] at hal <;>
    simp_all [startTicks, List.replicate, exec, step, stepC, stepS, Call.entry, alive, SPc.alive, nDo, SPc.noEvent, Prog.resets]

/-- kernel-checked counterexample to the full statement: start; the loop is inside its first sleep; `stop(False, wait=False)`
    returns; `start()` finds the old thread alive, its one-second join gives up, RuntimeError("Service already started") -/
theorem restart_refused_while_old_loop_alive :
    let sched := [Tick.call .start, .c false, .c false, .c false, .c false, .c false, .c false, .c false,
                  .s false .success false, .s false .success false, .s false .success false, .s false .success false,
                  .s false .success false, .s false .success false,
                  .call (.stop false false), .c false, .c false, .c false, .c false, .c false,
                  .call .start, .c false, .c false, .c false, .c true, .c false]
    (exec .head init (sched.take 20)).ret = .stopRet false false ∧ (exec .head init (sched.take 20)).cal = .idle ∧
      (exec .head init sched).ret = .startAlready := by
  decide

/-- **A finally stopped service refuses to start.**  Whenever `__shutdown` is up and the caller is idle, a `start()` call raises
    at line 178-179: no flag is touched, no thread is created. -/
theorem start_refused_when_shutdown (s : St) (tmo : Bool) (hidle : s.cal = .idle) (hs : s.shutdown = true) :
    exec .head s [.call .start, .c tmo] = { s with ret := .startRefused } := by
  cases s
  simp_all [exec, step, stepC, Call.entry]

/-- after a `stop(forever=True)` has returned, `start()` raises (lines 178-179) and changes nothing else -/
theorem no_restart_after_final_stop (pre : List Tick) (w tmo : Bool)
    (hidle : (exec .head init pre).cal = .idle) (hret : (exec .head init pre).ret = .stopRet true w) :
    exec .head init (pre ++ [.call .start, .c tmo]) = { exec .head init pre with ret := .startRefused } := by
  rw [exec_append]
  exact start_refused_when_shutdown _ tmo hidle ((Inv_reach pre).retStop hidle true w hret).1

/-- `start()` creates the service thread (line 187) only when no service thread is alive: one slot for the service thread's
    program counter is enough, for every schedule -/
theorem single_service_thread (l : List Tick) (h : (exec .head init l).cal = .a187) : alive (exec .head init l) = false :=
  (Inv_reach l).startDead (by rw [h]; rfl)

/-- **Kernel-checked witness**: in the variant program (`.resetInRun`: `self.__stopping = False` executed by the service thread in
    `run()`'s prologue instead of by `start()`), `stop_is_never_lost` fails.  `start()` returns; `stop(forever=False, wait=False)`
    writes the flag, its `wake()` finds no event yet and is ignored, `stop()` returns; then the service thread runs its prologue,
    erases the request, and calls `do()` twice (and would go on for ever). -/
theorem variant_loses_stop :
    let pre := [Tick.call .start, .c false, .c false, .c false, .c false, .c false, .c false,
                .call (.stop false false), .c false, .c false]
    let post := [Tick.c false, .c false] ++ List.replicate 15 (Tick.s true .success false)
    (exec .resetInRun init pre).cal.stopWritten = true ∧ noStartCall post ∧
      (exec .resetInRun init (pre ++ post)).ret = .stopRet false false ∧
      nDo (exec .resetInRun init (pre ++ post)) = nDo (exec .resetInRun init pre) + 2 ∧ alive (exec .resetInRun init (pre ++ post)) = true := by
  refine ⟨by decide, ?_, by decide, by decide, by decide⟩
  intro t ht
  simp only [List.cons_append, List.nil_append, List.mem_cons, List.mem_replicate] at ht
  rcases ht with rfl | rfl | ⟨_, rfl⟩ <;> rfl

/-- … and the loop goes on: after 200 further statements of the service thread (sleeps timing out) it is still alive and has
    called `do()` 25 times, once per turn of the loop (8 statements: r100, r100b, r105, r119, r119b, r119c, s67, s67w) -/
theorem variant_never_exits :
    let pre := [Tick.call .start, .c false, .c false, .c false, .c false, .c false, .c false,
                .call (.stop false false), .c false, .c false, .c false, .c false]
    alive (exec .resetInRun init (pre ++ List.replicate 200 (Tick.s true .success false))) = true ∧
      nDo (exec .resetInRun init (pre ++ List.replicate 200 (Tick.s true .success false))) = 25 := by
  decide +kernel

/-- the same schedule on the program as it is: the request survives, no `do()` at all, the loop ends -/
theorem head_keeps_stop :
    let pre := [Tick.call .start, .c false, .c false, .c false, .c false, .c false, .c false, .c false,
                .call (.stop false false), .c false, .c false]
    let post := [Tick.c false, .c false] ++ List.replicate 15 (Tick.s true .success false)
    nDo (exec .head init (pre ++ post)) = 0 ∧ alive (exec .head init (pre ++ post)) = false := by
  decide

/-- **No API call raises AttributeError**, for every schedule.  (Before fix fa2d0de `wake()` tested `self.__interrupt is None` and
    then dereferenced `self.__interrupt` again; the service thread's `self.__interrupt = None`, line 131, could fall in between:
    `wake_twice_raises`.) -/
theorem no_attribute_error (l : List Tick) : (exec .head init l).ret ≠ .attrErr := (Inv_reach l).noAttrErr

def CPc.inStopOf (f w : Bool) : CPc → Bool
  | .p202 f' w' | .p203 f' w' | .p205 f' w' => f' == f && w' == w
  | .k167 (some (f', w')) | .k170 (some (f', w')) => f' == f && w' == w
  | .w233 (some (f', w')) t | .w235j (some (f', w')) t | .w236 (some (f', w')) t => f' == f && w' == w && !t
  | _ => false

def CPc.isW236 : CPc → Bool
  | .w236 _ _ => true
  | _ => false

/-- `stop(f, w)` is in progress - past its join (`w236`) only if the loop thread has ended - or has returned normally -/
def StopRun (f w : Bool) (s : St) : Prop :=
  (s.cal.inStopOf f w = true ∧ (s.cal.isW236 = true → alive s = false)) ∨ (s.cal = .idle ∧ s.ret = .stopRet f w)

theorem StopRun_step {f w : Bool} {s s' : St} {t : Tick} (hR : StopRun f w s) (ht : t.isCall = false)
    (h : step .head s t = some s') : StopRun f w s' := by
  cases t with
  | c tmo =>
    obtain ⟨_, cal⟩ := s
    cases cal
    case' k167 c | k170 c | w233 c _ | w235j c _ | w236 c _ => rcases c with _ | ⟨_, _⟩
    all_goals simp only [step, stepC, Prog.resets, Prog.readsTwice, Bool.false_eq_true, ↓reduceIte] at h <;>
      (try split at h) <;> cases h <;> simp_all [StopRun, CPc.inStopOf, CPc.isW236, wakeReturn, waitReturn, alive]
  | s tmo o u =>
    -- the service thread moves: the caller is not yet past its join
    obtain ⟨ha, hcal, -, -, -, -, hret⟩ := stepS_frame h
    rw [StopRun, hcal, hret]
    exact hR.imp_left fun ⟨hin, hw⟩ => ⟨hin, fun hj => by rw [hw hj] at ha; cases ha⟩
  | call k => cases ht

/-- **`stop()` never raises, and a waiting `stop()` joins.**  For every schedule: a call `stop(forever, wait)` issued by the idle
    caller, once it is over (whatever the two threads did in between), has returned normally — no AttributeError, no TimeoutError —
    and if `wait=True` the service thread has ended.  (That it *is* over eventually: `loop_exits_after_stop` — the loop ends
    within 11 statements — and `waiting_stop_completes`.) -/
theorem stop_returns_normally (pre post : List Tick) (f w : Bool) (h0 : (exec .head init pre).cal = .idle)
    (hp : ∀ t ∈ post, t.isCall = false)
    (h1 : (exec .head init (pre ++ Tick.call (.stop f w) :: post)).cal = .idle) :
    (exec .head init (pre ++ Tick.call (.stop f w) :: post)).ret = .stopRet f w ∧
      (w = true → alive (exec .head init (pre ++ Tick.call (.stop f w) :: post)) = false) := by
  have hs1 : StopRun f w (exec .head (exec .head init pre) [Tick.call (.stop f w)]) := by
    simp only [exec, step, h0, beq_self_eq_true, ↓reduceIte, Option.getD_some]
    exact Or.inl ⟨by simp [Call.entry, CPc.inStopOf], nofun⟩
  have hR := exec_induct (fun _ _ _ => StopRun_step) hs1 hp
  rw [← exec_append, ← exec_append] at hR
  simp only [List.singleton_append] at hR
  rcases hR with ⟨hin, -⟩ | ⟨-, hret⟩
  · rw [h1] at hin; cases hin
  · exact ⟨hret, fun hw => by subst hw; exact ((Inv_reach _).retStop h1 f true hret).2 rfl⟩

/-- once the loop thread has ended, the join of a waiting `stop()` is enabled and the call returns in two statements -/
theorem waiting_stop_completes (s : St) (f : Bool) (t1 t2 : Bool) (hc : s.cal = .w235j (some (f, true)) false)
    (ha : alive s = false) :
    (exec .head s [.c t1, .c t2]).cal = .idle ∧ (exec .head s [.c t1, .c t2]).ret = .stopRet f true := by
  cases s
  subst hc
  simp_all [exec, step, stepC, waitReturn, alive]

/-- **Kernel-checked witness that the pre-fix program raises** (variant `.wakeTwice`): the loop leaves on its own (`until()` true)
    while a waiting final `stop()` is between the two reads of `wake()`: `stop()` raises AttributeError instead of joining (the loop
    still ends and `done()` still runs). -/
theorem wake_twice_raises :
    let sched := [Tick.call .start, .c false, .c false, .c false, .c false, .c false, .c false, .c false,
                  .s false .success true, .s false .success true, .s false .success true, .s false .success true,
                  .s false .success true, .s false .success true, .s false .success true, .s false .success true,
                  .call (.stop true true), .c false, .c false, .c false,
                  .s false .success false, .s false .success false, .s false .success false,
                  .c false,
                  .s false .success false, .s false .success false]
    (exec .wakeTwice init sched).ret = .attrErr ∧ (exec .wakeTwice init sched).cal = .idle ∧
      (exec .wakeTwice init sched).nDone = 1 ∧ alive (exec .wakeTwice init sched) = false := by
  decide

/-- the same schedule on the program as it is: `stop()` goes on to its join and returns normally -/
theorem wake_once_same_schedule :
    let sched := [Tick.call .start, .c false, .c false, .c false, .c false, .c false, .c false, .c false,
                  .s false .success true, .s false .success true, .s false .success true, .s false .success true,
                  .s false .success true, .s false .success true, .s false .success true, .s false .success true,
                  .call (.stop true true), .c false, .c false, .c false,
                  .s false .success false, .s false .success false, .s false .success false,
                  .c false,
                  .s false .success false, .s false .success false,
                  .c false, .c false, .c false, .c false]
    (exec .head init sched).ret = .stopRet true true ∧ (exec .head init sched).cal = .idle ∧
      (exec .head init sched).nDone = 1 ∧ alive (exec .head init sched) = false := by
  decide

/-- satisfiability of the hypotheses of `stop_is_never_lost`, `loop_exits_after_stop`, `no_do_after_waiting_stop_returns` and
    `restart_after_nonfinal_stop_partial`: a schedule that starts the service, stops it (not finally, waiting) and
    returns -/
example :
    let pre := [Tick.call .start, .c false, .c false, .c false, .c false, .c false, .c false, .c false,
                .call (.stop false true), .c false, .c false, .c false, .c false, .c false,
                .s false .success false, .s false .success false, .s false .success false, .s false .success false,
                .s false .success false, .s false .success false, .s false .success false, .c false, .c false]
    (exec .head init (pre.take 11)).cal.stopWritten = true ∧ (exec .head init (pre.take 13)).cal.stopWoken = true ∧
      (exec .head init pre).cal = .idle ∧ (exec .head init pre).ret = .stopRet false true := by
  decide

/-- the labels of the program counters, in program order, are exactly the rows of kind "S" of the audited statement table
    (which Props/C18Sites.lean proves equal to the table extracted from the source under test) -/
theorem model_labels_are_audited : pcLabels = auditedLabels := by decide +kernel

end CS.Runnable.Th
