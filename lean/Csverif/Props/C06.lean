import Csverif.Proofs.EventRun
import Csverif.Proofs.Spec
import Csverif.Props.C06Durable  -- not used below: the durable-coverage half of C06 is built with this module
import Csverif.Model.Spec.Restart
/-
C06 — restart resumes from persisted state; offline changes are synchronised.

In `CS.Event`: theorems about the EventManager model (Model/Event.lean), for every sequence of actions from a fresh
world - user operations, engine effects one at a time, a stop between any two of them, restarts, storage rows
corrupted or deleted while the engine is down, provider cursors expiring, new provider objects.
In `CS.Spec`: the end-to-end verdicts the engine-level monitor (Driver/MonC06.lean) computes (Model/Spec/Restart.lean).
-/
namespace CS.Event

/-- reachable from a fresh world (`init`) by any sequence of actions (`Act`) -/
def Reachable (s : St) : Prop :=
  ∃ cfg n p objs r acts, s = run (init cfg n p objs r) acts

/-- every reachable state satisfies the invariant of Proofs/Event.lean (what each clause is there for is said above `UpInv`) -/
theorem reachable_inv {s : St} (h : Reachable s) : Inv s := by
  obtain ⟨cfg, n, p, objs, r, acts, rfl⟩ := h
  exact inv_run _ _ (inv_init cfg n p objs r)

theorem reachable_apply {s : St} (h : Reachable s) (a : Act) : Reachable (apply s a) := by
  obtain ⟨cfg, n, p, objs, r, acts, rfl⟩ := h
  exact ⟨cfg, n, p, objs, r, acts ++ [a], by simp [run]⟩

/-- **cursor_never_ahead.**  In every reachable state, every feed event at or below the stored cursor - and above the
    position the cursor was last *seeded* at from the provider, below which a walk is responsible - has its effect committed. -/
theorem cursor_never_ahead (s : St) (hs : Reachable s) (c i : Int)
    (hc : s.store.cursor = some (.int c)) (hseed : s.ghost.seed < i) (hi : i ≤ c) : i ∈ s.store.log :=
  (reachable_inv hs).g1 c i hc hseed hi

/-- the in-memory half: once `_do_first_init` has positioned the provider (at `base`), every event the provider
    has handed out since is delivered, or waits in the queue, or is the one just fetched - unless the object
    was told to stop for good and has returned (it is dead then, a new engine starts from storage). -/
theorem no_event_skipped_in_memory (s : St) (hs : Reachable s) (m : Mem) (hm : s.mem = some m)
    (hfd : m.firstDo = false) (hlive : ¬ (m.stopping = true ∧ m.pc = .idle)) (i : Int)
    (hb : s.ghost.base < i) (hi : i ≤ s.prov.cur) :
    Tr.ev i ∈ s.ghost.fresh ∨ i ∈ m.queue ∨ m.pc = .fetched i := by
  rcases ((reachable_inv hs).up m hm).u4 hfd with h | h
  · exact absurd h hlive
  · exact h i hb hi

/-- the in-memory cursor (what `_save_current_cursor` compares with) never runs ahead of the provider -/
theorem memory_cursor_le_position (s : St) (hs : Reachable s) (m : Mem) (hm : s.mem = some m)
    (hfd : m.firstDo = false) : ∃ c, m.cursor = some (.int c) ∧ s.ghost.base ≤ c ∧ c ≤ s.prov.cur :=
  ((reachable_inv hs).up m hm).u2 hfd

/-- **restart_replays_suffix** (at-least-once).  The engine is down, storage holds the integer cursor `c`, the
    provider accepts it.  A new engine over the same storage, on its first do(), delivers *again* every event
    after `c` that the feed holds, and the do() returns. -/
theorem restart_replays_suffix (s : St) (hs : Reachable s) (c : Int) (hdown : s.mem = none)
    (hc : s.store.cursor = some (.int c)) (hacc : s.prov.minValid ≤ c) (hv : validatesAtStart s) :
    (doAll (apply s .start)).pcIdle = true ∧
    ∀ i, c < i → i ≤ s.prov.latest →
      Tr.ev i ∈ (doAll (apply s .start)).ghost.fresh ∧ i ∈ (doAll (apply s .start)).store.log := by
  obtain ⟨m0, h0, hval, hcur, hfd, hq, hpc, hst, _, _⟩ := start_mem s hdown hv
  have hinv0 : Inv (apply s .start) := inv_apply s .start (reachable_inv hs)
  generalize apply s .start = S at h0 hinv0 ⊢
  have hmS : S.mem = some m0 := by rw [h0]
  have hpS : S.prov = s.prov := by rw [h0]
  obtain ⟨m', r, -⟩ :=
    doAll_accepted S m0 c hinv0 hmS hval hpc hst hfd (by rw [hcur, hc]) (by rw [hpS]; exact hacc) (fun _ => True)
      (fun _ _ _ _ _ _ => trivial) trivial
  exact ⟨r.pcIdle, fun i hci hil => r.delivered i hci (hpS ▸ hil)⟩

/-- **walk_when_cursor_missing** (1).  Whenever an EventManager with a root validates it and finds no stored
    cursor, `need_walk` is set - in the constructor or in a later do(), whatever else storage holds. -/
theorem walk_when_cursor_missing (p : Prov) (st : Store) (m : Mem) (hv : m.validated = false)
    (hc : st.cursor = none) (hval : (validateRoot p st m).validated = true)
    (hroot : (validateRoot p st m).rootOid = true) : (validateRoot p st m).needWalk = true := by
  rw [validateRoot_eq p st m hv] at hval hroot ⊢
  split at hval
  · simp_all
  · exact absurd (hv.symm.trans hval) nofun

/-- **walk_when_cursor_missing** (2).  The engine is down and the cursor row is missing (never written, or
    deleted).  The new engine's first do() persists the provider's position, then completes a full walk and
    writes the walk marker before it returns; afterwards no walk is due. -/
theorem walk_when_cursor_missing_walks (s : St) (hs : Reachable s) (hcfg : s.cfg ≠ .noRoot)
    (hdown : s.mem = none) (hc : s.store.cursor = none) (hv : validatesAtStart s) :
    (∃ m, (apply s .start).mem = some m ∧ m.needWalk = true) ∧
    (doAll (apply s .start)).pcIdle = true ∧
    (doAll (apply s .start)).store.walked = true ∧ (doAll (apply s .start)).ghost.walkDue = false ∧
    (∀ m, (doAll (apply s .start)).mem = some m → m.needWalk = false) := by
  obtain ⟨m0, h0, hval, hcur, hfd, hq, hpc, hst, hnw, hro⟩ := start_mem s hdown hv
  have hro := hro hcfg
  have hnw : m0.needWalk = true := by rw [hnw hro, hc]; rfl
  have hinv0 : Inv (apply s .start) := inv_apply s .start (reachable_inv hs)
  generalize apply s .start = S at h0 hinv0 ⊢
  have hmS : S.mem = some m0 := by rw [h0]
  refine ⟨⟨m0, hmS, hnw⟩, ?_⟩
  obtain ⟨m', r, hwalk⟩ :=
    doAll_seed S m0 hinv0 hmS hval hpc hst hfd (by rw [hcur, hc]) WalkDone walkDone_step
      (Or.inl ⟨_, S.prov.objs, rfl, by simp [afterInit, hnw, hro]⟩)
  exact ⟨r.pcIdle, walkDone_idle hwalk r.mem r.idle⟩

/-- **walk_when_cursor_rejected.**  The engine is down, storage holds a cursor the provider rejects (not an
    integer, or expired).  The new engine's first do() delivers nothing, resets the provider to its newest
    position, deletes the stored walk marker, persists that position and sets `need_walk`; its second do() completes a full walk (marker
    written, no walk due any more) and drains the feed. -/
theorem walk_when_cursor_rejected (s : St) (hs : Reachable s) (hcfg : s.cfg ≠ .noRoot) (v : CVal)
    (hdown : s.mem = none) (hc : s.store.cursor = some v) (hrej : s.prov.accept? v = none)
    (hv : validatesAtStart s) :
    let s1 := doAll (apply s .start)
    let s2 := doAll s1
    (∃ m1, s1.mem = some m1 ∧ m1.needWalk = true ∧ m1.pc = .idle) ∧
    s1.store.cursor = some (.int s.prov.latest) ∧ s1.store.walked = false ∧ s1.ghost.fresh = [] ∧
    s2.pcIdle = true ∧ s2.store.walked = true ∧ s2.ghost.walkDue = false ∧
    (∀ m2, s2.mem = some m2 → m2.needWalk = false) ∧ s.prov.latest ≤ s2.prov.cur := by
  intro s1 s2
  obtain ⟨m0, h0, hval, hcur, hfd, hq, hpc, hst, hnw, hro⟩ := start_mem s hdown hv
  have hro := hro hcfg
  have hinv := reachable_inv hs
  have hinv0 : Inv (apply s .start) := inv_apply s .start hinv
  have hne : some (CVal.int s.prov.latest) ≠ m0.cursor := by
    rw [hcur, hc]
    intro h
    simp only [Option.some.injEq] at h
    subst h
    have := hinv.g3
    simp [Prov.accept?] at hrej
    omega
  have hs1 : s1 = _ := doAll_rejected (apply s .start) m0 v (by rw [h0]) hval hpc hst hfd (by rw [hcur, hc])
    (by rw [h0]; exact hrej) (by rw [h0]; exact hne)
  have hinv1 : Inv s1 := finish_inv _ _ (inv_apply _ .callDo hinv0)
  rw [h0] at hs1
  simp only at hs1
  have hm1 : s1.mem = some { m0 with cursor := some (.int s.prov.latest), needWalk := true, pc := .idle } := by rw [hs1]
  have hp1 : s1.prov = { s.prov with cur := s.prov.latest } := by rw [hs1]
  obtain ⟨m', r, hwalk⟩ :=
    doAll_accepted s1 _ s.prov.latest hinv1 hm1 hval rfl hst hfd rfl (by rw [hp1]; exact hinv.g3) WalkDone
      walkDone_step (Or.inl ⟨_, s1.prov.objs, rfl, by simp [afterInit, hro]⟩)
  obtain ⟨hw, hd, hn⟩ := walkDone_idle hwalk r.mem r.idle
  exact ⟨⟨_, hm1, rfl, rfl⟩, by rw [hs1], by rw [hs1]; simp [hro], by rw [hs1], r.pcIdle, hw, hd, hn,
    by have := r.drained; rwa [hp1] at this⟩

/-- **walk_precedes_events.**  While `need_walk` is set (and a root is known) the engine is never in the queue /
    event-loop / cursor-save part of do(): no feed event is processed and no cursor is saved before the walk has
    completed - unless a final stop was requested (then the walk loop is left and the object dies). -/
theorem walk_precedes_events (s : St) (hs : Reachable s) (m : Mem) (hm : s.mem = some m)
    (hro : m.rootOid = true) (hnw : m.needWalk = true) (hst : m.stopping = false) :
    m.pc = .idle ∨ m.pc = .firstInit ∨ m.pc = .seedSave ∨ (∃ k, m.pc = .walkItem k) ∨ m.pc = .errReset ∨
      m.pc = .errForget ∨ m.pc = .errSave := by
  have h := ((reachable_inv hs).up m hm).u9 hro hnw hst
  cases hpc : m.pc <;> simp_all [PC.preWalk]

/-- **do_returns.**  Every do() returns: running the effects of the current do() one after the other reaches
    the end of the call within `measure s` effects. -/
theorem do_returns (s : St) : (doAll s).pcIdle = true := by
  simp only [doAll]
  exact finish_idle _ _ (Nat.le_refl _)

/-- decidable form of "a due walk has been forgotten" (the driver and the two regression witnesses evaluate it) -/
def lostB (s : St) : Bool :=
  s.ghost.walkDue &&
  !(match s.mem with
    | some m =>
      if m.validated then m.needWalk || (m.firstDo && m.cursor == some .bad)
      else s.store.cursor == none || s.store.cursor == some .bad || !s.store.walked
    | none => s.store.cursor == none || s.store.cursor == some .bad || !s.store.walked)

theorem lostB_iff (s : St) : lostB s = true ↔ ¬ NoLost s := by
  unfold lostB NoLost WalkPending
  cases s.ghost.walkDue <;> cases s.mem with
  | none => simp [Option.isSome_iff_ne_none, and_assoc]
  | some m =>
    cases hv : m.validated <;> cases hf : m.firstDo <;> simp [hv, hf, Option.isSome_iff_ne_none, and_assoc]

theorem nolost_run (s : St) (acts : List Act) (hinv : Inv s) (hcfg : s.cfg ≠ .noRoot) (hn : NoLost s) :
    NoLost (run s acts) :=
  (run_induction (P := fun s => Inv s ∧ s.cfg ≠ .noRoot ∧ NoLost s)
    (fun s a ⟨hi, hc, hn⟩ => ⟨inv_apply s a hi, apply_cfg s a ▸ hc, nolost_apply s a hi hc hn⟩) s acts
    ⟨hinv, hcfg, hn⟩).2.2

/-- **walk_survives_restart.**  For every sequence of actions - stops between any two effects included: whenever a
    walk is due (the stored cursor was re-seeded from the provider, or the entries were dropped, and no walk has
    completed since), something will trigger it (`WalkPending`), in memory or - engine down or root not validated yet - in storage.
    At full strength for the code as repaired by commit 3398b1e (the stored walk marker is deleted before a re-seeded
    cursor is persisted); FALSE on the code before it: the two action sequences of the known findings
    need-walk-not-persisted/* (`fixed:`) lose the walk there (`formerRejected`, `formerMissing` below: on the repaired
    code they end in a walk). -/
theorem walk_survives_restart (cfg : RootCfg) (hcfg : cfg ≠ .noRoot) (n : Nat) (p : Int) (objs : Nat)
    (r : Bool) (acts : List Act) : NoLost (run (init cfg n p objs r) acts) :=
  nolost_run _ acts (inv_init cfg n p objs r) hcfg (by simp [NoLost, init])

/-- `walk_survives_restart` for reachable states, spelled out for an engine that is down: if a walk is due, storage shows it, so the
    next engine will set `need_walk` or meet a rejected cursor -/
theorem walk_due_is_on_disk (s : St) (hs : Reachable s) (hcfg : s.cfg ≠ .noRoot) (hdown : s.mem = none)
    (hd : s.ghost.walkDue = true) :
    s.store.cursor = none ∨ s.store.cursor = some .bad ∨ s.store.walked = false := by
  obtain ⟨cfg, n, p, objs, r, acts, rfl⟩ := hs
  have hc : cfg ≠ .noRoot := by simpa [run_cfg, init] using hcfg
  have h := walk_survives_restart cfg hc n p objs r acts hd
  simpa [WalkPending, hdown] using h

/-- **former_window_unreachable.**  The window of the former finding - `need_walk` only in memory while storage
    holds a walk marker and an integer cursor - is empty for the repaired code. -/
theorem former_window_unreachable (s : St) (hs : Reachable s) : ¬ FormerWindow s := by
  rintro ⟨m, hm, hv, hro, hnw, hw, c, hc⟩
  have hu := (reachable_inv hs).up m hm
  rcases hu.u13 hv hro hnw with h | h
  · simp [hw] at h
  · rcases hu.u7 hv with h7 | h7
    · simp [hc] at h7
    · rw [h7, h] at hc
      simp at hc

/-- the first run: new engine, root validated, first do() (position taken, cursor persisted, walk of one object,
    marker, the one feed event, cursor saved), engine stopped -/
def firstRun : List Act :=
  [.start, .setRoot, .callDo, .step, .step, .step, .step, .step, .step, .step, .step, .step, .stop]

/-- the replay of the former finding need-walk-not-persisted/rejected-cursor: synced, engine down, a user
    operation, the stored cursor becomes unacceptable, new engine, one do() (the CloudCursorError path), engine
    stopped again -/
def formerRejected : List Act :=
  firstRun ++ [.user 2, .corrupt, .start, .callDo, .step, .step, .step, .step, .stop]

/-- … and of need-walk-not-persisted/missing-cursor-stop-in-walk: the cursor row is deleted, a new provider object
    stands at the newest position, the new engine's first do() is stopped after it persisted the position and
    before the walk completed -/
def formerMissing : List Act :=
  firstRun ++ [.user 2, .delCursor, .provCur 1, .start, .callDo, .step, .step, .stop]

/-- regression witness: after `formerRejected` the walk marker is gone, and the next engine walks (both objects
    offered) before it goes idle -/
theorem former_rejected_now_walks :
    let s := run (init .pathOnly 1 (-1) 1 false) formerRejected
    let s' := doAll (apply s .start)
    lostB s = false ∧ s.store.walked = false ∧ s.store.cursor = some (.int 1) ∧
      s'.pcIdle = true ∧ s'.store.walked = true ∧ s'.ghost.walkDue = false ∧ s'.ghost.fresh = [.w, .w] := by
  decide

/-- regression witness 2: the same after `formerMissing` -/
theorem former_missing_now_walks :
    let s := run (init .pathOnly 1 (-1) 1 false) formerMissing
    let s' := doAll (apply s .start)
    lostB s = false ∧ s.store.walked = false ∧ s.store.cursor = some (.int 1) ∧
      s'.pcIdle = true ∧ s'.store.walked = true ∧ s'.ghost.walkDue = false ∧ s'.ghost.fresh = [.w, .w] := by
  decide

instance (s : St) : Decidable (validatesAtStart s) := by unfold validatesAtStart; infer_instance

/-- non-vacuity: a run with stops at awkward places - the second engine is stopped after it processed event 1 and
    before it saved the cursor, the third one delivers event 1 again; the hypotheses of the theorems above are
    satisfiable -/
example :
    let w := init .pathOnly 1 (-1) 1 false
    let acts := firstRun ++ [.user 2, .start, .callDo, .step, .step, .step, .step, .step, .stop,
      .start, .callDo, .step, .step, .step, .step, .step, .step, .stop]
    (run w (firstRun ++ [.user 2, .start, .callDo, .step, .step, .step, .step, .step,
        .stop])).store = { cursor := some (.int 0), walked := true, log := [1, 0] } ∧
      (run w acts).store = { cursor := some (.int 1), walked := true, log := [1, 1, 0] } ∧
      (run w acts).mem = none ∧ validatesAtStart (run w acts) ∧ (run w firstRun).prov.accept? .bad = none := by
  refine ⟨by decide, by decide, by decide, by decide, by decide⟩

end CS.Event

namespace CS.Spec

/-- the verdict `noRetransfer` of the restart monitor (`u` = tags of the files already synchronised and untouched while the engine was
    down, `t` = tags transferred after the restart) says exactly: no transferred tag belongs to such a file -/
theorem noRetransfer_iff (u t : List Nat) : noRetransfer u t = true ↔ ∀ x ∈ t, x ∉ u := by
  simp [noRetransfer, retransferred, List.filter_eq_nil_iff]

theorem retransferred_sound (u t : List Nat) (x : Nat) : x ∈ retransferred u t ↔ x ∈ t ∧ x ∈ u := by
  simp [retransferred]

theorem noRetransfer_nil_left (t : List Nat) : noRetransfer [] t = true := by
  simp [noRetransfer, retransferred]

theorem noRetransfer_nil_right (u : List Nat) : noRetransfer u [] = true := by
  simp [noRetransfer, retransferred]

theorem noRetransfer_mono (u u' t t' : List Nat) (hu : ∀ x ∈ u', x ∈ u) (ht : ∀ x ∈ t', x ∈ t)
    (h : noRetransfer u t = true) : noRetransfer u' t' = true := by
  rw [noRetransfer_iff] at h ⊢
  exact fun x hx hxu => h x (ht x hx) (hu x hxu)

theorem noArtefacts_iff (l r : Tree) :
    noArtefacts l r = true ↔ (∀ e ∈ l, isConflicted e.1 = false) ∧ (∀ e ∈ r, isConflicted e.1 = false) := by
  simp [noArtefacts]

/-- without artefacts, C01's convergence is plain equality of the two trees as sets -/
theorem noArtefacts_converged (l r : Tree) (h : noArtefacts l r = true) :
    converged l r = l.sameAs r := by
  rw [noArtefacts_iff] at h
  simp only [converged, Tree.core_eq_self h.1, Tree.core_eq_self h.2]

theorem restartOk_iff (u t : List Nat) (l r : Tree) :
    restartOk u t l r = true ↔
      (∀ x ∈ t, x ∉ u) ∧ ((∀ e ∈ l, isConflicted e.1 = false) ∧ (∀ e ∈ r, isConflicted e.1 = false)) ∧
        l.sameAs r = true := by
  simp only [restartOk, Bool.and_eq_true, noRetransfer_iff, noArtefacts_iff]
  constructor
  · rintro ⟨⟨h1, h2⟩, h3⟩
    exact ⟨h1, h2, by rw [← noArtefacts_converged l r ((noArtefacts_iff l r).mpr h2)]; exact h3⟩
  · rintro ⟨h1, h2, h3⟩
    exact ⟨⟨h1, h2⟩, by rw [noArtefacts_converged l r ((noArtefacts_iff l r).mpr h2)]; exact h3⟩

/-- non-vacuity: an accepted restart, a re-transfer, an artefact -/
example :
    let l : Tree := [(["a"], .file 1), (["b"], .file 2)]
    restartOk [1] [2] l l = true ∧ restartOk [1] [1, 2] l l = false ∧
      restartOk [1] [2] ((["a.conflicted"], .file 3) :: l) l = false := by
  decide

end CS.Spec
