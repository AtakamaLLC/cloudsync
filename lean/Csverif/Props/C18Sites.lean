import Csverif.Model.RunnableThreads
import Csverif.Gen.RunnableSites
/-
C18 — the statement / write-site tables extracted from cloudsync/runnable.py of the repo under test
(Gen/RunnableSites.lean, regenerated by tools/gen_runnable_sites.py on every run of the C18 check) equal the audited tables
the two-thread model (Model/RunnableThreads.lean) was written from.

This module is deliberately NOT imported by `Csverif.lean`: a moved / added / removed / changed statement of the protocol
methods of `Runnable` must break C18's obligation, not the build of the other properties; the C18 harness
(harness/c18_runnable.py) regenerates the tables, builds this module itself and audits its two theorems.  When it breaks, the
harness searches the real code for a failing schedule.
-/
namespace CS.Runnable.Th

/-- every statement of `run`, `interruptable_sleep`, `wake`, `start`, `stop`, `wait` (and the small helpers) is where, and what,
    the model assumes: same method, same enclosing blocks, same order, same text -/
theorem runnable_stmts_are_audited : CS.Gen.runnableStmts = auditedStmts := rfl

/-- every write of a private flag / backoff field: same method, same position among the writes of the method, same value -/
theorem runnable_writes_are_audited : CS.Gen.runnableWrites = auditedWrites := rfl

end CS.Runnable.Th
