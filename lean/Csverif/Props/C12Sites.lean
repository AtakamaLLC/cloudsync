import Csverif.Props.C12
import Csverif.Gen.WriteSites
/-
C12 — the generated write-site table equals the audited list.

`Gen/WriteSites.lean` is regenerated from the repo under test on every run of the C12 check
(tools/gen_write_sites.py).  This module is deliberately NOT imported by `Csverif.lean`: a changed table must
break C12's obligation, not the build of the other properties; the C12 harness builds it explicitly.
-/
namespace CS.Spec

/-- every call of a mutating provider-method name in manager.py / smartsync.py / state.py / cs.py, and the value
    flow of the path-valued targets, is exactly the audited list of Props/C12.lean (whose rows are all classified:
    `audited_rows_classified`) -/
theorem write_sites_are_known : CS.Gen.writeSites = auditedSites.map (·.1) := rfl

end CS.Spec
