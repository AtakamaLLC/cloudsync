import Csverif.Gen.PuntSites
import Csverif.Props.C17Punt
/-
C17 — the tie between the source and the audited `except`-clause tables of Model/SchedSites.lean.
`Gen/PuntSites.lean` is regenerated from the source tree by tools/gen_punt_sites.py on every run of the check; this module
is rebuilt then (it is deliberately NOT imported by Csverif.lean: a change of the source must break only this obligation,
not the build of the library).  If a handler of `_sync_one_entry` / `do` / `sync` changes its classes, their order, or what
its body reaches (punt / finished / backoff / raise), or any `except` clause anywhere in `SyncManager` is added, removed,
reordered or rewritten, the kernel's comparison fails here and the check searches for a failing input (the starvation family).
-/
namespace CS.SchedSites
open CS.Gen CS.Faults CS.SchedLoop

/-- the tables generated from the source are exactly the audited ones -/
theorem gen_table_eq_audited :
    PuntSites.syncOneEntry = auditedSyncOneEntry ∧ PuntSites.doClauses = auditedDo ∧
    PuntSites.syncClauses = auditedSync ∧ PuntSites.syncCalledPlain = auditedSyncCalledPlain ∧
    PuntSites.sites = auditedSites ∧ PuntSites.unmapped = 0 := ⟨rfl, rfl, rfl, rfl, rfl, rfl⟩

/-- of the generated table: every `Exception` the sync work can raise lands in a clause that punts -/
theorem gen_every_exception_punts :
    ∀ e ∈ Exc.all, isSub e .exception_ = true →
      ∃ c, catches PuntSites.syncOneEntry e = some c ∧ c.punts = true ∧ c.finishes = false := by
  intro e _ he
  obtain ⟨c, hc, hp, _, hf, _⟩ := audited_every_exception_punts e he
  exact ⟨c, gen_table_eq_audited.1 ▸ hc, hp, hf⟩

/-- the hypothesis of `loop_no_starvation_failures`, discharged for the source as it is -/
theorem gen_progress : ProgressOnFailure PuntSites.syncOneEntry :=
  gen_table_eq_audited.1 ▸ audited_progress

/-- the generated `prioritize`-site tables are exactly the audited ones -/
theorem gen_prio_sites_eq_audited :
    PuntSites.prioChangePath = auditedPrioChangePath ∧
    PuntSites.prioChangeOid = auditedPrioChangeOid ∧
    PuntSites.prioUpdate = auditedPrioUpdate ∧
    PuntSites.prioUpdateEntry = auditedPrioUpdateEntry ∧
    PuntSites.prioUpdateKids = auditedPrioUpdateKids ∧
    PuntSites.prioUpdateKidsOf = auditedPrioUpdateKidsOf ∧
    PuntSites.prioGetLatest = auditedPrioGetLatest ∧
    PuntSites.prioSplit = auditedPrioSplit ∧
    PuntSites.prioSetItem = auditedPrioSetItem ∧
    PuntSites.prioPunt = auditedPrioPunt ∧
    PuntSites.prioFinished = auditedPrioFinished := ⟨rfl, rfl, rfl, rfl, rfl, rfl, rfl, rfl, rfl, rfl, rfl⟩

/-- in `_change_path` the priority refresh is reached on every path that changes the path: the only `return` before the
    `prioritize(` call is the one for an unchanged path, the call and the write are guarded by `if path:` only, and the
    kids are updated (each through `_change_path` again) before it; in `_update_kids_of` the only `continue` sits under the
    folder test, the loop over the kids and the test for a kid that is itself being moved -/
theorem gen_change_path_always_reprioritises :
    returnsBeforePrioritize PuntSites.prioChangePath = [["prior_path == path"]] ∧
    (PuntSites.prioChangePath.filter (fun i => i.kind == "prioritize")).map (·.guards) = [["path"]] ∧
    (PuntSites.prioUpdateKidsOf.filter (fun i => i.kind == "continue")).map (·.guards.length) = [3] := by decide +kernel

end CS.SchedSites
