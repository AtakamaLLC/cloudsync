import Csverif.Gen.DirectWrites
/-
C08, generated fact table: every write to a private entry/side field in state.py, manager.py, smartsync.py, event.py,
cs.py that does not go through the normal path of the `__setattr__` hooks (tools/gen_direct_writes.py regenerates
Gen/DirectWrites.lean from the repo under test before every check).  `audited` is the hand-audited list; the theorem
re-checks, in the kernel, that the code still has exactly these sites.  This module is built on its own
(`lake build Csverif.Props.C08Writes`), not as part of the library root: a code change that adds a site must break
this theorem only, not the build of every other property.

Audit of the sites that are not constructor initialisations (status column explained in the generator):
  * SideState._set_mtime / _set_exists: write, then call `updated` (dirty).                            [modelled: mtimePost/existsPost]
  * SideState.__setattr__, `object.__setattr__(self, k, v)`: pass-through for underscore names (the hook's own escape hatch).
  * SideState.__setattr__, `_saved_exists`/`_exists` ×3: the two CORRUPT early returns (115-122): the side changes and
    `updated` is never called.  NOT dirty-marked; in the engine `handle_corrupt` follows with `mark_changed` on the
    same entry (manager.py:1302-1305) and `update_entry` with `mark_changed` (state.py:1033-1038).   [modelled: existsPre → ghost `silent`]
  * SideState.uncorrupt: after `_set_exists` (dirty).                                                  [modelled: Side.uncorrupt]
  * deserialize ×5: run only while the state is loading.
  * SyncEntry.__setitem__ `val._path`/`val._oid`: on a private copy; `updated(side, "oid"/"path"/"changed")` follows.  [not modelled]
  * get_latest / mark_dirty / update_entry `_last_gotten`: not a persisted field.
  * SyncState.updated `ent[LOCAL/REMOTE]._changed = False` (key `ignored`) and `ent[other_side(side)]._changed = 0`
    (key `changed`, commit ea02bff): the entry being updated, `_dirtyset.add(ent)` follows.             [modelled: updatedEnt, updatedChanged]
  * SyncState._storage_update `ent._storage_id = None` (after the row of a trash entry is deleted): the storage id is
    not a persisted field; a direct write on purpose (the hooked one would re-mark the entry dirty inside the
    commit loop).                                                                                       [modelled: storageUpdate]
  * SyncState._change_path `prior_ent[side]._path = None`: a *different* entry (the ousted one); nothing marks it
    dirty — the statements that follow dirty `ent` (the row's status `dirty-after` is syntactic: some statement that
    reaches `_dirtyset.add` follows the site, whichever entry it adds).  Reached only when the path index holds another entry under
    `ent`'s own id (never, while the indexes are consistent: C11).                                      [modelled: ghost `silent`]
  * SyncState._change_path `ent[side]._path`, _change_oid `ent[side]._oid`: the entry being updated.    [modelled]
-/
namespace CS.Gen.DirectWrites

def audited : List (String × String × String × String × String) := [
  ("cloudsync/sync/state.py", "SideState.__init__", "self._side", "assign", "init"),
  ("cloudsync/sync/state.py", "SideState.__init__", "self._otype", "assign", "init"),
  ("cloudsync/sync/state.py", "SideState.__init__", "self._hash", "assign", "init"),
  ("cloudsync/sync/state.py", "SideState.__init__", "self._changed", "assign", "init"),
  ("cloudsync/sync/state.py", "SideState.__init__", "self._last_gotten", "assign", "init"),
  ("cloudsync/sync/state.py", "SideState.__init__", "self._sync_hash", "assign", "init"),
  ("cloudsync/sync/state.py", "SideState.__init__", "self._sync_path", "assign", "init"),
  ("cloudsync/sync/state.py", "SideState.__init__", "self._path", "assign", "init"),
  ("cloudsync/sync/state.py", "SideState.__init__", "self._oid", "assign", "init"),
  ("cloudsync/sync/state.py", "SideState.__init__", "self._exists", "assign", "init"),
  ("cloudsync/sync/state.py", "SideState.__init__", "self._force_sync", "assign", "init"),
  ("cloudsync/sync/state.py", "SideState.__init__", "self._temp_file", "assign", "init"),
  ("cloudsync/sync/state.py", "SideState.__init__", "self._size", "assign", "init"),
  ("cloudsync/sync/state.py", "SideState.__init__", "self._mtime", "assign", "init"),
  ("cloudsync/sync/state.py", "SideState.__init__", "self._saved_exists", "assign", "init"),
  ("cloudsync/sync/state.py", "SideState._set_mtime", "self._mtime", "assign", "dirty-after"),
  ("cloudsync/sync/state.py", "SideState.__setattr__", "object.__setattr__(self, k, v)", "setattr-dynamic", "hook-early-return"),
  ("cloudsync/sync/state.py", "SideState.__setattr__", "self._saved_exists", "assign", "hook-early-return"),
  ("cloudsync/sync/state.py", "SideState.__setattr__", "self._exists", "assign", "hook-early-return"),
  ("cloudsync/sync/state.py", "SideState.__setattr__", "self._saved_exists", "assign", "hook-early-return"),
  ("cloudsync/sync/state.py", "SideState.__setattr__", "object.__setattr__(self, '_' + k, v)", "setattr-dynamic", "hook"),
  ("cloudsync/sync/state.py", "SideState._set_exists", "self._exists", "assign", "dirty-after"),
  ("cloudsync/sync/state.py", "SideState.uncorrupt", "self._saved_exists", "assign", "dirty-before"),
  ("cloudsync/sync/state.py", "SideState.deserialize", "self._saved_exists", "assign", "loading"),
  ("cloudsync/sync/state.py", "SideState.deserialize", "self._saved_exists", "assign", "loading"),
  ("cloudsync/sync/state.py", "SyncEntry.__init__", "self._ignored", "assign", "init"),
  ("cloudsync/sync/state.py", "SyncEntry.__init__", "self._storage_id", "assign", "init"),
  ("cloudsync/sync/state.py", "SyncEntry.__init__", "self._priority", "assign", "init"),
  ("cloudsync/sync/state.py", "SyncEntry.__init__", "self._storage_id", "assign", "init"),
  ("cloudsync/sync/state.py", "SyncEntry.__setattr__", "object.__setattr__(self, k, v)", "setattr-dynamic", "hook-early-return"),
  ("cloudsync/sync/state.py", "SyncEntry.__setattr__", "object.__setattr__(self, '_' + k, v)", "setattr-dynamic", "hook"),
  ("cloudsync/sync/state.py", "SyncEntry.deserialize", "self._ignored", "assign", "loading"),
  ("cloudsync/sync/state.py", "SyncEntry.deserialize", "self._ignored", "assign", "loading"),
  ("cloudsync/sync/state.py", "SyncEntry.deserialize", "self._ignored", "assign", "loading"),
  ("cloudsync/sync/state.py", "SyncEntry.__setitem__", "val._path", "assign", "dirty-after"),
  ("cloudsync/sync/state.py", "SyncEntry.__setitem__", "val._oid", "assign", "dirty-after"),
  ("cloudsync/sync/state.py", "SyncEntry.get_latest", "self[side]._last_gotten", "assign", "none"),
  ("cloudsync/sync/state.py", "SyncEntry.mark_dirty", "self[side]._last_gotten", "assign", "none"),
  ("cloudsync/sync/state.py", "SyncState.updated", "ent[LOCAL]._changed", "assign", "dirty-after"),
  ("cloudsync/sync/state.py", "SyncState.updated", "ent[REMOTE]._changed", "assign", "dirty-after"),
  ("cloudsync/sync/state.py", "SyncState.updated", "ent[other_side(side)]._changed", "assign", "dirty-after"),
  ("cloudsync/sync/state.py", "SyncState._change_path", "prior_ent[side]._path", "assign", "dirty-after"),
  ("cloudsync/sync/state.py", "SyncState._change_path", "ent[side]._path", "assign", "dirty-after"),
  ("cloudsync/sync/state.py", "SyncState._change_oid", "ent[side]._oid", "assign", "via-updated"),
  ("cloudsync/sync/state.py", "SyncState.update_entry", "ent[side]._last_gotten", "assign", "none"),
  ("cloudsync/sync/state.py", "SyncState._storage_update", "ent._storage_id", "assign", "none")
]

/-- the repo under test has exactly the audited private-field write sites -/
theorem direct_writes_audited : table = audited := rfl

/-- no site outside state.py: the engine (manager.py, smartsync.py, event.py, cs.py) writes entry fields only
    through the hooks -/
theorem no_direct_write_outside_state : table.all (fun r => r.1 == "cloudsync/sync/state.py") = true := by decide +kernel

/-- the sites that change a persisted field of an entry without a dirty mark for *that* entry are exactly the
    CORRUPT early returns and the ousting write -/
def silentSites : List (String × String) :=
  [("SideState.__setattr__", "self._saved_exists"), ("SideState.__setattr__", "self._exists"),
   ("SideState.__setattr__", "self._saved_exists"), ("SyncState._change_path", "prior_ent[side]._path")]

theorem silent_sites_known :
    (table.filter (fun r => r.2.2.2.2 == "hook-early-return" && r.2.2.2.1 == "assign" ||
        r.2.2.1 == "prior_ent[side]._path")).map (fun r => (r.2.1, r.2.2.1)) = silentSites := by decide +kernel

end CS.Gen.DirectWrites
