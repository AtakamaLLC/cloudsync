import Csverif.Model.Resolver
/-
C05 — conflict-resolution contract: both sides end up with the resolver's answer.
Model: Model/Resolver.lean (answer handling of `__safe_call_resolver`, `resolve_conflict`,
`__resolver_merge_upload`, `hash_conflict`, the same-hash shortcut of `handle_split_conflict`).
One theorem per clause of the property; one clause is FALSE of the code and is kept as a comment with
kernel-checked witnesses (replayed on the real engine by harness/c05_resolver.py): merged data with
keep=True.
-/
namespace CS.Resolver

-- every theorem of the file takes the instance, also the six whose statements do not need it (they switch the linter off for themselves)
variable {α : Type} [DecidableEq α]

@[simp] theorem rem_bne_loc : (Side.rem != Side.loc) = true := by decide
@[simp] theorem side_beq_self (s : Side) : (s == s) = true := by cases s <;> decide
@[simp] theorem side_bne_self (s : Side) : (s != s) = false := by cases s <;> decide
@[simp] theorem dir_bne_dir : (OType.dir != OType.dir) = false := by decide

set_option linter.unusedSectionVars false in
/-- same-hash shortcut, either orientation: with an injective hash function on the replaced side and a
    current hash there, the silent merge happens exactly for identical contents -/
theorem same_hash_shortcut_iff {H : Type} [DecidableEq H] (hashOf : Side → α → H) (rs : Side)
    (hinj : ∀ a b, hashOf rs a = hashOf rs b → a = b) (cDefer cReplace : α) :
    splitDecision hashOf .file rs cDefer (some (hashOf rs cReplace)) = .mergeSilently ↔ cDefer = cReplace := by
  unfold splitDecision
  constructor
  · intro h
    by_cases hh : some (hashOf rs cDefer) = some (hashOf rs cReplace)
    · exact hinj _ _ (Option.some.inj hh)
    · simp [hh] at h
  · intro h; subst h; simp

/-- `SyncManager.sync` on a two-sided FILE entry (manager.py:377-380 → `handle_hash_conflict` → `split`
    → `handle_split_conflict` → `resolve_conflict` → `__safe_call_resolver`): is the application asked? -/
def entryCallsResolver (hashOf : Side → α → Nat) (l r : SideAbs) (cr : α) (b : Behaviour α) : Bool :=
  hashConflict l r &&
    (splitDecision hashOf .file splitSides.2 cr l.hash == .resolve) &&
    (safeCall splitSides.1 .file .file b).2

/-- "When (and only when) the same file has different unsynchronised content on both sides, the
    resolver is called; identical content is merged without calling it."  `hashConflict` is the
    engine's "unsynchronised on both sides"; the local hash is current (`hcur`); hashing is injective. -/
theorem resolver_called_iff_hash_conflict_and_differs (hashOf : Side → α → Nat)
    (hinj : ∀ a b, hashOf .loc a = hashOf .loc b → a = b) (l r : SideAbs) (cl cr : α)
    (hcur : l.hash = some (hashOf .loc cl)) (b : Behaviour α) :
    entryCallsResolver hashOf l r cr b = true ↔ (hashConflict l r = true ∧ cl ≠ cr) := by
  have hsc : (safeCall (α := α) .rem .file .file b).2 = true := by
    cases b with
    | raises => simp [safeCall]
    | raisesTemp => simp [safeCall]
    | returns v => simp only [safeCall]; cases validate v <;> simp
  have hsd := same_hash_shortcut_iff hashOf .loc hinj cr cl
  simp only [entryCallsResolver, hsc, Bool.and_true, Bool.and_eq_true, beq_iff_eq, splitSides, hcur]
  constructor
  · rintro ⟨hc, hd⟩
    refine ⟨hc, fun e => ?_⟩
    have := hsd.2 e.symm
    rw [this] at hd
    cases hd
  · rintro ⟨hc, hne⟩
    refine ⟨hc, ?_⟩
    cases hdec : splitDecision hashOf .file .loc cr (some (hashOf .loc cl)) with
    | resolve => rfl
    | mergeSilently => exact absurd (hsd.1 hdec).symm hne

theorem hashConflict_iff (l r : SideAbs) :
    hashConflict l r = true ↔
      (truthy l.hash = true ∧ truthy r.hash = true ∧ truthy l.path = true ∧ truthy r.path = true ∧
        l.hash ≠ l.syncHash ∧ r.hash ≠ r.syncHash) := by
  unfold hashConflict
  by_cases h : (truthy l.hash && truthy r.hash && truthy l.path && truthy r.path) = true
  · simp only [h, if_true, Bool.and_eq_true, bne_iff_ne]
    simp only [Bool.and_eq_true] at h
    obtain ⟨⟨⟨h1, h2⟩, h3⟩, h4⟩ := h
    exact ⟨fun ⟨a, b⟩ => ⟨h1, h2, h3, h4, a, b⟩, fun ⟨_, _, _, _, a, b⟩ => ⟨a, b⟩⟩
  · simp only [h, Bool.false_eq_true, if_false, false_iff]
    rintro ⟨h1, h2, h3, h4, _, _⟩
    exact h (by simp [h1, h2, h3, h4])

theorem first_visit_calls_iff_differs (rf : Bool) (b : Behaviour α) (cl cr : α) :
    (episode rf b (initSt cl cr)).calls = if cl = cr then 0 else 1 := by
  by_cases h : cl = cr
  · simp [episode, initSt, h]
  · simp only [episode, initSt, h, if_false]
    cases hs : (safeCall (fileLikes (sideStates rf cl cr)).1.side (fileLikes (sideStates rf cl cr)).1.otype
        (fileLikes (sideStates rf cl cr)).2.otype b).1 with
    | reraised => simp
    | pair fh keep =>
      simp only
      split <;> simp

theorem equal_content_merges_silently (rf : Bool) (bs : List (Behaviour α)) (b : Behaviour α) (c : α) :
    run rf (b :: bs) (initSt c c) =
      { pair := ⟨⟨some c, []⟩, ⟨some c, []⟩⟩, «open» := none, calls := 0, depth := 0 } := by
  have h1 : episode rf b (initSt c c) = { pair := ⟨⟨some c, []⟩, ⟨some c, []⟩⟩, «open» := none, calls := 0, depth := 0 } := by
    simp [episode, initSt]
  simp only [run, List.foldl_cons, h1]
  induction bs with
  | nil => rfl
  | cons x xs ih => simpa [episode] using ih

set_option linter.unusedSectionVars false in
/-- "two readable handles whose bytes and side labels are the actual contents of the two sides" -/
theorem handles_are_the_two_sides (ss : SS α × SS α) (hs : ss.2.side = ss.1.side.other) :
    let fhs := fileLikes ss
    fhs.1.side ≠ fhs.2.side ∧
      (∀ s, ∃ h, (h = fhs.1 ∨ h = fhs.2) ∧ h.side = s) ∧
      (fhs.1.side = ss.1.side ∧ fhs.1.bytes = ss.1.content) ∧ (fhs.2.side = ss.2.side ∧ fhs.2.bytes = ss.2.content) := by
  obtain ⟨⟨s1, t1, c1⟩, ⟨s2, t2, c2⟩⟩ := ss
  simp only at hs
  subst hs
  refine ⟨?_, ?_, ⟨rfl, rfl⟩, ⟨rfl, rfl⟩⟩
  · cases s1 <;> simp [fileLikes, Side.other]
  · intro s
    cases s1 <;> cases s <;> simp [fileLikes, Side.other]

set_option linter.unusedSectionVars false in
/-- what the engine hands over at a visit: the handle labelled LOCAL carries the local content, the one
    labelled REMOTE the remote content, whichever comes first -/
theorem visit_handles (rf : Bool) (cl cr : α) :
    let fhs := fileLikes (sideStates rf cl cr)
    fhs.2.side = fhs.1.side.other ∧
      fhs.1.bytes = (if fhs.1.side = .loc then cl else cr) ∧ fhs.2.bytes = (if fhs.2.side = .loc then cl else cr) := by
  cases rf <;> simp [fileLikes, sideStates, Side.other]

set_option linter.unusedVariables false in
/-- a well-formed answer: a 2-tuple whose first element is file-like (one of the two handles, or new data: not `.notFile`) -/
def wellFormed : Behaviour α → Bool
  | .returns (.tuple n f k) => n == 2 && f != .notFile
  | _ => false

/-- the REMOTE handle's position among the two handed over: `false` = the first (`fhs[0]`), `true` = the second -/
def remotePos (s0 : Side) : Bool := s0 != .rem

/-- "If it returns nothing, raises, or returns garbage, the remote version wins and the local one is kept":
    EVERY answer that is not well-formed and not a CloudTemporaryError — None, any exception, any non-tuple
    (falsy ones included: `0`, `False`, `""`, a bare handle of an empty file), tuples of any other length
    (the empty tuple included), 2-tuples whose first element is not file-like — is normalised to
    `(remote handle, keep=True)`, whatever the handle order. -/
theorem fallback_is_remote_wins_keep (s0 : Side) (b : Behaviour α) (h : wellFormed b = false) (ht : b ≠ .raisesTemp) :
    safeCall s0 .file .file b = (.pair (.handle (remotePos s0)) true, true) := by
  have hf : (fallback s0 : SafeRes α) = .pair (.handle (remotePos s0)) true := by
    cases s0 <;> simp [fallback, remotePos]
  cases b with
  | raises => simp [safeCall, hf]
  | raisesTemp => exact absurd rfl ht
  | returns v =>
    cases v with
    | none => simp [safeCall, validate, hf]
    | falsy => simp [safeCall, validate, hf]
    | truthyNonTuple => simp [safeCall, validate, hf]
    | tuple n f k =>
      by_cases h2 : n = 2
      · subst h2
        cases f with
        | notFile => simp [safeCall, validate, hf]
        | handle i => simp [wellFormed] at h
        | data d => simp [wellFormed] at h
      · simp [safeCall, validate, h2, hf]

set_option linter.unusedSectionVars false in
theorem well_formed_passes (s0 : Side) (f : First α) (k : Bool) (hf : f ≠ .notFile) :
    ∃ c, safeCall s0 .file .file (.returns (.tuple 2 f k)) = (.pair c k, true) ∧
      (match f with | .handle i => c = .handle i | .data d => c = .data d | .notFile => False) := by
  cases f with
  | notFile => exact absurd rfl hf
  | handle i => exact ⟨.handle i, by simp [safeCall, validate], rfl⟩
  | data d => exact ⟨.data d, by simp [safeCall, validate], rfl⟩

/-- the finding `falsy-answer-never-resolved` (repaired in /repo by commit 6b356e1), as instances: falsy values and the empty tuple
    fall back, for both handle orders (kernel-checked; the real function is replayed on the same values on every run) -/
theorem falsy_answer_falls_back :
    safeCall (α := Nat) .rem .file .file (.returns .falsy) = (.pair (.handle false) true, true) ∧
    safeCall (α := Nat) .loc .file .file (.returns .falsy) = (.pair (.handle true) true, true) ∧
    safeCall (α := Nat) .rem .file .file (.returns (.tuple 0 .notFile false)) = (.pair (.handle false) true, true) := by
  decide

set_option linter.unusedSectionVars false in
/-- folder against file: the folder's handle with keep=True, and the application is NOT asked,
    whatever it would have answered -/
theorem folder_beats_file (s0 : Side) (t0 t1 : OType) (b : Behaviour α) (h : t0 ≠ t1) :
    safeCall s0 t0 t1 b = (.pair (.handle (t0 != .dir)) true, false) := by
  cases t0 <;> cases t1 <;> simp_all [safeCall]

set_option linter.unusedSectionVars false in
/-- ... and its effect: the file is parked under a '.conflicted' name on its own side and the folder
    is propagated (content `cd` stands for "a folder") -/
theorem folder_beats_file_outcome (s0 : Side) (cd cf : α) :
    let p : Pair α := (Pair.set (Pair.set ⟨⟨none, []⟩, ⟨none, []⟩⟩ s0 ⟨some cd, []⟩) s0.other ⟨some cf, []⟩)
    let r := resolveStep p s0 cd cf (.handle false) true
    settle r.1 r.2 = Pair.set (Pair.set ⟨⟨none, []⟩, ⟨none, []⟩⟩ s0 ⟨some cd, []⟩) s0.other ⟨some cd, [cf]⟩ := by
  cases s0 <;> simp [resolveStep, replaceLoser, settle, Pair.set, Pair.get, Side.other]

def Pair.content (p : Pair α) (s : Side) : Option α := (p.get s).main
def Pair.parked (p : Pair α) (s : Side) : List α := (p.get s).conf

def sideContent (cl cr : α) : Side → α
  | .loc => cl
  | .rem => cr

theorem episode_calls_shift (rf : Bool) (b : Behaviour α) (st : St α) (k : Nat) :
    episode rf b { st with calls := st.calls + k } = { episode rf b st with calls := (episode rf b st).calls + k } := by
  obtain ⟨pair, op, calls, depth⟩ := st
  cases op with
  | none => simp [episode]
  | some c =>
    obtain ⟨cl, cr⟩ := c
    simp only [episode]
    by_cases h : cl = cr
    · simp [h]
    · simp only [h, if_false]
      cases (safeCall (fileLikes (sideStates rf cl cr)).1.side (fileLikes (sideStates rf cl cr)).1.otype
          (fileLikes (sideStates rf cl cr)).2.otype b).1 with
      | reraised => simp; omega
      | pair fh keep =>
        simp only
        split <;> simp <;> omega

theorem episode_temp (rf : Bool) (cl cr : α) (h : cl ≠ cr) (k : Nat) :
    episode rf .raisesTemp ({ initSt cl cr with calls := k } : St α) = { initSt cl cr with calls := k + 1 } := by
  cases rf <;> simp [episode, initSt, h, safeCall, fileLikes, sideStates]

theorem run_temp_prefix (rf : Bool) (cl cr : α) (h : cl ≠ cr) (n : Nat) :
    ∀ (k : Nat) (bs : List (Behaviour α)),
      run rf (List.replicate n .raisesTemp ++ bs) ({ initSt cl cr with calls := k } : St α)
        = run rf bs { initSt cl cr with calls := k + n } := by
  induction n with
  | zero => intro k bs; rfl
  | succ m ih =>
    intro k bs
    simp only [run, List.replicate_succ, List.cons_append, List.foldl_cons, episode_temp rf cl cr h k]
    have := ih (k + 1) bs
    simp only [run] at this
    rw [this]
    congr 2
    omega

/-- CloudTemporaryError from the resolver is a retry: `k` such visits cost `k` calls and change nothing else -/
theorem temp_is_retry (rf : Bool) (cl cr : α) (h : cl ≠ cr) (k : Nat) (a : Answer α) :
    outcome rf cl cr k a = { outcome rf cl cr 0 a with calls := (outcome rf cl cr 0 a).calls + k } := by
  have e := run_temp_prefix rf cl cr h k 0 [a.toBehaviour rf]
  have i0 : ({ initSt cl cr with calls := 0 } : St α) = initSt cl cr := rfl
  rw [i0] at e
  simp only [outcome, e, List.replicate_zero, List.nil_append]
  have s := episode_calls_shift rf (a.toBehaviour rf) (initSt cl cr) k
  simp only [run, List.foldl_cons, List.foldl_nil]
  have i1 : ({ initSt cl cr with calls := (initSt cl cr).calls + k } : St α) = { initSt cl cr with calls := 0 + k } := rfl
  rw [i1] at s
  exact s

/-- what one answered visit of a conflict between different contents leaves, said in terms of SIDES -/
def firstVisit (cl cr : α) : Answer α → St α
  | .pick .loc keep => ⟨⟨⟨some cl, []⟩, ⟨some cl, if keep then [cr] else []⟩⟩, none, 1, 0⟩
  | .pick .rem keep => ⟨⟨⟨some cr, if keep then [cl] else []⟩, ⟨some cr, []⟩⟩, none, 1, 0⟩
  | .merged d false => ⟨⟨⟨some d, []⟩, ⟨some d, []⟩⟩, none, 1, 0⟩
  | .merged d true => ⟨⟨⟨some d, [cl]⟩, ⟨some d, [cr]⟩⟩, some (cl, cr), 1, 1⟩
  | _ => ⟨⟨⟨some cr, [cl]⟩, ⟨some cr, []⟩⟩, none, 1, 0⟩

/-- … and that is what the engine does, for either handle order -/
theorem outcome_zero (rf : Bool) (cl cr : α) (h : cl ≠ cr) (a : Answer α) : outcome rf cl cr 0 a = firstVisit cl cr a := by
  show episode rf (a.toBehaviour rf) (initSt cl cr) = _
  unfold episode
  simp only [initSt, h, if_false]
  cases a with
  | pick s k => cases rf <;> cases s <;> cases k <;> rfl
  | merged d k => cases rf <;> cases k <;> rfl
  | wrongLen n =>
    by_cases hn : n = 2
    · subst hn; cases rf <;> rfl
    · cases rf <;> simp [Answer.toBehaviour, safeCall, validate, hn, fileLikes, sideStates] <;> rfl
  | _ => cases rf <;> rfl

/-- "If it returns one handle, both sides end with that content and the other version is kept as a
    '.conflicted' sibling exactly when keep is true" — one call, settled, for either handle order -/
theorem pick_side_outcome (rf : Bool) (cl cr : α) (h : cl ≠ cr) (side : Side) (keep : Bool) :
    let st := outcome rf cl cr 0 (.pick side keep)
    st.«open» = none ∧ st.calls = 1 ∧
      st.pair.content .loc = some (sideContent cl cr side) ∧ st.pair.content .rem = some (sideContent cl cr side) ∧
      st.pair.parked side = [] ∧
      st.pair.parked side.other = (if keep then [sideContent cl cr side.other] else []) := by
  rw [outcome_zero rf cl cr h]
  cases side <;> exact ⟨rfl, rfl, rfl, rfl, rfl, rfl⟩

/-- "if it returns new merged data with keep false both sides end with the merged data" -/
theorem merged_no_keep_outcome (rf : Bool) (cl cr m : α) (h : cl ≠ cr) :
    outcome rf cl cr 0 (.merged m false) =
      { pair := ⟨⟨some m, []⟩, ⟨some m, []⟩⟩, «open» := none, calls := 1, depth := 0 } :=
  outcome_zero rf cl cr h _

set_option linter.unusedVariables false in
/-- the answers that fall back; `wrongLen 2`, a 2-tuple whose first element is not file-like, included -/
def Answer.isGarbage : Answer α → Bool
  | .none | .raises | .falsy | .nonTuple | .notFile _ => true
  | .wrongLen n => true
  | _ => false

/-- "if it returns nothing, raises, or returns garbage, the remote version wins and the local one is
    kept as '.conflicted'": one call, settled, whatever the handle order -/
theorem fallback_outcome (rf : Bool) (cl cr : α) (h : cl ≠ cr) (a : Answer α) (hg : a.isGarbage = true) :
    outcome rf cl cr 0 a =
      { pair := ⟨⟨some cr, [cl]⟩, ⟨some cr, []⟩⟩, «open» := none, calls := 1, depth := 0 } := by
  rw [outcome_zero rf cl cr h]
  cases a <;> first | rfl | cases hg

theorem outcome_order_independent (cl cr : α) (temp : Nat) (a : Answer α) :
    outcome true cl cr temp a = outcome false cl cr temp a := by
  by_cases h : cl = cr
  · subst h
    cases temp with
    | zero => simp [outcome, equal_content_merges_silently]
    | succ k => simp [outcome, List.replicate_succ, equal_content_merges_silently]
  · rw [temp_is_retry true cl cr h, temp_is_retry false cl cr h, outcome_zero true cl cr h, outcome_zero false cl cr h]

/- FALSE of the pinned engine (kept for the record): "merged data with keep=True: both sides end with the
   merged data, each side keeps its own old version as a '.conflicted' sibling, one call":
theorem merged_keep_outcome (rf : Bool) (cl cr m : α) (h : cl ≠ cr) :
    ∃ n, (run rf (List.replicate n ((Answer.merged m true).toBehaviour rf)) (initSt cl cr)).«open» = none
   `__resolver_merge_upload` creates the merged file on both sides and leaves the two renamed originals
   untracked under the same '.conflicted' name with different contents: a new conflict, one level deeper,
   between the same two contents — for ever. -/

theorem merged_keep_episode (rf : Bool) (cl cr m : α) (h : cl ≠ cr) (st : St α) (xl xr : α)
    (ho : st.«open» = some (cl, cr)) (hl : st.pair.loc.main = some xl) (hr : st.pair.rem.main = some xr) :
    episode rf ((Answer.merged m true).toBehaviour rf) st =
      { pair := ⟨⟨some m, st.pair.loc.conf ++ [xl]⟩, ⟨some m, st.pair.rem.conf ++ [xr]⟩⟩, «open» := some (cl, cr),
        calls := st.calls + 1, depth := st.depth + 1 } := by
  obtain ⟨⟨⟨ml, cfl⟩, ⟨mr, cfr⟩⟩, op, calls, depth⟩ := st
  simp only at ho hl hr
  subst ho; subst hl; subst hr
  cases rf <;>
    simp [episode, h, Answer.toBehaviour, safeCall, validate, fileLikes, sideStates,
      resolveStep, replaceLoser, Pair.set, Pair.get, Side.other]

theorem merged_keep_never_settles (rf : Bool) (cl cr m : α) (h : cl ≠ cr) (n : Nat) :
    let st := run rf (List.replicate n ((Answer.merged m true).toBehaviour rf)) (initSt cl cr)
    st.«open» = some (cl, cr) ∧ st.calls = n ∧ st.depth = n ∧
      st.pair.loc.conf.length = n ∧ st.pair.rem.conf.length = n := by
  have gen : ∀ (n : Nat) (st : St α), st.«open» = some (cl, cr) → st.pair.loc.main.isSome = true → st.pair.rem.main.isSome = true →
      let st' := run rf (List.replicate n ((Answer.merged m true).toBehaviour rf)) st
      st'.«open» = some (cl, cr) ∧ st'.calls = st.calls + n ∧ st'.depth = st.depth + n ∧
        st'.pair.loc.conf.length = st.pair.loc.conf.length + n ∧ st'.pair.rem.conf.length = st.pair.rem.conf.length + n := by
    intro n
    induction n with
    | zero => intro st ho _ _; simp [run, ho]
    | succ k ih =>
      intro st ho hl hr
      obtain ⟨xl, hxl⟩ := Option.isSome_iff_exists.1 hl
      obtain ⟨xr, hxr⟩ := Option.isSome_iff_exists.1 hr
      have e := merged_keep_episode rf cl cr m h st xl xr ho hxl hxr
      simp only [run, List.replicate_succ, List.foldl_cons, e]
      have := ih { pair := ⟨⟨some m, st.pair.loc.conf ++ [xl]⟩, ⟨some m, st.pair.rem.conf ++ [xr]⟩⟩, «open» := some (cl, cr),
                   calls := st.calls + 1, depth := st.depth + 1 } rfl rfl rfl
      simp only [run, List.length_append, List.length_cons, List.length_nil] at this
      obtain ⟨a1, a2, a3, a4, a5⟩ := this
      refine ⟨a1, ?_, ?_, ?_, ?_⟩ <;> omega
  have := gen n (initSt cl cr) rfl rfl rfl
  simpa [initSt] using this

/-- the clause as the documentation promises it is false -/
theorem merged_keep_outcome_false (rf : Bool) (cl cr m : α) (h : cl ≠ cr) :
    ¬ ∃ n, (run rf (List.replicate n ((Answer.merged m true).toBehaviour rf)) (initSt cl cr)).«open» = none := by
  rintro ⟨n, hn⟩
  have := (merged_keep_never_settles rf cl cr m h n).1
  rw [hn] at this
  cases this

/-- kernel-checked instance (the replayed one: six visits, six calls, six nested copies) -/
theorem merged_keep_witness :
    let st := run true (List.replicate 6 ((Answer.merged 3 true).toBehaviour true)) (initSt 1 2)
    st.«open» = some (1, 2) ∧ st.calls = 6 ∧ st.pair.loc.conf = [1, 3, 3, 3, 3, 3] ∧ st.pair.rem.conf = [2, 3, 3, 3, 3, 3] ∧
      st.pair.loc.main = some 3 := by
  decide

theorem contract_ok (o : Obs) (h : contract o = .ok) :
    (expected o).«open» = none ∧ o.quiet = true ∧ callCountOk (expected o).calls o.faults o.calls.length = true ∧
      o.calls.all callOk = true ∧ (o.faults = 0 → lastCallOk o.cl o.cr o.calls = true) ∧
      o.l.main = (expected o).pair.loc.main ∧ o.r.main = (expected o).pair.rem.main ∧
      o.l.conf.length ≤ 1 ∧ o.r.conf.length ≤ 1 ∧
      sameSet (o.l.conf ++ o.r.conf) ((expected o).pair.loc.conf ++ (expected o).pair.rem.conf) = true := by
  revert h
  fun_cases contract o
  all_goals intro h
  all_goals try cases h
  -- every rejecting branch is gone; in the accepting one each test of the chain came out negative, in the order of `contract`
  rename_i hopen hquiet hcount hcalls hlast hloc hrem hconf hset
  simp only [Bool.not_eq_true, Bool.or_eq_false_iff, decide_eq_false_iff_not, Nat.not_lt] at hconf
  refine ⟨by simpa using hopen, by simpa using hquiet, by simpa using hcount, by simpa using hcalls, fun hf => ?_,
    by simpa using hloc, by simpa using hrem, hconf.1, hconf.2, by simpa using hset⟩
  simpa [hf] using hlast

theorem sameSet_iff (a b : List Nat) : sameSet a b = true ↔ ∀ x, x ∈ a ↔ x ∈ b := by
  simp only [sameSet, Bool.and_eq_true, List.all_eq_true, List.contains_iff_mem]
  exact ⟨fun ⟨h1, h2⟩ x => ⟨h1 x, h2 x⟩, fun h => ⟨fun x hx => (h x).1 hx, fun x hx => (h x).2 hx⟩⟩

theorem expected_indep (o1 o2 : Obs) (hb : o1.base = o2.base) (hl : o1.cl = o2.cl) (hr : o1.cr = o2.cr)
    (ht : o1.temp = o2.temp) (ha : o1.ans = o2.ans) : expected o1 = expected o2 := by
  unfold expected
  rw [hb, hl, hr, ht, ha]
  have key : ∀ x y : Bool, outcome x o2.cl o2.cr o2.temp o2.ans = outcome y o2.cl o2.cr o2.temp o2.ans := by
    intro x y
    have h := outcome_order_independent o2.cl o2.cr o2.temp o2.ans
    cases x <;> cases y
    · rfl
    · exact h.symm
    · exact h
    · rfl
  split <;> first | exact key _ _ | rfl

/-- two accepted runs on the same inputs end with the same content at the path on each side and the same
    set of parked versions: "the outcome never depends on how engine steps interleave" is what acceptance means -/
theorem contract_determines_outcome (o1 o2 : Obs) (hb : o1.base = o2.base) (hl : o1.cl = o2.cl) (hr : o1.cr = o2.cr)
    (ht : o1.temp = o2.temp) (ha : o1.ans = o2.ans) (h1 : contract o1 = .ok) (h2 : contract o2 = .ok) :
    o1.l.main = o2.l.main ∧ o1.r.main = o2.r.main ∧
      sameSet (o1.l.conf ++ o1.r.conf) (o2.l.conf ++ o2.r.conf) = true ∧
      (o1.faults = 0 → o2.faults = 0 → o1.calls.length = o2.calls.length) := by
  have e := expected_indep o1 o2 hb hl hr ht ha
  obtain ⟨_, _, c1, _, _, l1, r1, _, _, s1⟩ := contract_ok o1 h1
  obtain ⟨_, _, c2, _, _, l2, r2, _, _, s2⟩ := contract_ok o2 h2
  rw [e] at c1 l1 r1 s1
  refine ⟨l1.trans l2.symm, r1.trans r2.symm, ?_, ?_⟩
  · rw [sameSet_iff] at s1 s2 ⊢
    intro x
    exact (s1 x).trans (s2 x).symm
  · intro f1 f2
    rw [f1] at c1
    rw [f2] at c2
    simp only [callCountOk, Bool.and_eq_true, decide_eq_true_eq] at c1 c2
    -- without faults the allowance `if expected = 0 then 0 else faults` of `callCountOk` is 0: both counts are the expected one
    have noSlack : (if (expected o2).calls = 0 then 0 else 0) = 0 := by split <;> rfl
    omega

/-- the hypotheses are satisfiable: a concrete accepted observation (pick local, keep) -/
example : contract { base := none, cl := 1, cr := 2, temp := 0, ans := .pick .loc true, faults := 0,
                     calls := [⟨.rem, .loc, some 2, some 1, true, 1, 2⟩], quiet := true,
                     l := ⟨some 1, []⟩, r := ⟨some 1, [2]⟩ } = .ok := by decide

example : hashConflict ⟨some 5, some 4, some 1⟩ ⟨some 6, some 4, some 1⟩ = true := by decide

end CS.Resolver
