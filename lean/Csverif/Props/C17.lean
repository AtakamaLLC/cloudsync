import Csverif.Proofs.Sched
/-
C17 — scheduling laws: nothing syncs before it has aged; oldest eligible goes first.
Model: Model/Sched.lean (`SyncState.change`, `mark_changed`, the `priority` branch of `updated`,
`SyncEntry.punt`, `SyncState.finished`).
`ageing_respected` is FALSE as stated: the code's eligibility test is a disjunction over the two sides (known finding
two-sided-ageing).  `ageing_respected_partial` holds; the harness replays the refutation `ageing_two_sided` on the real engine.
-/
namespace CS.Sched

/-- `change` returns the first entry, in changeset iteration order, whose key `(priority, latest
    change)` is minimal among the eligible entries. -/
theorem change_eq_pickFirstMin (P : List Entry) (now age : Rat) :
    change P now age = pickFirstMin (P.filter (fun e => eligible e now age)) := by
  rw [change_eq, find_sortKey]

/-- nothing is returned exactly when nothing is eligible -/
theorem change_none_iff_no_eligible (P : List Entry) (now age : Rat) :
    change P now age = none ↔ ∀ e ∈ P, eligible e now age = false := by
  simp [change_eq_pickFirstMin, pickFirstMin_eq_none, List.filter_eq_nil_iff]

/-- the returned entry is pending and eligible: some side was notified at least `age` ago, or the
    priority is negative -/
theorem change_returns_eligible (P : List Entry) (now age : Rat) (e : Entry)
    (h : change P now age = some e) : e ∈ P ∧ eligible e now age = true := by
  rw [change_eq_pickFirstMin] at h
  exact List.mem_filter.1 (pickFirstMin_mem h)

/-- no eligible entry has a strictly smaller key: lower priority values first, and within a
    priority the older (latest) change first -/
theorem change_minimal (P : List Entry) (now age : Rat) (e : Entry) (h : change P now age = some e) :
    ∀ e' ∈ P, eligible e' now age = true →
      keyLt e' e = false ∧
      (e.priority < e'.priority ∨ (e.priority = e'.priority ∧ keyTime e ≤ keyTime e')) := by
  intro e' he' hel
  rw [change_eq_pickFirstMin] at h
  have hle := pickFirstMin_le h e' (List.mem_filter.2 ⟨he', hel⟩)
  exact ⟨not_keyLt_of_keyLe hle, (keyLe_iff e e').1 hle⟩

/-- ties are resolved by iteration order (Python's `sorted` is stable) -/
theorem change_first_among_ties (P : List Entry) (now age : Rat) (e : Entry) (h : change P now age = some e) :
    ∃ pre post, P = pre ++ e :: post ∧ ∀ x ∈ pre, eligible x now age = true → keyLt e x = true := by
  rw [change_eq_pickFirstMin] at h
  obtain ⟨pre, post, hf, hpre, _⟩ := pickFirstMin_split h
  obtain ⟨l1, l2, hP, h1, h2⟩ := List.filter_eq_append_iff.1 hf
  obtain ⟨m1, m2, hl2, hm1, _, _⟩ := List.filter_eq_cons_iff.1 h2
  refine ⟨l1 ++ m1, m2, by rw [hP, hl2, List.append_assoc], ?_⟩
  intro x hx hel
  rcases List.mem_append.1 hx with hx | hx
  · exact hpre x (h1 ▸ List.mem_filter.2 ⟨hx, hel⟩)
  · exact absurd hel (hm1 x hx)

theorem change_ne_none {P : List Entry} {now age : Rat} {y : Entry} (hy : y ∈ P) (hel : eligible y now age = true) :
    change P now age ≠ none :=
  fun h => Bool.false_ne_true (((change_none_iff_no_eligible P now age).1 h y hy).symm.trans hel)

theorem change_priority_le {P : List Entry} {now age : Rat} {e y : Entry} (h : change P now age = some e)
    (hy : y ∈ P) (hel : eligible y now age = true) : e.priority ≤ y.priority :=
  (change_minimal P now age e h y hy hel).2.elim le_of_lt (fun h => h.1.le)

theorem eligible_of_sideAged {e : Entry} {s : Bool} {now age : Rat}
    (h : sideAged (e.side s).changed (now - age) = true) : eligible e now age = true :=
  (eligible_iff_side e now age).2 (.inl ⟨s, h⟩)

/-- a negative priority means "immediately": such an entry is eligible whatever its age, and
    `change` then returns an entry of at most that (negative) priority -/
theorem negative_priority_immediate (P : List Entry) (now age : Rat) (e : Entry)
    (he : e ∈ P) (hneg : e.priority < 0) :
    eligible e now age = true ∧ ∃ e', change P now age = some e' ∧ e'.priority ≤ e.priority ∧ e'.priority < 0 := by
  have hel : eligible e now age = true := (eligible_iff e now age).2 (Or.inr (Or.inr hneg))
  obtain ⟨e', hc⟩ := Option.ne_none_iff_exists'.1 (change_ne_none he hel)
  have hle := change_priority_le hc he hel
  exact ⟨hel, e', hc, hle, lt_of_le_of_lt hle hneg⟩

/-- eligibility only grows with time -/
theorem eligible_mono (e : Entry) (now now' age : Rat) (h : eligible e now age = true) (hn : now ≤ now') :
    eligible e now' age = true := by
  rw [eligible_iff] at *
  have ht := sub_le_sub_right hn age
  exact h.imp (sideAged_mono · ht) (Or.imp_left (sideAged_mono · ht))

/-- with ageing 0 an entry with a change whose timestamp does not lie in the future is eligible -/
theorem age_zero_all_eligible (e : Entry) (now : Rat)
    (h : (truthy e.l.changed = true ∧ orZero e.l.changed ≤ now) ∨
         (truthy e.r.changed = true ∧ orZero e.r.changed ≤ now)) :
    eligible e now 0 = true := by
  rw [eligible_iff]
  simp only [sub_zero, sideAged_eq]
  exact h.imp_right Or.inl

/-- … so with ageing 0 something is returned as soon as one pending entry has such a change -/
theorem age_zero_change_some (P : List Entry) (now : Rat) (e : Entry) (he : e ∈ P)
    (h : (truthy e.l.changed = true ∧ orZero e.l.changed ≤ now) ∨
         (truthy e.r.changed = true ∧ orZero e.r.changed ≤ now)) :
    change P now 0 ≠ none :=
  change_ne_none he (age_zero_all_eligible e now h)

/-- the hypothesis is needed: punting (and the +0.001 clock rule of `mark_changed`) puts a stamp in the future; an entry
    changed at t=1000 and punted at t=1000 (punt_secs 1/4) is *not* eligible at t=1000 with ageing 0, although it was before
    the punt; it is again at t=1000¼ -/
theorem age_zero_punt_example :
    let e : Entry := { id := 0, l := { changed := some 1000 } }
    eligible e 1000 0 = true ∧
    eligible (puntE (1/4, 1/4) e) 1000 0 = false ∧
    eligible (puntE (1/4, 1/4) e) (1000 + 1/4) 0 = true := by
  decide +kernel

/-- the state-level `ent.punt()` has exactly the entry-level effect `puntE` -/
theorem opPunt_entry (st : St) (id : Nat) (e : Entry) (h : st.get? id = some e) :
    (opPunt st id).get? id = some (puntE st.punt e) :=
  withE_get?_same st id _ e h (fun _ => setPriorityA_id _ _ _)

/-- an entry punted `k` times is eligible again once `now ≥ changed + k·punt_secs + age`: the delay
    caused by deferring is bounded.  `p` = (`punt_secs[LOCAL]`, `punt_secs[REMOTE]`).  (The side must have an id: the stale
    change flag of an id-less side can be dropped by a punt — "a change that is not in the changeset", state.py:798-801.) -/
theorem punt_bounded_delay (p : Rat × Rat) (s : Bool) (hp : 0 ≤ (if s then p.2 else p.1))
    (e : Entry) (c : Rat) (hc : (e.side s).changed = some c) (hpos : 0 < c)
    (ho : truthyS (e.side s).oid = true)
    (k : Nat) (now age : Rat) (hnow : c + k * (if s then p.2 else p.1) + age ≤ now) :
    eligible (puntK p k e) now age = true := by
  obtain ⟨j, hj, hch⟩ := puntK_side p s hp k e c hc hpos ho
  exact eligible_of_sideAged ((sideAged_iff _ _).2 ⟨_, hch, shifted_aged hj hp hpos hnow⟩)

/-- … hence, whatever else is pending, `change` returns something from that moment on -/
theorem punt_bounded_delay_change (p : Rat × Rat) (s : Bool) (hp : 0 ≤ (if s then p.2 else p.1))
    (e : Entry) (c : Rat) (hc : (e.side s).changed = some c) (hpos : 0 < c)
    (ho : truthyS (e.side s).oid = true)
    (k : Nat) (now age : Rat) (hnow : c + k * (if s then p.2 else p.1) + age ≤ now)
    (P : List Entry) (hP : puntK p k e ∈ P) :
    change P now age ≠ none :=
  change_ne_none hP (punt_bounded_delay p s hp e c hc hpos ho k now age hnow)

/-- a persistently failing entry cannot starve the others: once it has been punted `k` times with
    `y.priority < x.priority + k` (one punt suffices among equal priorities), it is never returned
    while `y` is eligible, and what is returned is at least as urgent as `y` -/
theorem punted_does_not_starve_others (p : Rat × Rat) (P : List Entry) (x y : Entry) (k : Nat)
    (now age : Rat) (hy : y ∈ P) (hel : eligible y now age = true) (hk : y.priority < x.priority + k) :
    change P now age ≠ some (puntK p k x) ∧
    ∃ e, change P now age = some e ∧ e.priority ≤ y.priority := by
  obtain ⟨e, hc⟩ := Option.ne_none_iff_exists'.1 (change_ne_none hy hel)
  have hle := change_priority_le hc hy hel
  refine ⟨fun heq => ?_, e, hc, hle⟩
  rw [Option.some.inj (hc.symm.trans heq), puntK_priority] at hle
  exact absurd hk (not_lt_of_ge hle)

/-- `mark_changed` on an existing entry issues `stamp last now`: later than every stamp issued before, not earlier than the
    clock reading, and that is what the side's `changed` becomes -/
theorem markChanged_stamp (st : St) (s : Bool) (id : Nat) (now : Rat) (e : Entry) (h : st.get? id = some e) :
    (markChanged st s id now).last = stamp st.last now ∧
    st.last < (markChanged st s id now).last ∧ now ≤ (markChanged st s id now).last ∧
    ((markChanged st s id now).get? id).map (fun e => (e.side s).changed) = some (some (stamp st.last now)) := by
  simp only [markChanged, h]
  refine ⟨trivial, (stamp_gt _ _).1, (stamp_gt _ _).2, ?_⟩
  show Option.map _ ((st.withE id _).get? id) = _
  rw [withE_get?_same st id _ e h (fun _ => markA_id _ _ _ _), Option.map_some, markA_changed]

theorem markChanged_isSome (st : St) (s : Bool) (id : Nat) (now : Rat) (j : Nat) :
    ((markChanged st s id now).get? j).isSome = (st.get? j).isSome := by
  simp only [markChanged]
  split
  · rfl
  · show ((st.withE id _).get? j).isSome = _
    exact withE_isSome st id j _ (fun e => markA_id _ _ e s)

/-- the value of `_last_changed_time` after each call of a run of `mark_changed` calls
    `(side, entry, clock reading)` -/
def markRun (st : St) : List (Bool × Nat × Rat) → List Rat
  | [] => []
  | (s, id, now) :: ops => (markChanged st s id now).last :: markRun (markChanged st s id now) ops

/-- change times can't repeat and must increase: whatever the clock does (stalls, goes backwards),
    the stamps issued by any run of `mark_changed` calls are strictly increasing -/
theorem markChanged_strictly_increasing (ops : List (Bool × Nat × Rat)) (st : St)
    (h : ∀ op ∈ ops, (st.get? op.2.1).isSome = true) :
    (markRun st ops).Pairwise (· < ·) ∧ ∀ x ∈ markRun st ops, st.last < x := by
  induction ops generalizing st with
  | nil => simp [markRun]
  | cons op ops ih =>
    obtain ⟨s, id, now⟩ := op
    have hex : (st.get? id).isSome = true := h (s, id, now) List.mem_cons_self
    obtain ⟨e, he⟩ := Option.isSome_iff_exists.1 hex
    have hm := markChanged_stamp st s id now e he
    have ih' := ih (markChanged st s id now) (by
      intro op hop
      rw [markChanged_isSome]
      exact h op (List.mem_cons_of_mem _ hop))
    simp only [markRun]
    refine ⟨List.Pairwise.cons ?_ ih'.1, ?_⟩
    · intro x hx; exact ih'.2 x hx
    · intro x hx
      rcases List.mem_cons.1 hx with rfl | hx
      · exact hm.2.1
      · exact lt_trans hm.2.1 (ih'.2 x hx)

/-- `finished`: nothing happens when the entry does not exist or still carries a change; otherwise it leaves the changeset and
    the pending entries related to it have a positive priority reset to 0 (a plain record update: a write of 0 never shifts) -/
theorem opFinished_cases (dn : String → String) (st : St) (id : Nat) :
    (opFinished dn st id = st ∧ ∀ ent, st.get? id = some ent → (truthy ent.r.changed || truthy ent.l.changed) = true) ∨
    ∃ ent, st.get? id = some ent ∧ (truthy ent.r.changed || truthy ent.l.changed) = false ∧
      opFinished dn st id = { st.act id [false] with ents := st.ents.map fun e =>
        if ((st.act id [false]).pending.contains e.id && (e.priority > 0 && related dn ent e)) = true
        then ({ e with priority := 0 } : Entry) else e } := by
  rw [opFinished]
  cases st.get? id with
  | none => exact .inl ⟨rfl, fun _ h => absurd h (Option.some_ne_none _).symm⟩
  | some ent =>
    dsimp only
    by_cases hch : (truthy ent.r.changed || truthy ent.l.changed) = true
    · rw [if_pos hch]; exact .inl ⟨rfl, fun _ h => Option.some.inj h ▸ hch⟩
    · rw [if_neg hch]
      simp only [setPriorityE_zero]
      exact .inr ⟨ent, rfl, Bool.eq_false_iff.2 hch, rfl⟩

/-- `finished` never moves a change time, and only ever turns a positive priority into 0 -/
theorem finished_entries (dn : String → String) (st : St) (id : Nat) :
    ∀ e' ∈ (opFinished dn st id).ents, ∃ e ∈ st.ents, e'.id = e.id ∧ e'.l = e.l ∧ e'.r = e.r ∧
      (e'.priority = e.priority ∨ (0 < e.priority ∧ e'.priority = 0)) := by
  intro e' he'
  rcases opFinished_cases dn st id with ⟨h, _⟩ | ⟨ent, _, _, h⟩ <;> rw [h] at he'
  · exact ⟨e', he', rfl, rfl, rfl, .inl rfl⟩
  · obtain ⟨e, he, rfl⟩ := List.mem_map.1 he'
    refine ⟨e, he, ?_⟩
    split
    · rename_i hc
      simp only [Bool.and_eq_true, decide_eq_true_eq] at hc
      exact ⟨rfl, rfl, rfl, .inr ⟨hc.2.1, rfl⟩⟩
    · exact ⟨rfl, rfl, rfl, .inl rfl⟩

/-- entries that were not punted keep their priority: a negative ("immediately") or normal priority
    is never reset by `finished` -/
theorem finished_keeps_nonpositive (dn : String → String) (st : St) (id : Nat) :
    ∀ e' ∈ (opFinished dn st id).ents, ∃ e ∈ st.ents, e'.id = e.id ∧ (e.priority ≤ 0 → e' = e) := by
  intro e' he'
  obtain ⟨e, he, h1, h2, h3, h4⟩ := finished_entries dn st id e' he'
  refine ⟨e, he, h1, ?_⟩
  intro hle
  rcases h4 with h4 | ⟨h4, _⟩
  · cases e; cases e'; simp_all
  · linarith

/-- a punted pending entry related to the finished one (parent/child path) is brought back to
    normal priority -/
theorem finished_resets_related (dn : String → String) (st : St) (id : Nat) (ent e : Entry)
    (hent : st.get? id = some ent) (hdone : truthy ent.l.changed = false ∧ truthy ent.r.changed = false)
    (he : e ∈ st.ents) (hpend : (st.act id [false]).pending.contains e.id = true)
    (hpos : 0 < e.priority) (hrel : related dn ent e = true) :
    { e with priority := 0 } ∈ (opFinished dn st id).ents := by
  rcases opFinished_cases dn st id with ⟨_, h⟩ | ⟨ent', h, _, heq⟩
  · exact absurd (h ent hent) (by simp [hdone.1, hdone.2])
  · cases hent.symm.trans h
    rw [heq]
    exact List.mem_map.2 ⟨e, he, if_pos (by rw [hpend, hrel, decide_eq_true hpos]; rfl)⟩

/- FALSE AS STATED — omitted.  Full statement ("a change is never propagated earlier than the ageing
   interval after the engine was last notified of a change to that object, unless its priority is
   negative"): every changed side of the returned entry has aged.

theorem ageing_respected (P : List Entry) (now age : Rat) (e : Entry)
    (h : change P now age = some e) (hp : 0 ≤ e.priority) (s : Bool)
    (hs : truthy (e.side s).changed = true) :
    orZero (e.side s).changed ≤ now - age

`change_returns_eligible` only gives that *some* side has aged.  See `ageing_two_sided` (proved,
kernel-checked) below. -/

/-- the ageing law for entries whose other side carries no change -/
theorem ageing_respected_partial (P : List Entry) (now age : Rat) (e : Entry)
    (h : change P now age = some e) (hp : 0 ≤ e.priority) (s : Bool)
    (hs : truthy (e.side s).changed = true)
    (hone : truthy (e.side (!s)).changed = false) :
    orZero (e.side s).changed ≤ now - age := by
  rcases (eligible_iff_side e now age).1 (change_returns_eligible P now age e h).2 with ⟨t, ht⟩ | hneg
  · -- the side that has aged carries a change, so it is `s`
    rw [sideAged_eq] at ht
    rcases Bool.eq_or_eq_not t s with rfl | rfl
    · exact ht.2
    · exact absurd (hone.symm.trans ht.1) (by simp)
  · exact absurd hneg (not_lt_of_ge hp)

/-- the witness: remote no-op change flag at t₀ = 1000, local edit at t₀ + 9.5, ageing 10 -/
def cexEntry : Entry :=
  { id := 0, priority := 0, l := { changed := some (2019/2) }, r := { changed := some 1000 } }

/-- `ageing_respected` is FALSE as stated: at t₀ + 10.1 `change` returns the entry although its
    local edit was notified only 0.6 s ago (at t₀ + 9.9 nothing is returned). -/
theorem ageing_two_sided :
    ¬ (∀ (P : List Entry) (now age : Rat) (e : Entry), change P now age = some e → 0 ≤ e.priority →
        ∀ s : Bool, truthy (e.side s).changed = true → orZero (e.side s).changed ≤ now - age) := by
  intro hall
  have h1 : change [cexEntry] (10101/10) 10 = some cexEntry := by decide +kernel
  have h2 := hall [cexEntry] (10101/10) 10 cexEntry h1 (by decide +kernel) false (by decide +kernel)
  revert h2
  decide +kernel

/-- the witness of `ageing_two_sided` spelled out (remote flag at t₀ = 1000, local edit at t₀ + 9.5, ageing 10): not returned at
    t₀ + 9.9 (`10099/10`), returned at t₀ + 10.1 (`10101/10`), 0.6 s after the edit -/
theorem ageing_two_sided_timeline :
    change [cexEntry] (10099/10) 10 = none ∧
    (change [cexEntry] (10101/10) 10).map (·.id) = some 0 ∧
    (10101/10 : Rat) - orZero cexEntry.l.changed = 6/10 := by
  decide +kernel

example : ∃ (P : List Entry) (now age : Rat) (e : Entry),
    change P now age = some e ∧ 0 ≤ e.priority ∧ truthy (e.side false).changed = true ∧
    truthy (e.side true).changed = false :=
  ⟨[{ id := 0, l := { changed := some 1000 } }], 1010, 10, { id := 0, l := { changed := some 1000 } },
    by decide +kernel, by decide +kernel, by decide +kernel, by decide +kernel⟩

example : ∃ (p : Rat × Rat) (e : Entry) (c : Rat), 0 ≤ p.1 ∧ (e.side false).changed = some c ∧ 0 < c ∧
    truthyS (e.side false).oid = true :=
  ⟨(1/4, 1/4), { id := 0, l := { changed := some 1000, oid := some "L1" } }, 1000, by decide +kernel, rfl,
    by decide +kernel, by decide +kernel⟩

end CS.Sched
