import Csverif.Proofs.StateEvent
import Csverif.Proofs.StateKeys
import Csverif.Proofs.StateTotal
/-
C11 — sync-state index integrity (cloudsync/sync/state.py, `SyncState`'s index machinery).

`IndexInv st` is the strongest invariant found to be TRUE of the code (harness/c11_state.py evaluates an executable version
of each clause on the real `SyncState` under random operation sequences; here the clauses are proved over the model
`Csverif/Model/State.lean`):

  * every id slot of a side names an existing entry that carries that id on that side; `None` is never an id key
  * every `(path, id)` slot of a side names an entry that carries that path and that id on that side and that owns the
    id slot; path keys are truthy strings; no bucket is empty
  * every entry — live or not — that carries an id on a side is found under that id (hence at most one entry carries
    an id per side), and, when it also carries a truthy path, under its `(path, id)`
  * the pending set contains every entry that has a change flag on a side that has a (truthy) id

(formally `Idx noX` and `Pend`, Proofs/StateInv.lean).  The theorems have no size or step bound; all quantifiers are over arbitrary
states, entries, values and configurations.

Clauses of the natural statement that are FALSE of the code, each kept below with a kernel-checked counterexample that the
harness replays on the real `SyncState`: `cex_path_without_id`, `cex_pending_without_id`, `cex_setitem_folder_kid_takes_id`.

Repaired in the code, and theorems here:
  fix A (`forget_oid`): `forget_total`, `forget_inv` (no KeyError, no empty bucket, the forgotten entry leaves the pending set);
  fix B (direct `_changed = 0` write): `setattr_changed_total` (the `changed` rule does not recurse);
  fix C (`_kids_moving` stack in `_update_kids`: a folder whose kids are being moved is not moved again by a nested
  `_update_kids`): the hook terminates (`setattr_total`) and folder moves need no guard (`setattr_inv`);
  commit eec8a73 (loader): `reload_index_inv`;
  `fixed_*`: the inputs that failed before these repairs, kernel-checked.

NOT proved (stated here so that nothing is claimed silently):
  * termination of whole operations (`update`, `split`, …) — only of the hook (`setattr_total`); `step_inv` excludes fuel
    exhaustion by hypothesis
  * `__setitem__` onto a folder side with a path on a path-id side is outside `SetOk` because the statement is false there for an
    arbitrary `info_path` oracle (`cex_setitem_folder_kid_takes_id`, replayed on the real code); no hypothesis on the oracle under
    which it would hold has been formulated (for a consistent provider, id = path, the clash cannot arise)
-/
namespace CS.State

/-- the index invariant at operation boundaries: the index clauses, and no folder move in progress (`_kids_moving` empty) -/
def IndexInv (st : St) : Prop := Inv st ∧ st.moving = []

theorem init_inv : IndexInv init := by
  refine ⟨⟨Idx.of_empty rfl rfl (fun i s _ => oid_oob init i s (by simp [init])), ?_⟩, rfl⟩
  intro i ⟨s, h1, _⟩
  rw [changed_oob init i s (by simp [init])] at h1; cases h1

/-- hooked attribute assignment (any attribute, any entry, directories with any subtree): `IndexInv` is preserved on every
    outcome except fuel exhaustion — no guard -/
theorem setattr_inv (cfg : Cfg) (fuel : Nat) (e : Nat) (s : Sd) (fv : FV) (st : St) (hi : IndexInv st)
    (hlt : e < st.ents.length)
    (hrec : (sideSet cfg fuel e s fv st).1 ≠ .error .recursion) : IndexInv (sideSet cfg fuel e s fv st).2 := by
  have := sideSet_inv cfg fuel e s fv st hi.1 hlt (by rw [hi.2]; simp) st rfl
  refine ⟨?_, (sideSet_moving cfg fuel e s fv st).trans hi.2⟩
  cases hr : (sideSet cfg fuel e s fv st).1 with
  | ok a => exact (this.1 a hr).1
  | error x => exact (this.2 x hr (fun hx => hrec (hx ▸ hr))).1

/-- `ent[side].oid = v` with two levels of fuel: total, raises nothing, keeps the invariant -/
theorem setattr_oid_total (cfg : Cfg) (n : Nat) (e : Nat) (s : Sd) (v : Oid) (st : St) (hi : IndexInv st)
    (hlt : e < st.ents.length) :
    (sideSet cfg (n + 2) e s (.oid v) st).1 = .ok () ∧ IndexInv (sideSet cfg (n + 2) e s (.oid v) st).2 := by
  have := sideSet_oid_spec (oustOk_fuel cfg (n + 1)) cfg hi.1.1 hi.1.2 e s v hlt
  rcases this with ⟨hf, _⟩ | ⟨hok, h1, h2, _⟩
  · exact (Nat.succ_ne_zero n hf).elim
  · exact ⟨hok, ⟨h1, h2⟩, (sideSet_moving cfg (n + 2) e s (.oid v) st).trans hi.2⟩

/-- **termination** (fix C): from an operation boundary, `#entries + 3` levels of the hook are enough for any assignment to any
    entry — `_update_kids` nests at most once per entry — so the outcome is never the model's RecursionError and `IndexInv` holds
    afterwards without any hypothesis about the outcome.  The measure (`budgetOf`, Proofs/StateSet.lean) is the number of entries not on the
    `_kids_moving` stack: a nested `_update_kids` pushes the entry it moves and costs one level; the `+ 3` is room for the
    assignments made at each level (`oid` with its ousting needs two, `changed` one) and is not claimed to be tight. -/
theorem setattr_total (cfg : Cfg) (fuel : Nat) (e : Nat) (s : Sd) (fv : FV) (st : St) (hi : IndexInv st)
    (hlt : e < st.ents.length) (hf : st.ents.length + 3 ≤ fuel) :
    (sideSet cfg fuel e s fv st).1 ≠ .error .recursion ∧ IndexInv (sideSet cfg fuel e s fv st).2 :=
  have h := sideSet_total cfg fuel e s fv st hi.1 hlt hi.2 hf
  ⟨h, setattr_inv cfg fuel e s fv st hi hlt h⟩

/-- `ent[side].changed = v` with one level of fuel: total (fix B removed the mutual recursion of the two sides) -/
theorem setattr_changed_total (cfg : Cfg) (n : Nat) (e : Nat) (s : Sd) (v : Chg) (st : St) :
    (sideSet cfg (n + 1) e s (.changed v) st).1 = .ok () := chg_total cfg n e s v st

theorem Tr.run_inv {α} {P : St → Prop} {m : M α} {Q : α → St → Prop} {I : St → Prop} (h : Tr P m Q I) (hQ : ∀ a st, Q a st → I st)
    (st : St) (hp : P st) (hrec : (m st).1 ≠ .error .recursion) : I (m st).2 := by
  have := h st hp
  cases hr : (m st).1 with
  | ok a => exact hQ a _ (this.1 a hr)
  | error x => exact this.2 x hr (fun hx => hrec (hx ▸ hr))

/-- the guard under which an operation is covered by `step_inv`.  With fix C the only guards are about `__setitem__`
    (`SetOk`): the entry side it replaces must be a leaf (`LeafAt`: not a directory, or without a path) or lie on a side whose
    ids are not paths (`oid_is_path = False`) — directly, or for the prior entry's other side in the merge-copy branch of `update`
    (`UpdGuard`).  Without it the statement is false: `cex_setitem_folder_kid_takes_id`.  `forget_oid` has its own theorem (`forget_inv`: the
    forgotten side is exempt afterwards). -/
def OpGuard (cfg : Cfg) (st : St) : Op → Prop
  | .update s _ _ prior => UpdGuard cfg st s prior
  | .setItem d sd _ _ => SetOk cfg st d sd
  | .forget _ _ => False
  | _ => True

/-- every covered operation preserves `IndexInv`, on a normal return and on every exception except fuel exhaustion.  Covered, with no
    guard: hooked assignments of every attribute, `ignored`/`priority`/`punt`/`unignore`, `mark_changed`, `SideState.clear`,
    `update_entry`, `split`, `reload`, the clock and `storage_commit`'s dirty-set reset; under `UpdGuard`: raw events `update` for both
    id styles with every branch (the merge-copy branch `ent[1-side] = _copy` included); under `SetOk`: `__setitem__`.  Not covered:
    `forget_oid` (`forget_inv`). -/
theorem step_inv (cfg : Cfg) (fuel : Nat) (op : Op) (st : St) (hi : IndexInv st) (hg : OpGuard cfg st op)
    (hrec : (step cfg fuel op st).1 ≠ .error .recursion) : IndexInv (step cfg fuel op st).2 := by
  by_cases hne : op = .reload
  · subst hne
    have hst : step cfg fuel .reload st = (.ok (), reload st) := rfl
    rw [hst]
    exact ⟨(reload_inv st hi.1).1, (reload_inv st hi.1).2.1⟩
  have hIL : InvL st.ents.length st := ⟨hi.1, rfl, hi.2⟩
  have key : Tr (fun st' => st' = st) (step cfg fuel op) (fun _ st' => Inv st') Inv := by
    unfold step
    apply Tr.getSt_fix
    intro st0 h0
    obtain rfl := h0.symm
    dsimp only
    apply Tr.ite
    · intro _
      exact Tr.bind (R := fun _ _ => False) (Tr.throw (fun _ _ h => h ▸ hi.1)) (fun _ => Tr.false_pre (fun _ h => h))
    intro hb
    have hrefs : ∀ i ∈ op.refs, i < st.ents.length := by
      intro i hi'
      have : ¬ (i ≥ st.ents.length) := fun hge => hb (List.any_eq_true.2 ⟨i, hi', by simpa using hge⟩)
      omega
    have hpre : ∀ st', st' = st → InvL st.ents.length st' := fun _ h => h ▸ hIL
    cases op with
    | tick ms => exact Tr.modify (fun _ h => h ▸ (hIL.plain (st' := { st with now := st.now + ms }) (plainRel_rec rfl rfl rfl rfl rfl)).1)
    | commit => exact Tr.modify (fun _ h => h ▸ (hIL.plain (st' := { st with dirty := [] }) (plainRel_rec rfl rfl rfl rfl rfl)).1)
    | setSide e s fv => exact ((sideSet_keeps cfg fuel e s fv _ (hrefs e (by simp [Op.refs]))).pre hpre).conseq (fun _ h => h) (fun _ _ h => h.1) (fun _ h => h)
    | setIgnored e v => exact Tr.modify (fun _ h => h ▸ (ignoredState_inv st e v _ hIL).1)
    | setPriority e v =>
      exact Ho.tr ((setPriority_ho cfg fuel noX e v hi.1.1 hi.1.2 (hrefs e (by simp [Op.refs]))).conseq (fun _ _ h => h.2)
        (fun _ _ h hx => absurd h.1 hx))
    | punt e =>
      exact Ho.tr ((setPriority_ho cfg fuel noX e _ hi.1.1 hi.1.2 (hrefs e (by simp [Op.refs]))).conseq (fun _ _ h => h.2)
        (fun _ _ h hx => absurd h.1 hx))
    | unignore e r =>
      exact Tr.seq (Tr.assert (fun _ h _ => h ▸ hi.1) (fun _ h _ => hpre _ h)) (Tr.modify (fun st' h => (ignoredState_inv st' e .none _ h).1))
    | clear e s => exact (clearSide_tr cfg fuel e s _ (hrefs e (by simp [Op.refs]))).conseq hpre (fun _ _ h => h.1) (fun _ h => h)
    | mark e s => exact (markChanged_tr cfg fuel s e _ (hrefs e (by simp [Op.refs]))).conseq hpre (fun _ _ h => h.1) (fun _ h => h)
    | update s ot a prior => exact (update_tr cfg fuel s ot a prior st.ents.length).pre (fun _ h => by subst h; exact ⟨hIL, hg⟩)
    | updateEntry e s a => exact (updateEntry_tr cfg fuel e s a _ (hrefs e (by simp [Op.refs]))).pre hpre
    | split e => exact Tr.seq ((split_tr cfg fuel e _ (hrefs e (by simp [Op.refs]))).pre hpre) (Tr.pure (fun _ h => h.1))
    | setItem d sd sr ss =>
      exact (setItem_trG cfg fuel d sd sr ss _ (hrefs d (by simp [Op.refs])) (hrefs sr (by simp [Op.refs]))).conseq
        (fun _ h => by subst h; exact ⟨hIL, hg⟩) (fun _ _ h => h.1) (fun _ h => h)
    | forget _ _ => exact hg.elim
    | reload => exact absurd rfl hne
  have key2 := key.with_mov (mov_step cfg fuel op hne) []
  exact key2.run_inv (fun _ _ h => h) st ⟨rfl, hi.2⟩ hrec

/-- sequences: if every operation meets its guard in the state it is applied to and none runs out of fuel,
    `IndexInv` holds afterwards (`run_inv`) -/
def Guarded (cfg : Cfg) (fuel : Nat) : List Op → St → Prop
  | [], _ => True
  | op :: ops, st => OpGuard cfg st op ∧ (step cfg fuel op st).1 ≠ .error .recursion ∧ Guarded cfg fuel ops (step cfg fuel op st).2

theorem run_inv (cfg : Cfg) (fuel : Nat) : ∀ (ops : List Op) (st : St), IndexInv st → Guarded cfg fuel ops st →
    IndexInv (run cfg fuel ops st)
  | [], _, hi, _ => hi
  | op :: ops, st, hi, ⟨hg, hrec, hrest⟩ => run_inv cfg fuel ops _ (step_inv cfg fuel op st hi hg hrec) hrest

theorem run_inv_init (cfg : Cfg) (fuel : Nat) (ops : List Op) (h : Guarded cfg fuel ops init) : IndexInv (run cfg fuel ops init) :=
  run_inv cfg fuel ops init init_inv h

/-- `storage_commit` + a new `SyncState` over the same storage (`reload`): the rebuilt state satisfies `IndexInv`, and its pending
    set is *exactly* the set of entries with a change flag on a side that has an id (in a live state only ⊇ holds:
    `cex_pending_without_id`) -/
theorem reload_index_inv (st : St) (hi : IndexInv st) :
    IndexInv (reload st) ∧
    ∀ i, i ∈ (reload st).cs ↔ ∃ s, ((reload st).side i s).oid ≠ none ∧ ((reload st).side i s).changed.truthy = true :=
  ⟨⟨(reload_inv st hi.1).1, (reload_inv st hi.1).2.1⟩, (reload_inv st hi.1).2.2⟩

/-- C11's invariant in the words of the C08 layer's hypothesis `LiveIndexOK` (lean/Csverif/Props/C08.lean).  The converse of the
    last clause — "every pending entry has such a flag" — is not part of `LiveIndexOK`: it is FALSE of live states
    (`cex_pending_without_id`) and holds after a reload (`reload_index_inv`). -/
theorem live_index_ok (st : St) (hi : IndexInv st) :
    (∀ s k i, st.lookupOid s k = some i → i < st.ents.length ∧ (st.side i s).oid = k) ∧
    (∀ s i, (st.side i s).oid ≠ none → st.lookupOid s (st.side i s).oid = some i) ∧
    (∀ s, st.lookupOid s none = none) ∧
    (∀ i, (∃ s, (st.side i s).changed.truthy = true ∧ truthyS (st.side i s).oid = true) → i ∈ st.cs) :=
  ⟨fun s k i h => ⟨hi.1.1.bnd s k i h, hi.1.1.oidSlot s k i h⟩, fun s i ho => hi.1.1.byOid i s (fun h => h) ho,
   fun s => hi.1.1.oidKey s, hi.1.2⟩

/-- the keys of the id indexes, of the path indexes and of every path bucket are pairwise different -/
abbrev KeysUnique := KeysOk

/-- every operation keeps the keys unique — on every outcome, fuel exhaustion included, no guard, `forget_oid` and `reload` included -/
theorem step_keys (cfg : Cfg) (fuel : Nat) (op : Op) (st : St) (h : KeysUnique st) : KeysUnique (step cfg fuel op st).2 :=
  kp_step cfg fuel op st h

/-- … hence they are unique in every state the model reaches from the empty state -/
theorem keys_unique (cfg : Cfg) (fuel : Nat) (ops : List Op) : KeysUnique (run cfg fuel ops init) :=
  run_keysOk cfg fuel ops init keysOk_init

/-- so the first-match lookups through which `IndexInv` is stated are dictionary lookups: `lookup_oid` … -/
theorem lookup_is_membership (st : St) (h : KeysUnique st) (s : Sd) (k : Oid) (i : Nat) :
    st.lookupOid s k = some i ↔ (k, i) ∈ st.oids s := AL.get_iff_mem (h s).1 k i

/-- … and the `(path, id)` slot -/
theorem slot_is_membership (st : St) (h : KeysUnique st) (s : Sd) (p : Option Path.Str) (k : Oid) (i : Nat) :
    st.slot s p k = some i ↔ ∃ b, (p, b) ∈ st.paths s ∧ (k, i) ∈ b := by
  unfold St.slot
  constructor
  · intro hs
    cases hg : AL.get (st.paths s) p with
    | none => rw [hg] at hs; cases hs
    | some b => rw [hg] at hs; exact ⟨b, AL.mem_of_get hg, AL.mem_of_get hs⟩
  · rintro ⟨b, hb, hi⟩
    rw [(AL.get_iff_mem (h s).2.1 p b).2 hb]
    exact (AL.get_iff_mem ((h s).2.2 _ hb) k i).2 hi

theorem forgetOid_eq (s : Sd) (k : Oid) (st : St) :
    forgetOid s k st =
      match AL.get (st.oids s) k with
      | none => (.ok (), st)
      | some e => (.ok (), ((st.setOids s (AL.erase (st.oids s) k)).popPathSlot s (st.side e s).path k).csDiscard e) := by
  simp only [forgetOid, M.bind_apply, getSt_apply]
  cases AL.get (st.oids s) k <;> rfl

/-- `forget_oid` raises nothing -/
theorem forget_total (s : Sd) (k : Oid) (st : St) : (forgetOid s k st).1 = .ok () := by
  rw [forgetOid_eq]; cases AL.get (st.oids s) k <;> rfl

/-- after `forget_oid(side, k)` of entry `e`: the index clauses hold with `(e, side)` exempt (the entry keeps its `oid`/`path`
    fields), no slot of that side points to `e`, `e` is not pending, every other entry is pending when it must be -/
theorem forget_inv (s : Sd) (k : Oid) (st : St) (hi : IndexInv st) :
    match AL.get (st.oids s) k with
    | none => (forgetOid s k st).2 = st
    | some e => Idx (noX.add e s) (forgetOid s k st).2 ∧ Clean (forgetOid s k st).2 e s ∧ e ∉ (forgetOid s k st).2.cs ∧
        ∀ i, i ≠ e → PendE i (forgetOid s k st).2 := by
  have hi := hi.1
  rw [forgetOid_eq]
  cases hk : AL.get (st.oids s) k with
  | none => rfl
  | some e =>
    simp only
    obtain ⟨hI1, hC⟩ := idx_unindex hi.1 hk
    -- the state is `unindex` followed by the pending-set discard
    rw [unindex_eq hi.1]
    refine ⟨hI1.congr (by simp) (by simp) (by simp) (by simp), ?_, by simp, ?_⟩
    · exact ⟨fun k' => by simpa using hC.1 k', fun p k' => by simpa using hC.2 p k'⟩
    · intro i hie ⟨s', h1, h2⟩
      simp only [side_csDiscard, side_unindex] at h1 h2
      simp only [mem_csDiscard, cs_unindex]
      exact ⟨hie, hi.2 i ⟨s', h1, h2⟩⟩

/-- `mkCfg oipL oipR csL csR prioMode infoMode`: `oid_is_path` and case sensitivity of the LOCAL and the REMOTE provider;
    `prioMode = 0`: `prioritize` is constantly 0; `infoMode = 0`: `info_path` finds nothing, `1`: it answers every path `p`
    with the id `p`, `2`: the same, but nothing for a path that contains `n` -/
def cfg0 : Cfg := mkCfg false false true true 0 0
def ev (s : Sd) (ot : OType) (oid : String) (path : Option String) : Op :=
  .update s ot { oid := some oid.toList, path := path.map String.toList } none

def outcome (cfg : Cfg) (fuel : Nat) : List Op → St → Option Exc
  | [], _ => none
  | op :: rest, st => match step cfg fuel op st with
    | (.ok _, st') => outcome cfg fuel rest st'
    | (.error x, _) => some x

/-- natural clause, FALSE: an entry side that carries a path carries an id.
    `update(LOCAL, FILE, "i1", path="/a")` then `ent[LOCAL].oid = None` -/
def PathImpliesOid (st : St) : Prop := ∀ i s, truthyS (st.side i s).path = true → (st.side i s).oid ≠ none
def ops_path_without_id : List Op := [ev .L .file "i1" (some "/a"), .setSide 0 .L (.oid none)]
theorem cex_path_without_id : ¬ PathImpliesOid (run cfg0 10 ops_path_without_id init) :=
  fun h => h 0 .L (by decide +kernel) (by decide +kernel)

/-- natural clause, FALSE: every entry of the pending set has a change flag on a side that has an id.
    `update(LOCAL, FILE, "i1", path="/a")`, `ent[REMOTE].changed = 5`, `ent[LOCAL].oid = None`: the entry stays pending although
    neither flagged side has an id (`_change_oid` only un-pends when the other side is not flagged) -/
def PendingSound (st : St) : Prop :=
  ∀ i, i ∈ st.cs → ∃ s, (st.side i s).changed.truthy = true ∧ truthyS (st.side i s).oid = true
def ops_pending_without_id : List Op := [ev .L .file "i1" (some "/a"), .setSide 0 .R (.changed (.num 5)), .setSide 0 .L (.oid none)]
theorem cex_pending_without_id : ¬ PendingSound (run cfg0 10 ops_pending_without_id init) := by
  intro h
  obtain ⟨s, _, h2⟩ := h 0 (by decide +kernel)
  cases s
  · exact absurd h2 (by decide +kernel)
  · exact absurd h2 (by decide +kernel)

/-- repaired (fix B): the old failing input of `pending-without-flag` no longer leaves the entry pending -/
def ops_pending_without_flag : List Op := [ev .L .file "i1" (some "/a"), .mark 0 .R, .setSide 0 .L (.changed .none)]
theorem fixed_pending_without_flag : (run cfg0 10 ops_pending_without_flag init).cs = [] := by decide +kernel

/-- repaired (fix A): `forget_oid` un-pends the entry, drops the emptied bucket, tolerates a pathless entry -/
def ops_forget : List Op := [ev .L .file "i1" (some "/a"), .forget .L (some "i1".toList)]
theorem fixed_forget :
    (run cfg0 10 ops_forget init).cs = [] ∧ (run cfg0 10 ops_forget init).paths .L = [] ∧ (run cfg0 10 ops_forget init).oids .L = [] := by
  decide +kernel
def ops_forget_pathless : List Op := [ev .L .file "i1" none, .forget .L (some "i1".toList)]
theorem fixed_forget_pathless : outcome cfg0 10 ops_forget_pathless init = none := by decide +kernel

/-- repaired (commit eec8a73): the loader no longer indexes absent sides under `None`, so giving the side an id later leaves
    no stale `(None, None)` slot.  `update(LOCAL, FILE, "i1", path="/a")`, reload, `ent[REMOTE].oid = "r1"` -/
def ops_reload : List Op := [ev .L .file "i1" (some "/a"), .reload, .setSide 0 .R (.oid (some "r1".toList))]
theorem fixed_reload_stale_slot :
    (run cfg0 10 ops_reload init).slot .R none none = none ∧ (run cfg0 10 ops_reload init).paths .R = [] ∧
    (run cfg0 10 ops_reload init).oids .R = [(some "r1".toList, 0)] ∧
    (run cfg0 10 [ev .L .file "i1" (some "/a"), .reload] init).oids .R = [] := by
  decide +kernel

/-- repaired (fix C): two directory entries, `e` at `/a`, `f` at `/a/b`, then `e` moves to `/a/b/c` — `_update_kids` used to recurse
    for ever (the two folders moved each other); now the move ends, `f` follows `e` once -/
def ops_kids_mutual : List Op := [ev .L .dir "e" (some "/a"), ev .L .dir "f" (some "/a/b"), ev .L .dir "e" (some "/a/b/c")]
theorem fixed_kids_mutual_recursion :
    outcome cfg0 10 ops_kids_mutual init = none ∧ ((run cfg0 10 ops_kids_mutual init).side 0 .L).path = some "/a/b/c".toList ∧
    ((run cfg0 10 ops_kids_mutual init).side 1 .L).path = some "/a/b/c/b".toList ∧ (run cfg0 10 ops_kids_mutual init).moving = [] := by
  decide +kernel

/-- the repaired self-recursion (commit f72ed8c): a folder moved beneath its own previous path ends at the new path -/
def ops_self_nest : List Op := [ev .L .dir "o" (some "/a"), ev .L .dir "o" (some "/a/b")]
theorem fixed_self_recursion_terminates :
    outcome cfg0 10 ops_self_nest init = none ∧ ((run cfg0 10 ops_self_nest init).side 0 .L).path = some "/a/b".toList ∧
    (run cfg0 10 ops_self_nest init).slot .L (some "/a/b".toList) (some "o".toList) = some 0 := by decide +kernel

/-- repaired (fix B): both sides flagged and id-less no longer recurses -/
def ops_changed_rec : List Op :=
  [ev .L .file "i1" (some "/a"), .setSide 0 .R (.changed (.num 1)), .setSide 0 .L (.oid none), .setSide 0 .L (.changed .none)]
theorem fixed_changed_recursion : outcome cfg0 10 ops_changed_rec init = none := by decide +kernel

/-- FALSE: "`__setitem__` preserves `IndexInv` whatever the receiving side is".  On a path-id side (`oid_is_path`, `info_path(p).oid = p`)
    the folder `/a` (entry 0, kid `/a/x` = entry 1) receives a side with id `/b/x` and path `/b`: the kid moves to `/b/x`,
    `info_path` gives it the id `/b/x`, which ousts the receiving folder from the id index just before the side is installed.
    Afterwards entries 0 and 1 both carry `/b/x` and the index knows only entry 1.  This is why `SetOk` is needed. -/
def cfg1 : Cfg := mkCfg true true true true 0 1
def ops_setitem_folder : List Op :=
  [ev .L .dir "/a" (some "/a"), ev .L .file "/a/x" (some "/a/x"), ev .L .dir "/b/x" (some "/b"), .setItem 0 .L 2 .L]
theorem cex_setitem_folder_kid_takes_id :
    outcome cfg1 10 ops_setitem_folder init = none ∧
    ((run cfg1 10 ops_setitem_folder init).side 0 .L).oid = some "/b/x".toList ∧
    ((run cfg1 10 ops_setitem_folder init).side 1 .L).oid = some "/b/x".toList ∧
    (run cfg1 10 ops_setitem_folder init).lookupOid .L (some "/b/x".toList) = some 1 := by decide +kernel

def isRec {α} : Except Exc α → Bool
  | .error .recursion => true
  | _ => false
theorem ne_rec_of {α} {r : Except Exc α} (h : isRec r = false) : r ≠ .error .recursion := by
  intro hr; rw [hr] at h; cases h

/-- the hypotheses are satisfiable: a raw event from the empty state meets its guard … -/
example : Guarded cfg0 10 [ev .L .file "i1" (some "/a")] init :=
  ⟨fun pe h => by simp [St.lookupOid, init, St.oids, St.ix] at h, ne_rec_of (by decide +kernel), trivial⟩

/-- … `split` after it … -/
example : Guarded cfg0 10 [.split 0, .setItem 0 .L 1 .L] (run cfg0 10 [ev .L .file "i1" (some "/a")] init) :=
  ⟨trivial, ne_rec_of (by decide +kernel), Or.inr (by decide +kernel), ne_rec_of (by decide +kernel), trivial⟩

/-- … and so do hooked assignments, `mark_changed` and `clear` after it -/
example : Guarded cfg0 10 [.setSide 0 .L (.oid (some "x".toList)), .mark 0 .L, .clear 0 .L]
    (run cfg0 10 [ev .L .file "i1" (some "/a")] init) := by
  refine ⟨trivial, ne_rec_of (by decide +kernel), trivial, ne_rec_of (by decide +kernel), trivial,
    ne_rec_of (by decide +kernel), trivial⟩

/-- … and a folder with a folder beneath it moves, then the state is reloaded: nothing but the vacuous event guard to meet -/
example : Guarded cfg0 10 [ev .L .dir "e" (some "/b"), .reload]
    (run cfg0 10 [ev .L .dir "e" (some "/a"), ev .L .dir "f" (some "/a/b")] init) := by
  refine ⟨fun pe h => ?_, ne_rec_of (by decide +kernel), trivial, ne_rec_of (by decide +kernel), trivial⟩
  have h0 : (run cfg0 10 [ev .L .dir "e" (some "/a"), ev .L .dir "f" (some "/a/b")] init).lookupOid .L none = none := by decide +kernel
  rw [h0] at h; cases h

end CS.State
