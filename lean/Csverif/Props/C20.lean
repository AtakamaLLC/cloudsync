import Csverif.Proofs.Smart
/-
C20 — on-demand sync: remote files stay remote until requested; un-request keeps the remote copy.  `CS.Smart`: about the
MODEL of smartsync.py (Model/Smart.lean), for every combination of the features the code reads, every call sequence, every
list of entries.  `CS.Spec.Smart`: about the SPECIFICATION the monitor executes on real runs (Model/Spec/Smart.lean): what a
verdict "ok" means, and what the specification demands of every history.
Statements that are false of the code as it is are kept in comments next to their `_partial` version and a kernel-checked
counterexample (replayed on the real code by harness/c20_smart.py).
-/
namespace CS.Smart

theorem gate_finished_iff (i : GateIn) :
    (preSyncGate i).finished = true ↔
      i.superFinished = true ∨
        ((i.localOid = false ∨ i.localExists = false) ∧ i.requested = false ∧ i.remoteDir = false) := by
  rw [preSyncGate_finished]
  simp [and_assoc]

/-- **no_download_unless_requested** (gate).  The gate lets an entry that is not a folder through to the transferring
    code only if the entry is requested or a local copy exists.  (An auto-sync predicate acts by putting the entry in
    the request set before the gate sees it: `no_download_unless_requested_pipeline`.) -/
theorem no_download_unless_requested (i : GateIn)
    (hpass : (preSyncGate i).finished = false) (hfile : i.remoteDir = false) :
    i.requested = true ∨ (i.localOid = true ∧ i.localExists = true) := by
  rw [preSyncGate_finished, hfile] at hpass
  cases hr : i.requested <;> simp_all

/-- as a decision: without a local copy, unrequested, not a folder ⇒ "finish without transfer" -/
theorem gate_blocks_unrequested (i : GateIn) (hreq : i.requested = false) (hdir : i.remoteDir = false)
    (hloc : i.localOid = false ∨ i.localExists = false) :
    ∃ n, gateDecision i = .finishWithoutTransfer n :=
  ⟨(preSyncGate i).note, by simp [gateDecision, (gate_finished_iff i).mpr (.inr ⟨hloc, hreq, hdir⟩)]⟩

/-- … and the application is told: SYNC_SMART_UNSYNCED, carrying the remote path whenever the entry has one -/
theorem gate_unrequested_notifies (i : GateIn) (hsup : i.superFinished = false) (hreq : i.requested = false)
    (hdir : i.remoteDir = false) (hloc : i.localOid = false ∨ i.localExists = false) (hpath : i.remotePath = true) :
    preSyncGate i = { finished := true, note := some ⟨.rem, .smartUnsynced, .remotePath⟩ } := by
  rcases hloc with h | h <;> simp [preSyncGate_eq, gateNote, *]

/-- an entry the generic engine already discarded is reported as SYNC_DISCARDED, never as "skipped" -/
theorem gate_discarded_note (i : GateIn) (hsup : i.superFinished = true) :
    (preSyncGate i).finished = true ∧ ∀ n, (preSyncGate i).note = some n → n.ntype = .discarded := by
  have hf : (preSyncGate i).finished = true := by simp [preSyncGate_finished, hsup]
  refine ⟨hf, fun n hn => ?_⟩
  rw [preSyncGate_note, hf] at hn
  simpa [hsup] using (gateNote_some i n hn).1

/-- no notification without a path; the local path is used only when nothing else is available -/
theorem gate_note_path (i : GateIn) (n : Note) (h : (preSyncGate i).note = some n) :
    (n.path = .remotePath ↔ i.remotePath = true) ∧
    (n.path = .translatedLocal → i.localPath = true ∧ i.translates = true) ∧
    (n.src = .loc ↔ n.path = .rawLocal) := by
  rw [preSyncGate_note] at h
  split at h
  · exact (gateNote_some i n h).2
  · cases h

/-- the gate never sends a notification for an entry it lets through -/
theorem gate_pass_silent (i : GateIn) (h : (preSyncGate i).finished = false) : (preSyncGate i).note = none := by
  rw [preSyncGate_note, h]; rfl

theorem firstMatch_eq_any (rp : Bool) (cbs : List Bool) : firstMatch rp cbs = (rp && cbs.any id) := by
  induction cbs with
  | nil => simp [firstMatch]
  | cons c cs ih => cases rp <;> cases c <;> simp_all [firstMatch]

theorem filter_included_iff (i : FilterIn) :
    (changesetFilter i).included = true ↔
      ¬ (i.inExclude = true ∧ i.localChanged = false) ∧
      (i.inRequest = true ∨ i.remoteDir = true ∨ ((i.remoteChanged = true ∨ i.localChanged = true) ∧ i.isLatest = false) ∨
        (i.localOid = false ∧ firstMatch i.remotePath i.callbacks = true)) := by
  rw [changesetFilter_eq]
  cases i.inExclude <;> simp [apply_ite FilterOut.included, or_assoc]

/-- the filter changes the sets only by REQUESTING an entry matched by a predicate -/
theorem filter_mem (i : FilterIn) :
    (changesetFilter i).mem = { req := i.inRequest, excl := i.inExclude } ∨
    ((changesetFilter i).mem = { req := true, excl := false } ∧ i.inRequest = false ∧ i.localOid = false ∧
      firstMatch i.remotePath i.callbacks = true) := by
  rw [changesetFilter_eq]
  split
  · exact .inl rfl
  split
  · exact .inl rfl
  split
  · simp_all  -- 194-198, the one branch that writes the sets
  · exact .inl rfl

theorem filter_keeps_disjoint (i : FilterIn) (h : ¬ (i.inRequest = true ∧ i.inExclude = true)) :
    ¬ ((changesetFilter i).mem.req = true ∧ (changesetFilter i).mem.excl = true) := by
  rcases filter_mem i with hm | ⟨hm, _⟩ <;> rw [hm] <;> simp_all

/-- an entry skipped because it was un-requested is reported (SYNC_SMART_UNSYNCED) and nothing else is -/
theorem filter_notified_iff (i : FilterIn) :
    (changesetFilter i).notified = true ↔ (i.inExclude = true ∧ i.localChanged = false) := by
  simp [changesetFilter_eq, apply_ite FilterOut.notified]

/-- the gate sees the entry as the filter left it: `_changeset` (175-204) and `pre_sync` (45-67) read the same `SyncEntry`
    and the same sets, the filter first.  `localExists` is a provider call of the gate alone and is not tied -/
def Consistent (f : FilterIn) (g : GateIn) : Prop :=
  g.requested = (changesetFilter f).mem.req ∧ g.remoteDir = f.remoteDir ∧ g.localOid = f.localOid

/-- **no_download_unless_requested** (filter + gate).  A file entry without a local copy is offered by the filter AND let
    through by the gate only if the application requested it or a registered auto-sync predicate accepts its remote path.
    (The gate's half carries the proof: what the filter contributes is the membership it leaves, `Consistent`.) -/
theorem no_download_unless_requested_pipeline (f : FilterIn) (g : GateIn) (hc : Consistent f g)
    (hoffered : (changesetFilter f).included = true) (hpass : (preSyncGate g).finished = false)
    (hfile : g.remoteDir = false) (hnolocal : g.localOid = false ∨ g.localExists = false) :
    f.inRequest = true ∨ (f.remotePath = true ∧ f.callbacks.any id = true) := by
  have hreq : (changesetFilter f).mem.req = true := by
    rw [← hc.1]
    rcases no_download_unless_requested g hpass hfile with h | ⟨h2, h3⟩
    · exact h
    · rcases hnolocal with h | h <;> simp_all
  rcases filter_mem f with hm | ⟨_, _, _, hm⟩
  · rw [hm] at hreq; exact .inl hreq
  · exact .inr (by simpa [firstMatch_eq_any] using hm)

/- FULL STATEMENT (false of the code as it is — a folder that was un-requested sits in the exclude set and is skipped):
theorem folders_always_mirrored (f : FilterIn) (hdir : f.remoteDir = true) : (changesetFilter f).included = true -/

/-- **folders_always_mirrored** (partial: the folder was never un-requested, or has a local change).  Every pending
    folder entry is offered by the filter, and the gate lets every folder entry through that the generic engine has
    not discarded — whether or not anybody requested it. -/
theorem folders_always_mirrored_partial (f : FilterIn) (g : GateIn) (hdirf : f.remoteDir = true) (hdirg : g.remoteDir = true)
    (hexcl : f.inExclude = false ∨ f.localChanged = true) (hsup : g.superFinished = false) :
    (changesetFilter f).included = true ∧ (preSyncGate g).finished = false ∧ gateDecision g = .syncNormally := by
  have hfin : (preSyncGate g).finished = false := by simp [preSyncGate_finished, hsup, hdirg]
  refine ⟨(filter_included_iff f).mpr ⟨?_, .inr (.inl hdirf)⟩, hfin, gateDecision_of_pass g hfin⟩
  rintro ⟨h1, h2⟩
  rcases hexcl with h | h <;> simp_all

/-- counterexample to the full statement: a folder entry in the exclude set (request + un-request of the folder) with a
    pending remote change is NOT offered; replayed on the real code (known finding `unrequest-folder-unmirrors`) -/
theorem folder_excluded_is_skipped :
    (changesetFilter { inExclude := true, localChanged := false, inRequest := false, remoteDir := true, remoteChanged := true,
                       isLatest := false, localOid := false, remotePath := true, callbacks := [], localPath := false,
                       localPathExists := false }).included = false := by
  decide

/- FULL STATEMENT (false of the model: an entry with a pending local change whose provider info is already current and
   that is not requested is not offered — the engine relies on a punt/priority bump to make it "not latest" again):
theorem local_creations_always_uploaded (f : FilterIn) (h : f.localChanged = true) (hl : f.localOid = true) :
    (changesetFilter f).included = true -/

/-- **local_creations_always_uploaded** (partial: the entry's provider info is stale, which is the state every local
    event leaves it in).  A pending local change is offered regardless of both sets, and the gate lets every entry with
    an existing local object through regardless of the request set. -/
theorem local_creations_always_uploaded_partial (f : FilterIn) (g : GateIn)
    (hchanged : f.localChanged = true) (hstale : f.isLatest = false)
    (hloc : g.localOid = true ∧ g.localExists = true) (hsup : g.superFinished = false) :
    (changesetFilter f).included = true ∧ (changesetFilter f).notified = false ∧ gateDecision g = .syncNormally := by
  refine ⟨(filter_included_iff f).mpr ⟨by simp [hchanged], .inr (.inr (.inl ⟨.inr hchanged, hstale⟩))⟩, ?_,
    gateDecision_of_pass g (by simp [preSyncGate_finished, hsup, hloc])⟩
  rw [← Bool.not_eq_true, filter_notified_iff]
  simp [hchanged]

/-- counterexample to the full statement -/
theorem local_change_latest_unrequested_not_offered :
    (changesetFilter { inExclude := false, localChanged := true, inRequest := false, remoteDir := false, remoteChanged := false,
                       isLatest := true, localOid := true, remotePath := false, callbacks := [true], localPath := true,
                       localPathExists := true }).included = false := by
  decide

theorem sets_stay_disjoint (s : Sets) (cs : List Call) (h : Disjoint s) : Disjoint (runCalls s cs) :=
  List.foldlRecOn cs applyCall h fun s' hs c _ => disjoint_applyCall s' c hs

theorem calls_frame (s : Sets) (cs : List Call) (x : Nat) (h : ∀ c ∈ cs, c.entry ≠ x) :
    (x ∈ (runCalls s cs).req ↔ x ∈ s.req) ∧ (x ∈ (runCalls s cs).excl ↔ x ∈ s.excl) :=
  List.foldlRecOn (motive := fun s' => (x ∈ s'.req ↔ x ∈ s.req) ∧ (x ∈ s'.excl ↔ x ∈ s.excl)) cs applyCall
    ⟨Iff.rfl, Iff.rfl⟩ fun s' hs c hc => let f := applyCall_frame s' c x (h c hc); ⟨f.1.trans hs.1, f.2.trans hs.2⟩

theorem last_call_request (s : Sets) (cs : List Call) (e : Nat) :
    e ∈ (runCalls s (cs ++ [.request e])).req ∧ e ∉ (runCalls s (cs ++ [.request e])).excl := by
  rw [runCalls_snoc]
  simp [applyCall, request_mem_req, request_mem_excl]

theorem last_call_unrequest (s : Sets) (cs : List Call) (e : Nat) :
    e ∉ (runCalls s (cs ++ [.unrequest e])).req ∧
    (e ∈ (runCalls s (cs ++ [.unrequest e])).excl ↔ (e ∈ (runCalls s cs).req ∨ e ∈ (runCalls s cs).excl)) := by
  rw [runCalls_snoc]
  simp [applyCall, unrequest_mem_req, unrequest_mem_excl, or_comm]

theorem in_some_set_stable (s : Sets) (cs : List Call) (e : Nat) (h : e ∈ s.req ∨ e ∈ s.excl) :
    e ∈ (runCalls s cs).req ∨ e ∈ (runCalls s cs).excl := by
  refine List.foldlRecOn (motive := fun s' => e ∈ s'.req ∨ e ∈ s'.excl) cs applyCall h fun s' hs c _ => ?_
  by_cases hc : c.entry = e
  · -- a call on `e` itself: a request puts it in the request set, an un-request moves it or leaves it excluded
    cases c with
    | request x => cases hc; exact .inl ((request_mem_req ..).mpr (.inr rfl))
    | unrequest x =>
      cases hc
      exact .inr ((unrequest_mem_excl ..).mpr (hs.elim (fun h => .inr ⟨rfl, h⟩) .inl))
  · have f := applyCall_frame s' c e hc
    exact hs.imp f.1.mpr f.2.mpr

theorem requested_once_in_some_set (s : Sets) (cs : List Call) (e : Nat) (h : Call.request e ∈ cs) :
    e ∈ (runCalls s cs).req ∨ e ∈ (runCalls s cs).excl := by
  obtain ⟨a, b, rfl⟩ := List.append_of_mem h
  have : runCalls s (a ++ Call.request e :: b) = runCalls (runCalls s (a ++ [.request e])) b := by
    rw [← runCalls_append]; simp
  rw [this]
  exact in_some_set_stable _ b e (Or.inl (last_call_request s a e).1)

/- FULL STATEMENT (false: un-requesting an entry that is in neither set leaves it in neither set — `_smart_unsync` only
   moves entries that are in the request set):
theorem request_unrequest_sets (s : Sets) (cs : List Call) (c : Call) (h : Disjoint s) :
    let s' := runCalls s (cs ++ [c])
    (c = .request c.entry → c.entry ∈ s'.req ∧ c.entry ∉ s'.excl) ∧
    (c = .unrequest c.entry → c.entry ∉ s'.req ∧ c.entry ∈ s'.excl) -/

/-- **request_unrequest_sets** (partial: the entry was requested at some point of the sequence, or started in one of the
    sets).  After ANY sequence of request / un-request calls (on any entries) the entry addressed by the LAST call is in
    exactly one of the two sets, the one the last call names; the sets are disjoint throughout. -/
theorem request_unrequest_sets_partial (s : Sets) (cs : List Call) (c : Call) (h : Disjoint s)
    (hreq : Call.request c.entry ∈ cs ++ [c] ∨ c.entry ∈ s.req ∨ c.entry ∈ s.excl) :
    let s' := runCalls s (cs ++ [c])
    Disjoint s' ∧
    (c = .request c.entry → c.entry ∈ s'.req ∧ c.entry ∉ s'.excl) ∧
    (c = .unrequest c.entry → c.entry ∉ s'.req ∧ c.entry ∈ s'.excl) := by
  refine ⟨sets_stay_disjoint _ _ h, ?_, ?_⟩
  · intro hc
    rw [hc]
    exact last_call_request s cs _
  · intro hc
    have hl := last_call_unrequest s cs c.entry
    rw [← hc] at hl
    refine ⟨hl.1, hl.2.mpr ?_⟩
    rcases hreq with hr | hr
    · rw [List.mem_append] at hr
      rcases hr with hr | hr
      · exact requested_once_in_some_set s cs _ hr
      · rw [hc] at hr; simp at hr
    · exact in_some_set_stable s cs _ hr

/-- without that hypothesis only the request-set half survives -/
theorem unrequest_last_not_requested (s : Sets) (cs : List Call) (e : Nat) :
    e ∉ (runCalls s (cs ++ [.unrequest e])).req := (last_call_unrequest s cs e).1

/-- counterexample to the full statement: un-request of a never-requested entry leaves it in NEITHER set
    (replayed on the real `SmartSyncState`: un-request of a never-requested file) -/
theorem unrequest_never_requested_in_neither_set :
    let s := runCalls { req := [], excl := [] } [.unrequest 0]
    (0 ∉ s.req) ∧ (0 ∉ s.excl) := by
  decide

theorem flushPart_no_direct_write (e : Nat) (i : UnsyncIn) (a : Act) (ha : a ∈ flushPart e i) : a.isDirectWrite = false := by
  rw [mem_flushPart] at ha
  rcases ha with h | ⟨_, h⟩ <;> subst h <;> rfl

theorem statePart_direct_write (e : Nat) (i : UnsyncIn) (a : Act) (ha : a ∈ statePart e i) (hw : a.isDirectWrite = true) :
    a = .write .loc .delete e ∧ i.localPath = true ∧ i.localInfo = true := by
  rw [mem_statePart] at ha
  rcases ha with ⟨hp, h | ⟨hi, h⟩ | h⟩ | h
  · subst h; cases hw
  · exact ⟨h, hp, hi⟩
  · subst h; cases hw
  · subst h; cases hw

theorem append_split_of_not_mem {α : Type} {A B pre post : List α} {x : α} (hx : x ∉ A)
    (h : A ++ B = pre ++ x :: post) : (∀ a ∈ A, a ∈ pre) ∧ (∀ a ∈ post, a ∈ B) := by
  rw [List.append_eq_append_iff] at h
  rcases h with ⟨a', rfl, rfl⟩ | ⟨c', rfl, h2⟩
  · exact ⟨fun a ha => List.mem_append_left _ ha, fun a ha => by simp [ha]⟩
  · cases c' with
    | nil =>
      obtain rfl : x :: post = B := h2
      exact ⟨fun a ha => by simpa using ha, fun a ha => List.mem_cons_of_mem _ ha⟩
    | cons c cs => exact absurd (by simp [(List.cons.inj h2).1]) hx

theorem mem_flatMap_flushPart_no_write (rs : List (Nat × UnsyncIn)) (a : Act)
    (ha : a ∈ rs.flatMap (fun x => flushPart x.1 x.2)) : a.isDirectWrite = false := by
  obtain ⟨x, _, hx⟩ := List.mem_flatMap.mp ha
  exact flushPart_no_direct_write x.1 x.2 a hx

/-- the entries `smart_unsync_path` works on: those at the path that are in the request set, with their positions (351-352) -/
def requestedAt (ents : List UnsyncIn) : List (Nat × UnsyncIn) := (number 0 ents).filter (fun x => x.2.requested)

/-- a call that writes at all is in its main case (356-362) -/
theorem unsyncPath_of_write (t : Bool) (ents : List UnsyncIn) (a : Act) (ha : a ∈ unsyncPath t ents)
    (hw : a.isDirectWrite = true) :
    unsyncPath t ents = (requestedAt ents).flatMap (fun x => flushPart x.1 x.2) ++
      ((requestedAt ents).flatMap (fun x => statePart x.1 x.2) ++ [.returnOk]) := by
  unfold unsyncPath at ha ⊢
  cases t with
  | false => simp at ha; subst ha; cases hw
  | true =>
    simp only [Bool.not_true, Bool.false_eq_true, if_false] at ha ⊢
    split at ha
    · simp at ha; subst ha; cases hw
    · rename_i hne; rw [if_neg hne, List.append_assoc]; rfl

/-- **unrequest_only_deletes_local** (by path, any number of entries at the path): every provider write the call makes
    itself is a LOCAL delete of a requested entry whose local file exists -/
theorem unrequest_path_only_deletes_local (t : Bool) (ents : List UnsyncIn) (a : Act)
    (ha : a ∈ unsyncPath t ents) (hw : a.isDirectWrite = true) :
    ∃ x ∈ number 0 ents, a = .write .loc .delete x.1 ∧ x.2.requested = true ∧ x.2.localPath = true ∧ x.2.localInfo = true := by
  rw [unsyncPath_of_write t ents a ha hw] at ha
  simp only [List.mem_append, List.mem_singleton] at ha
  rcases ha with ha | ha | ha
  · rw [mem_flatMap_flushPart_no_write _ a ha] at hw; cases hw
  · obtain ⟨x, hx, hax⟩ := List.mem_flatMap.mp ha
    obtain ⟨hx, hr⟩ := List.mem_filter.mp hx
    obtain ⟨h1, h2, h3⟩ := statePart_direct_write x.1 x.2 a hax hw
    exact ⟨x, hx, h1, hr, h2, h3⟩
  · subst ha; cases hw

/-- order half (by path): after a local delete no flush follows (every flush of every entry comes first) -/
theorem unrequest_path_flush_before_delete (t : Bool) (ents : List UnsyncIn) (pre post : List Act) (e : Nat)
    (h : unsyncPath t ents = pre ++ Act.write .loc .delete e :: post) :
    (∀ e', Act.flush e' ∉ post) ∧
    (∀ x ∈ number 0 ents, x.2.requested = true → x.2.newer = true → Act.flush x.1 ∈ pre) ∧
    (∀ x ∈ number 0 ents, x.2.requested = true → Act.getLatestLocal x.1 ∈ pre) := by
  rw [unsyncPath_of_write t ents (.write .loc .delete e) (by rw [h]; simp) rfl] at h
  -- the delete is not in the flush block, so the whole flush block lies in `pre` and `post` in the rest
  have hnot : Act.write .loc .delete e ∉ (requestedAt ents).flatMap (fun x => flushPart x.1 x.2) :=
    fun hc => by cases mem_flatMap_flushPart_no_write _ _ hc
  obtain ⟨hF, hpost⟩ := append_split_of_not_mem hnot h
  have hfl : ∀ x ∈ number 0 ents, x.2.requested = true → ∀ a ∈ flushPart x.1 x.2, a ∈ pre := fun x hx hr a ha =>
    hF a (List.mem_flatMap.mpr ⟨x, List.mem_filter.mpr ⟨hx, hr⟩, ha⟩)
  refine ⟨fun e' he' => ?_, fun x hx hr hn => hfl x hx hr _ ((mem_flushPart ..).mpr (.inr ⟨hn, rfl⟩)),
    fun x hx hr => hfl x hx hr _ ((mem_flushPart ..).mpr (.inl rfl))⟩
  rcases List.mem_append.mp (hpost _ he') with h1 | h1
  · obtain ⟨x, _, hx⟩ := List.mem_flatMap.mp h1
    exact flush_not_mem_statePart x.1 e' x.2 hx
  · simp at h1

theorem unsyncOid_eq_unsyncPath (i : UnsyncIn) (h : i.requested = true) : unsyncOid true i = unsyncPath true [i] := by
  simp [unsyncOid, unsyncPath, number, h]

/-- un-request of a file that was never requested is a no-op on the providers and on both sets -/
theorem unrequest_not_requested_no_write (found : Bool) (i : UnsyncIn) (h : i.requested = false) :
    ∀ a ∈ unsyncOid found i, a.isDirectWrite = false ∧ a ≠ .moveToExcluded 0 ∧ a ≠ .clearLocal 0 := by
  intro a ha
  unfold unsyncOid at ha
  cases found with
  | false => simp at ha; subst ha; simp [Act.isDirectWrite]
  | true =>
    simp only [Bool.not_true, Bool.false_eq_true, if_false, h, List.mem_append, List.mem_singleton, mem_flushPart] at ha
    rcases ha with (ha | ⟨_, ha⟩) | ha <;> subst ha <;> simp [Act.isDirectWrite]

/-- **unrequest_only_deletes_local** (by id).  The only provider write `smart_unsync_oid` makes itself is a LOCAL delete,
    and it makes it only for an entry that is requested and whose local file exists -/
theorem unrequest_only_deletes_local (found : Bool) (i : UnsyncIn) (a : Act)
    (ha : a ∈ unsyncOid found i) (hw : a.isDirectWrite = true) :
    a = .write .loc .delete 0 ∧ found = true ∧ i.requested = true ∧ i.localPath = true ∧ i.localInfo = true := by
  cases hr : i.requested with
  | false => rw [(unrequest_not_requested_no_write found i hr a ha).1] at hw; cases hw
  | true =>
    cases found with
    | false => simp [unsyncOid] at ha; subst ha; cases hw
    | true =>
      rw [unsyncOid_eq_unsyncPath i hr] at ha
      obtain ⟨x, hx, h1, -, h3, h4⟩ := unrequest_path_only_deletes_local true [i] a ha hw
      obtain rfl : x = (0, i) := by simpa [number] using hx
      exact ⟨h1, rfl, rfl, h3, h4⟩

theorem statePart_countP_write (e : Nat) (i : UnsyncIn) : (statePart e i).countP Act.isDirectWrite ≤ 1 := by
  unfold statePart
  cases i.localPath <;> cases i.localInfo <;> simp [List.countP_cons, Act.isDirectWrite]

theorem unsyncOid_countP_write (found : Bool) (i : UnsyncIn) : (unsyncOid found i).countP Act.isDirectWrite ≤ 1 := by
  have hf : (flushPart 0 i).countP Act.isDirectWrite = 0 :=
    List.countP_eq_zero.mpr fun a ha => by simp [flushPart_no_direct_write 0 i a ha]
  have hs := statePart_countP_write 0 i
  unfold unsyncOid
  cases found <;> cases i.requested <;> simp [Act.isDirectWrite, hf, hs]

/-- **unrequest_only_deletes_local**, order half (by id): wherever the local delete stands in the call, the refresh of the
    local side and — when the local copy is newer than what was last synchronised — the flush (`_sync_one_entry`) stand
    BEFORE it, and nothing that talks to the engine or a provider except bookkeeping comes after it -/
theorem unrequest_flush_before_delete (found : Bool) (i : UnsyncIn) (pre post : List Act)
    (h : unsyncOid found i = pre ++ Act.write .loc .delete 0 :: post) :
    Act.getLatestLocal 0 ∈ pre ∧ (i.newer = true → Act.flush 0 ∈ pre) ∧
    (∀ e, Act.flush e ∉ post) ∧ (∀ a ∈ post, a.isDirectWrite = false) := by
  have hmem : Act.write .loc .delete 0 ∈ unsyncOid found i := by rw [h]; simp
  obtain ⟨_, rfl, hr, -⟩ := unrequest_only_deletes_local found i _ hmem rfl
  have hc := congrArg (List.countP Act.isDirectWrite) h
  rw [unsyncOid_eq_unsyncPath i hr] at h
  obtain ⟨h1, h2, h3⟩ := unrequest_path_flush_before_delete true [i] pre post 0 h
  have h0 : (0, i) ∈ number 0 [i] := by simp [number]
  refine ⟨h3 _ h0 hr, h2 _ h0 hr, h1, fun a ha => ?_⟩
  -- the call makes at most one direct write, and that one stands before `post`
  have := unsyncOid_countP_write true i
  simp only [List.countP_append, List.countP_cons, Act.isDirectWrite, if_true] at hc
  simpa using List.countP_eq_zero.mp (show post.countP Act.isDirectWrite = 0 by omega) a ha

/-- `is_synced` of a reported entry is exactly "a local directory entry exists" -/
theorem listEntry_flag (i : ListIn) (s : Bool) (h : listEntry i = some s) : s = i.hasLocal := by
  rw [listEntry_eq_some, getSmartInfo_eq_some] at h
  exact h.1.1

/- FULL STATEMENT (false of the model: while a local rename is in progress — the remote entry of that name has a local
   path that no longer matches — the name is dropped even though a local file of that name exists):
theorem listing_local_synced (i : ListIn) (hl : i.hasLocal = true) (hv : i.localVisible = true) : listEntry i = some true -/

/-- **listing_flags**, first half (partial: no local rename in progress for the remote entry of that name — histories of
    the property have no renames): every local file is reported, as synced -/
theorem listing_local_synced_partial (i : ListIn) (hl : i.hasLocal = true) (hv : i.localVisible = true)
    (hren : i.hasRent = true → i.rentLocalPath = true → i.pathsMatch = true) : listEntry i = some true := by
  rw [listEntry_eq_some, getSmartInfo_eq_some]
  exact ⟨⟨hl.symm, .inl hl⟩, hren, hv⟩

/-- counterexample to the full statement -/
theorem listing_hides_local_during_rename :
    listEntry { hasLocal := true, hasRent := true, rentLocalPath := true, pathsMatch := false, localGone := false,
                remoteGone := false, localVisible := true, remoteVisible := true } = none := by
  decide

/-- **listing_flags**, second half: a name without a local entry is never reported as synced … -/
theorem listing_remote_only_never_synced (i : ListIn) (hl : i.hasLocal = false) : listEntry i ≠ some true := by
  intro h
  have := listEntry_flag i true h
  simp_all

/-- … and a not-yet-downloaded remote file the engine knows (live on the remote side, metadata fetched, local side
    neither trashed nor being renamed) IS reported, as not synced -/
theorem listing_remote_only_not_synced (i : ListIn) (hl : i.hasLocal = false) (hr : i.hasRent = true)
    (hlg : i.localGone = false) (hrg : i.remoteGone = false) (hv : i.remoteVisible = true)
    (hren : i.rentLocalPath = true → i.pathsMatch = true) : listEntry i = some false := by
  rw [listEntry_eq_some, getSmartInfo_eq_some]
  exact ⟨⟨hl.symm, .inr ⟨hr, hlg, hrg, hren⟩⟩, fun _ => hren, hv⟩

/-- **listing_flags** for the whole listing of a folder, any set of names: the rows are exactly those the per-name
    function yields -/
theorem listing_flags {N : Type} (names : List (N × ListIn)) (n : N) (s : Bool) :
    (n, s) ∈ mergedListing names ↔ ∃ i, (n, i) ∈ names ∧ listEntry i = some s := by
  simp only [mergedListing, List.mem_filterMap, Option.map_eq_some_iff, Prod.mk.injEq]
  constructor
  · rintro ⟨⟨n', i⟩, hm, s', hs, rfl, rfl⟩
    exact ⟨i, hm, hs⟩
  · rintro ⟨i, hm, hs⟩
    exact ⟨(n, i), hm, s, hs, rfl, rfl⟩

theorem listing_flags_synced_iff_local {N : Type} (names : List (N × ListIn)) (n : N) (s : Bool)
    (h : (n, s) ∈ mergedListing names) : ∃ i, (n, i) ∈ names ∧ s = i.hasLocal := by
  rw [listing_flags] at h
  obtain ⟨i, hm, hle⟩ := h
  exact ⟨i, hm, listEntry_flag i s hle⟩

/-- **listed ⇒ no tombstone** (`_get_smartinfo`, all feature combinations = all states): whatever is reported as a
    not-downloaded remote object has neither side known TRASHED/MISSING -/
theorem info_remote_only_not_gone (i : ListIn) (h : getSmartInfo i = some false) :
    i.localGone = false ∧ i.remoteGone = false ∧ i.hasLocal = false ∧ i.hasRent = true := by
  rw [getSmartInfo_eq_some] at h
  obtain ⟨hl, hl' | ⟨hr, hlg, hrg, _⟩⟩ := h
  · rw [hl'] at hl; cases hl
  · exact ⟨hlg, hrg, hl.symm, hr⟩

/-- the same for a row of the merged folder listing; `smart_info_path` and `smart_info_oid` follow -/
theorem listed_remote_only_not_gone (i : ListIn) (h : listEntry i = some false) :
    i.localGone = false ∧ i.remoteGone = false :=
  let ⟨hlg, hrg, _, _⟩ := info_remote_only_not_gone i ((listEntry_eq_some i false).mp h).1; ⟨hlg, hrg⟩

theorem infoPath_remote_only_not_gone (i : ListIn) (h : infoPath i = some false) :
    i.localGone = false ∧ i.remoteGone = false :=
  let ⟨hlg, hrg, _, _⟩ := info_remote_only_not_gone i h; ⟨hlg, hrg⟩

theorem infoOid_not_gone (k t : Bool) (i : ListIn) (s : Bool) (h : infoOid k t i = some s) :
    s = false ∧ k = true ∧ t = true ∧ i.localGone = false ∧ i.remoteGone = false := by
  unfold infoOid at h
  split at h
  · rename_i hkt
    rw [getSmartInfo_eq_some] at h
    simp at hkt h
    obtain ⟨hs, hlg, hrg, _⟩ := h
    exact ⟨hs, hkt.1, hkt.2, hlg, hrg⟩
  · cases h

/-- in the whole listing of a folder, in any state, no row stands for an entry with a tombstone on either side -/
theorem merged_listing_no_ghost {N : Type} (names : List (N × ListIn)) (n : N) (h : (n, false) ∈ mergedListing names) :
    ∃ i, (n, i) ∈ names ∧ i.localGone = false ∧ i.remoteGone = false := by
  rw [listing_flags] at h
  obtain ⟨i, hm, hle⟩ := h
  exact ⟨i, hm, listed_remote_only_not_gone i hle⟩

/-- kernel-checked witness for the variant that tests the LOCAL tombstone twice: a never-downloaded file whose remote side
    is known TRASHED (remote delete taken in, sync step not yet run: size/mtime still there) is reported as a remote file,
    while the code as it is reports nothing -/
theorem ghost_listed_when_local_checked_twice :
    let i : ListIn := { hasLocal := false, hasRent := true, rentLocalPath := false, pathsMatch := false, localGone := false,
                        remoteGone := true, localVisible := false, remoteVisible := true }
    getSmartInfoLocalTwice i = some false ∧ getSmartInfo i = none ∧ listEntry i = none := by
  decide

/-- non-vacuity: concrete feature vectors for every clause above -/
example :
    preSyncGate ⟨false, false, false, false, false, true, false, false⟩ = ⟨true, some ⟨.rem, .smartUnsynced, .remotePath⟩⟩ ∧
    preSyncGate ⟨false, false, false, true, false, true, false, false⟩ = ⟨false, none⟩ ∧
    (changesetFilter ⟨false, false, false, false, true, true, false, true, [false, true], false, false⟩).mem = ⟨true, false⟩ ∧
    runCalls ⟨[], []⟩ [.request 3, .unrequest 3, .request 3] = ⟨[3], []⟩ ∧
    unsyncOid true ⟨true, true, true, true⟩ =
      [.getLatestLocal 0, .flush 0, .localInfo 0, .write .loc .delete 0, .clearLocal 0, .moveToExcluded 0, .returnOk] ∧
    mergedListing [("a", ⟨true, true, true, true, false, false, true, true⟩), ("b", ⟨false, true, false, false, false, false, false, true⟩)]
      = [("a", true), ("b", false)] := by
  decide

end CS.Smart

namespace CS.Spec.Smart
open CS.Spec

/-- **no_download_unless_requested** (specification, all histories).  A file whose history contains no local creation,
    no request that reached the engine (returned or raised something other than not-found) and no creation under a name
    matched by an auto-sync predicate is `unreq`: every step obligation forbids a local copy of it. -/
theorem never_requested_unjustified (auto : List RPath) (ops : List SOp) (p : RPath)
    (h : ∀ op ∈ ops, SOp.justifies auto p op = false) : (run auto ops).st p = .unreq :=
  foldl_st_unreq auto ops St.init p rfl h

/-- the step obligation says exactly: every file present locally is justified -/
theorem stepOk_iff (auto : List RPath) (ops : List SOp) (l : Tree) :
    stepOk auto ops l = true ↔ ∀ p tag, (p, Node.file tag) ∈ l → ((run auto ops).st p).justified = true := by
  unfold stepOk
  simp only [List.all_eq_true]
  constructor
  · intro h p tag hm
    simpa using h (p, Node.file tag) hm
  · rintro h ⟨p, n⟩ he
    cases n with
    | dir => rfl
    | file tag => exact h p tag he

/-- trace-level `no_download_unless_requested`: an accepted step never shows a local copy of a file nobody asked for -/
theorem stepOk_local_file_was_requested (auto : List RPath) (ops : List SOp) (l : Tree) (p : RPath) (tag : Nat)
    (hok : stepOk auto ops l = true) (hm : (p, Node.file tag) ∈ l) :
    ∃ op ∈ ops, SOp.justifies auto p op = true := by
  have hj := (stepOk_iff auto ops l).mp hok p tag hm
  apply Decidable.byContradiction
  intro hne
  rw [never_requested_unjustified auto ops p fun op hop => by simpa using fun hjo => hne ⟨op, hop, hjo⟩] at hj
  cases hj

/-- a request that returned makes the file `req`, whatever happened before (request → un-request → request again …) -/
theorem request_ok_status (auto : List RPath) (ops : List SOp) (p : RPath) :
    (run auto (ops ++ [.request p .ok])).st p = .req := by
  rw [run_snoc]
  exact st_setKey_same ..

/-- … and it stays `req` through everything that is not a request / un-request / creation of that very file:
    remote edits and deletes, operations on other files, folders -/
theorem requested_stays (auto : List RPath) (ops tail : List SOp) (p : RPath)
    (h : ∀ op ∈ tail, SOp.statusTarget op ≠ some p) :
    (run auto (ops ++ [.request p .ok] ++ tail)).st p = .req := by
  rw [run_append, foldl_st_frame auto tail _ p h]
  exact request_ok_status auto ops p

/-- an un-request that returned makes a requested file `unreq` (not auto-matched) or `maybe` (auto-matched) -/
theorem unrequest_ok_status (auto : List RPath) (ops : List SOp) (p : RPath) (h : (run auto ops).st p = .req) :
    (run auto (ops ++ [.unrequest p .ok])).st p = (if auto.contains p then .maybe else .unreq) := by
  rw [run_snoc]
  simp only [applySOp, h]
  exact st_setKey_same ..

/-- un-request of a file that is not requested changes nothing in the specification state -/
theorem unrequest_unrequested_noop (auto : List RPath) (s : St) (p : RPath) (r : Res)
    (h : s.st p = .unreq ∨ s.st p = .loc ∨ s.st p = .maybe) : applySOp auto s (.unrequest p r) = s := by
  rcases h with h | h | h <;> simp [applySOp, h]

/-- **unsync keeps remote** (specification): a request or un-request never changes what the remote side must hold -/
theorem request_unrequest_keep_remote (auto : List RPath) (s : St) (p : RPath) (r : Res) :
    (applySOp auto s (.unrequest p r)).expectedRemote = s.expectedRemote ∧
    (applySOp auto s (.request p r)).expectedRemote = s.expectedRemote := by
  constructor
  · simp only [applySOp]
    cases s.st p <;> rfl
  · cases r <;> rfl

/-- a remote edit is what the remote side must hold afterwards -/
theorem rwrite_content (auto : List RPath) (s : St) (p : RPath) (t : Nat) :
    getKey (applySOp auto s (.rwrite p t)).content p = some t ∧ (p, t) ∈ (applySOp auto s (.rwrite p t)).content := by
  simp only [applySOp]
  exact ⟨getKey_setKey_same _ _ _, mem_setKey _ _ _⟩

theorem fileVerdict_ok (s : St) (l : Tree) (e : RPath × Nat) (h : fileVerdict s l e = .ok) :
    ((s.st e.1).mustHave = true → l.get e.1 = some (Node.file e.2)) ∧
    ((s.st e.1).justified = false → l.get e.1 = none) ∧
    (l.get e.1 = none ∨ l.get e.1 = some (Node.file e.2)) := by
  unfold fileVerdict at h
  cases hst : s.st e.1 <;> simp [hst, Status.mustHave, Status.justified] at h ⊢
  -- `maybe` is the one status for which both absent and in sync are accepted
  case maybe => exact Decidable.or_iff_not_imp_left.mpr h
  all_goals simp [h]

/-- what a verdict "ok" at quiescence means -/
theorem quietOk_sound (auto : List RPath) (ops : List SOp) (l r : Tree) (h : quietOk auto ops l r = true) :
    let s := run auto ops
    r.sameAs s.expectedRemote = true ∧                                                  -- the remote side is what the users made it
    (∀ d ∈ s.dirs, l.get d = some Node.dir) ∧                                           -- folders_always_mirrored
    (∀ e ∈ l, match e.2 with                                                            -- nothing extra locally
        | .dir => e.1 ∈ s.dirs
        | .file _ => (getKey s.content e.1).isSome = true) ∧
    (∀ e ∈ s.content,                                                                   -- per live file
        ((s.st e.1).mustHave = true → l.get e.1 = some (Node.file e.2)) ∧               --   requested / local / auto: in sync
        ((s.st e.1).justified = false → l.get e.1 = none) ∧                             --   unrequested: absent locally
        (l.get e.1 = none ∨ l.get e.1 = some (Node.file e.2))) := by                    --   never a stale copy
  intro s
  have h' : quietVerdict auto ops l r = .ok := by simpa [quietOk] using h
  unfold quietVerdict at h'
  simp only [] at h'
  split at h'
  · cases h'
  rename_i hr
  split at h'
  · cases h'
  rename_i hd
  split at h'
  · cases h'
  rename_i he
  refine ⟨by simpa using hr, fun d hdm => by simpa using List.find?_eq_none.mp hd d hdm, fun e hem => ?_,
    fun e hem => fileVerdict_ok _ l e ((firstBad_ok_iff _).mp h' _ (List.mem_map_of_mem hem))⟩
  have := List.find?_eq_none.mp he e hem
  obtain ⟨p, n⟩ := e
  cases n <;> simpa [s, Option.isSome_iff_ne_none] using this

/-- **local_creations_always_uploaded**, **requested files equal on both sides** (specification): at an accepted
    quiescence a file that is requested, locally created or auto-matched has the same content on both sides -/
theorem quiet_in_sync (auto : List RPath) (ops : List SOp) (l r : Tree) (p : RPath) (t : Nat)
    (h : quietOk auto ops l r = true) (hm : (p, t) ∈ (run auto ops).content)
    (hst : ((run auto ops).st p).mustHave = true) :
    l.get p = some (Node.file t) ∧ r.get p = ((run auto ops).expectedRemote).get p := by
  obtain ⟨hremote, _, _, hfiles⟩ := quietOk_sound auto ops l r h
  obtain ⟨hmust, _, _⟩ := hfiles (p, t) hm
  exact ⟨hmust hst, Tree.get_eq_of_sameAs hremote p⟩

/-- request → un-request → request again, then a REMOTE edit `t` of the file (and anything that does not address the
    file): every accepted quiescence afterwards has the edit in the local copy -/
theorem rerequest_then_remote_edit_reaches_local (auto : List RPath) (ops tail : List SOp) (p : RPath) (t : Nat) (l r : Tree)
    (htail : ∀ op ∈ tail, SOp.statusTarget op ≠ some p)
    (hcontent : (p, t) ∈ (run auto (ops ++ [.request p .ok] ++ tail)).content)
    (h : quietOk auto (ops ++ [.request p .ok] ++ tail) l r = true) :
    l.get p = some (Node.file t) := by
  have hst := requested_stays auto ops tail p htail
  exact (quiet_in_sync auto _ l r p t h hcontent (by rw [hst]; rfl)).1

/-- an unrequested file is absent locally at every accepted quiescence -/
theorem quiet_unrequested_absent (auto : List RPath) (ops : List SOp) (l r : Tree) (p : RPath) (t : Nat)
    (h : quietOk auto ops l r = true) (hm : (p, t) ∈ (run auto ops).content) (hst : (run auto ops).st p = .unreq) :
    l.get p = none := by
  obtain ⟨_, _, _, hfiles⟩ := quietOk_sound auto ops l r h
  obtain ⟨_, habsent, _⟩ := hfiles (p, t) hm
  exact habsent (by rw [hst]; rfl)

/-- what a verdict "ok" right after an un-request call means.  (1) NO remote object disappears, whatever the status of
    the file and whatever the call returned.  (2) For a requested file and a call that returned: the local tree is the old
    one minus exactly that file, and the remote tree is the old one with the file holding the NEWEST content (the local
    copy if the last user write was local, else the remote one). -/
theorem unsyncOk_sound (auto : List RPath) (ops : List SOp) (p : RPath) (lastLocal : Bool) (lb rb la ra : Tree) (res : Res)
    (h : unsyncOk auto ops p lastLocal lb rb la ra res = true) :
    (∀ e ∈ rb, ra.has e.1 = true) ∧
    ((run auto ops).st p = .req → res = .ok →
      la.sameAs (Tree.erase lb p) = true ∧ ra.sameAs (expectedRemoteAfter lastLocal lb rb p) = true ∧ la.get p = none) := by
  have h' : unsyncVerdict auto ops p lastLocal lb rb la ra res = .ok := by simpa [unsyncOk] using h
  unfold unsyncVerdict at h'
  simp only [] at h'
  split at h'
  · cases h'
  rename_i hfind
  refine ⟨fun e he => by simpa using List.find?_eq_none.mp hfind e he, fun hst hres => ?_⟩
  simp only [hst, hres, beq_self_eq_true, Bool.and_self, if_true] at h'
  split at h'
  · cases h'
  rename_i h1
  split at h'
  · cases h'
  rename_i h2
  have h1' : la.sameAs (Tree.erase lb p) = true := by simpa using h1
  exact ⟨h1', by simpa using h2, (Tree.get_eq_of_sameAs h1' p).trans (erase_get_self lb p)⟩

/-- the newest content: the local copy wins exactly when the last user write was local and a local copy exists -/
theorem newest_cases (lastLocal : Bool) (lb rb : Tree) (p : RPath) :
    (lastLocal = true ∧ (lb.get p).isSome = true ∧ newest lastLocal lb rb p = lb.get p) ∨
    ((lastLocal = false ∨ lb.get p = none) ∧ newest lastLocal lb rb p = rb.get p) := by
  unfold newest
  cases lastLocal <;> cases hg : lb.get p <;> simp

/-- what a verdict "ok" for a listing means; remote-only children have to be reported at quiescence only -/
theorem listingOk_sound (quiet : Bool) (lk rk : List String) (ents : List (String × Bool))
    (h : listingOk quiet lk rk ents = true) :
    (∀ n ∈ lk, (n, true) ∈ ents) ∧
    (∀ e ∈ ents, e.1 ∉ lk → e.2 = false) ∧
    (quiet = true → ∀ n ∈ rk, n ∉ lk → (n, false) ∈ ents) := by
  have h' : listingVerdict quiet lk rk ents = .ok := by simpa [listingOk] using h
  unfold listingVerdict at h'
  split at h'
  · cases h'
  rename_i h1
  split at h'
  · cases h'
  rename_i h2
  refine ⟨fun n hn => by simpa using List.find?_eq_none.mp h1 n hn,
    fun e he hne => by simpa [hne] using List.find?_eq_none.mp h2 e he, fun hq n hn hnl => ?_⟩
  subst hq
  simp only [if_true] at h'
  split at h'
  · cases h'
  rename_i h3
  simpa [hnl] using List.find?_eq_none.mp h3 n hn

/-- what a verdict "ok" of the ghost obligation means: no reported row is a not-downloaded remote file whose remote side
    the engine knows to be TRASHED/MISSING -/
theorem ghostOk_iff (rows : List Row) :
    ghostOk rows = true ↔ ∀ r ∈ rows, r.synced = false → r.remoteKnownGone = false := by
  simp [ghostOk, ghostOf]

example : ghostOk [⟨"a", true, true⟩, ⟨"b", false, false⟩] = true ∧ ghostOf [⟨"a", false, false⟩, ⟨"g", false, true⟩] = some "g" := by
  decide

/-- non-vacuity: one accepted and one rejected instance of every obligation -/
example :
    let ops : List SOp := [.rmkdir ["d"], .rcreate ["d", "f"] 1, .rcreate ["g"] 2, .request ["d", "f"] .ok, .lcreate ["h"] 3,
                           .rwrite ["d", "f"] 4]
    let r : Tree := [(["d"], .dir), (["d", "f"], .file 4), (["g"], .file 2), (["h"], .file 3)]
    let l : Tree := [(["d"], .dir), (["d", "f"], .file 4), (["h"], .file 3)]
    stepOk [] ops l = true ∧ stepOk [] ops ((["g"], .file 2) :: l) = false ∧
    quietOk [] ops l r = true ∧ quietOk [] ops ((["g"], .file 2) :: l) r = false ∧
    quietOk [] ops [(["d"], .dir), (["d", "f"], .file 1), (["h"], .file 3)] r = false ∧
    unsyncOk [] ops ["d", "f"] true [(["d"], .dir), (["d", "f"], .file 9)] r [(["d"], .dir)]
      [(["d"], .dir), (["g"], .file 2), (["h"], .file 3), (["d", "f"], .file 9)] .ok = true ∧
    unsyncOk [] ops ["d", "f"] true [(["d"], .dir), (["d", "f"], .file 9)] r [(["d"], .dir)] r .ok = false ∧
    unsyncOk [] ops ["d", "f"] false l r [(["d"], .dir), (["h"], .file 3)] [(["d"], .dir), (["g"], .file 2), (["h"], .file 3)] .ok = false ∧
    listingOk true ["h"] ["g", "h"] [("h", true), ("g", false)] = true ∧
    listingOk true ["h"] ["g", "h"] [("h", true)] = false ∧
    listingOk false ["h"] ["g", "h"] [("h", false)] = false := by
  decide

end CS.Spec.Smart
