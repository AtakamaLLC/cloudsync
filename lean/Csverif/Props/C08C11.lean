import Csverif.Props.C08
import Csverif.Props.C11
/-
C08 × C11: the live-index hypothesis of `CS.Persist.reload_equiv` discharged from C11's `IndexInv`.

The two layers model the same `SyncState` independently (C11: Model/State.lean, typed ids/paths, a clock, no storage;
C08: Model/Codec.lean `CS.Persist`, arbitrary Python values, storage ids, storage).  What is proved here is the transport:
whenever a C08 state `st` and a C11 state `t` *agree* on what both have (same entries by index; ids that are None or strings
and equal; the same truthiness of the change stamps; the same answers of the id index; C11's pending entries pending in `st`),
C11's invariant on `t` gives `LiveIndexOK st`, hence `reload_equiv` with no index hypothesis on `st`.

NOT proved: that the states the two models reach by the same operations agree (a simulation between the two hook
transcriptions).  What blocks a cheap proof: the models differ in value domain and dict-key equality (`Val` with Python's
`1 == True` vs `Option Str`), in the recursion fuel convention, in the order of ghost/dirty bookkeeping, and C11's operations
(`update`, `split`, `__setitem__`, clock) have no counterpart here while commits/storage ids have none there; both are tied to
the same real `SyncState` by differential execution (harness/c08_codec.py, harness/c11_state.py), not to each other.
-/
namespace CS.Persist
open CS.Codec

def trSd : Sd → CS.State.Sd
  | false => .L
  | true => .R

/-- ids both models can express: None and strings -/
def trOid : Val → Option CS.State.Oid
  | .nil => some none
  | .str s => some (some s.toList)
  | _ => none

structure Agree (st : St) (t : CS.State.St) : Prop where
  len : t.ents.length = st.ents.length
  oid : ∀ (i : Nat) (sd : Sd) (e : Entry), st.ents[i]? = some e → trOid (e.side sd).oid = some (t.side i (trSd sd)).oid
  changed : ∀ (i : Nat) (sd : Sd) (e : Entry), st.ents[i]? = some e →
    (e.side sd).changed.truthy = (t.side i (trSd sd)).changed.truthy
  lookup : ∀ (sd : Sd) (k : Val) (k' : CS.State.Oid), trOid k = some k' → lookupOid st sd k = t.lookupOid (trSd sd) k'
  pending : ∀ i, i ∈ t.cs → i ∈ st.changeset

theorem trOid_str {v : Val} {l : List Char} (h : trOid v = some (some l)) : v = .str (String.ofList l) := by
  cases v <;> simp [trOid] at h
  subst h; simp

theorem truthy_of_trOid {v : Val} {k : CS.State.Oid} (h : trOid v = some k) (ht : v.truthy = true) : CS.State.truthyS k = true := by
  cases v <;> simp [trOid] at h
  · subst h; simp [Val.truthy] at ht
  · subst h
    rename_i s
    simp only [Val.truthy, bne_iff_ne, ne_eq] at ht
    cases hl : s.toList with
    | nil => exact absurd (by rw [← String.ofList_toList (s := s), hl]) ht
    | cons c r => simp [CS.State.truthyS]

/-- C11's invariant, transported: the live-index facts `reload_equiv` needs -/
theorem liveIndexOK_of_c11 (st : St) (t : CS.State.St) (hi : CS.State.IndexInv t) (hag : Agree st t) : LiveIndexOK st := by
  obtain ⟨hs, hc, hn, hp⟩ := CS.State.live_index_ok t hi
  refine ⟨?_, ?_, ?_, ?_⟩
  · intro sd s i hl
    rw [hag.lookup sd (.str s) (some s.toList) rfl] at hl
    obtain ⟨hlt, ho⟩ := hs _ _ _ hl
    rw [hag.len] at hlt
    obtain ⟨e, he⟩ : ∃ e, st.ents[i]? = some e := ⟨st.ents[i], by simp [hlt]⟩
    refine ⟨e, he, ?_⟩
    have := hag.oid i sd e he
    rw [ho] at this
    rw [trOid_str this]; simp
  · intro sd s i e he ho
    have h1 := hag.oid i sd e he
    rw [ho] at h1
    simp only [trOid, Option.some.injEq] at h1
    have h2 := hc (trSd sd) i (by rw [← h1]; simp)
    rw [← h1] at h2
    rw [hag.lookup sd (.str s) (some s.toList) rfl]; exact h2
  · intro sd
    rw [hag.lookup sd .nil none rfl]; exact hn _
  · intro i e he hpt
    apply hag.pending
    apply hp
    simp only [Entry.pendingTruthy, Bool.or_eq_true, Bool.and_eq_true] at hpt
    rcases hpt with ⟨a, b⟩ | ⟨a, b⟩
    · refine ⟨.L, ?_, ?_⟩
      · have := hag.changed i false e he; simp only [trSd] at this; rw [← this]; exact b
      · exact truthy_of_trOid (hag.oid i false e he) a
    · refine ⟨.R, ?_, ?_⟩
      · have := hag.changed i true e he; simp only [trSd] at this; rw [← this]; exact b
      · exact truthy_of_trOid (hag.oid i true e he) a

/-- **`reload_equiv` with C11's invariant in place of the index hypothesis**: for a C08 state that agrees with a
    C11 state satisfying `IndexInv` (every state C11's operations reach under its guards: `CS.State.run_inv_init`) -/
theorem reload_equiv_c11 (st : St) (t : CS.State.St) (hi : CS.State.IndexInv t) (hag : Agree st t)
    (hex : Exact st) (hsil : st.silent = [])
    (hrep : ∀ (i : Nat) (e : Entry), st.ents[i]? = some e → e.isTrash = false → e.Rep ∧ e.MtimeOk) :
    (∀ (sd : Sd) (key : Val), (key = .nil ∨ ∃ s, key = .str s) →
      (lookupOid (reload st.store) sd key).bind (fun j => (reload st.store).ents[j]?) =
      (lookupOid st sd key).bind (fun i => (st.ents[i]?).bind (fun e => e.storageId.map e.reloaded))) ∧
    (∀ k : Nat,
      (∃ (j : Nat) (e' : Entry), j ∈ (reload st.store).changeset ∧ (reload st.store).ents[j]? = some e' ∧ e'.storageId = some k) →
      ∃ (i : Nat) (e : Entry), st.ents[i]? = some e ∧ e.storageId = some k ∧ e.pendingOnLoad = true ∧
        (e.pendingTruthy = true → i ∈ st.changeset)) :=
  reload_equiv st hex hsil hrep (liveIndexOK_of_c11 st t hi hag)

/-- the agreement is satisfiable: the two empty states agree -/
example : Agree (St.init (.sqlite [])) CS.State.init :=
  ⟨rfl, fun i sd e h => by simp [St.init] at h, fun i sd e h => by simp [St.init] at h,
   fun sd k k' _ => by cases sd <;> rfl, fun i h => by simp [CS.State.init] at h⟩

end CS.Persist
