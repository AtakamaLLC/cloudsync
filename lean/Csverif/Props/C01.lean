import Csverif.Proofs.Spec
/-
C01 — the quiet-state relation `converged` (Model/Spec/Sync.lean) is the intended one:
equality of the two sides as lookup functions on every path that is not parked under a
`.conflicted` name.  The monitor (`Driver/Monitor.lean`, op `c01`) evaluates `converged` on the
snapshots of real runs; these theorems say what a verdict "ok" means.
-/
namespace CS.Spec

/-- `WF` (unique paths) is what the harness sends; without it the statement is false: `converged_refl_needs_WF` -/
theorem converged_refl (t : Tree) (hw : t.WF) : converged t t = true :=
  Tree.sameAs_refl hw.core

/- FALSE without well-formedness (kept for the record):
theorem converged_refl' (t : Tree) : converged t t = true
-/
/-- a tree listing one path twice with different nodes is not even converged with itself -/
theorem converged_refl_needs_WF :
    converged [(["a"], .dir), (["a"], .file 1)] [(["a"], .dir), (["a"], .file 1)] = false := by
  decide +kernel

theorem converged_symm (l r : Tree) : converged l r = converged r l :=
  Tree.sameAs_comm _ _

/-- transitive with no side condition: the middle tree need not be well-formed -/
theorem converged_trans (a b c : Tree) (h1 : converged a b = true) (h2 : converged b c = true) :
    converged a c = true :=
  Tree.sameAs_trans h1 h2

theorem sameAs_iff (t u : Tree) (ht : t.WF) (hu : u.WF) :
    t.sameAs u = true ↔ ∀ p, t.get p = u.get p :=
  ⟨fun h p => Tree.get_eq_of_sameAs h p, Tree.sameAs_of_get_eq ht hu⟩

/-- without well-formedness too, a verdict "ok" means equal lookups -/
theorem sameAs_sound (t u : Tree) (h : t.sameAs u = true) : ∀ p, t.get p = u.get p :=
  fun p => Tree.get_eq_of_sameAs h p

theorem converged_sound (l r : Tree) (h : converged l r = true) :
    ∀ p, isConflicted p = false → l.get p = r.get p := by
  intro p hp
  have := Tree.get_eq_of_sameAs h p
  simpa [Tree.core_get, hp] using this

/-- the meaning of the verdict: both sides agree on every path that is not a `.conflicted` artefact -/
theorem converged_iff (l r : Tree) (hl : l.WF) (hr : r.WF) :
    converged l r = true ↔ ∀ p, isConflicted p = false → l.get p = r.get p := by
  refine ⟨converged_sound l r, fun h => Tree.sameAs_of_get_eq hl.core hr.core fun p => ?_⟩
  rw [Tree.core_get, Tree.core_get]
  cases hp : isConflicted p with
  | true => rfl
  | false => exact h p hp

/-- `converged` sees a side only through its core, the entries not parked under a `.conflicted` name -/
theorem converged_congr_core (l l' r r' : Tree) (hl : l.core = l'.core) (hr : r.core = r'.core) :
    converged l r = converged l' r' := by
  simp only [converged, hl, hr]

/-- an entry under a `.conflicted` name is invisible to `converged`, wherever it sits, on either side -/
theorem converged_ignores_conflicted (pre post other : Tree) (e : RPath × Node)
    (he : isConflicted e.1 = true) :
    converged (pre ++ e :: post) other = converged (pre ++ post) other ∧
    converged other (pre ++ e :: post) = converged other (pre ++ post) := by
  have : Tree.core (pre ++ e :: post) = Tree.core (pre ++ post) := by
    simp [Tree.core, List.filter_append, he]
  exact ⟨converged_congr_core _ _ _ _ this rfl, converged_congr_core _ _ _ _ rfl this⟩

/-- so C03's and C04's exact verdicts imply C01's -/
theorem sameAs_implies_converged (l r : Tree) (h : l.sameAs r = true) : converged l r = true := by
  have half : ∀ {t u : Tree}, (∀ e ∈ t, u.get e.1 = some e.2) → ∀ e ∈ t.core, u.core.get e.1 = some e.2 := by
    intro t u h e he
    rw [Tree.mem_core] at he
    rw [Tree.core_get, he.2]
    exact h e he.1
  rw [Tree.sameAs_iff_subsets] at h
  exact (Tree.sameAs_iff_subsets _ _).mpr ⟨half h.1, half h.2⟩

theorem converged_of_sameAs_both {l r e : Tree} (hl : l.sameAs e = true) (hr : r.sameAs e = true) :
    converged l r = true :=
  sameAs_implies_converged _ _ (Tree.sameAs_trans hl (by rw [Tree.sameAs_comm]; exact hr))

/-- non-vacuity: two well-formed sides that differ only in a `.conflicted` copy are converged, and
    a real difference is rejected -/
example :
    Tree.WF [(["a"], .dir), (["a", "f"], .file 1), (["a", "f.conflicted"], .file 2)] ∧
    converged [(["a"], .dir), (["a", "f"], .file 1), (["a", "f.conflicted"], .file 2)]
              [(["a", "f"], .file 1), (["a"], .dir)] = true ∧
    converged [(["a"], .dir), (["a", "f"], .file 1)] [(["a", "f"], .file 2), (["a"], .dir)] = false := by
  decide +kernel

end CS.Spec
