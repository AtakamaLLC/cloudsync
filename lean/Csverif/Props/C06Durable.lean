import Csverif.Proofs.Durable
/-
C06 - durable coverage of the intake step (Model/Durable.lean), with the dirty set and the commit explicit.  The write order
assumed (`Disciplined`: dirty set empty whenever the walk marker or the cursor is written; a walk only without a stored marker)
is that of the code as it is; it is tied to the source by the recorded traces (harness, layer `durable`) and by Props/C06Sites.lean.
-/
namespace CS.Durable

theorem dcB_iff (s : St) : dcB s = true ↔ DC s := by
  simp only [dcB, DC, Bool.and_eq_true]
  refine and_congr ?_ ?_
  · cases s.marker <;> simp
  · cases s.cursor with
    | none => simp
    | some p =>
      simp only [List.all_eq_true, Bool.or_eq_true, Bool.not_eq_true', decide_eq_false_iff_not, List.contains_iff_mem,
        Option.some.injEq, forall_eq']
      exact forall₂_congr fun i _ => Decidable.imp_iff_not_or.symm

/-- **durable_coverage**: after every disciplined sequence of steps from empty storage - faults and restarts anywhere - a stored
    marker vouches for stored findings and a stored cursor for stored events (`DC`) -/
theorem durable_coverage (steps : List Step) (hd : Disciplined {} steps) : DC (run {} steps) :=
  (run_inv {} steps hd init_inv).1

/-- … at every point of the run, not only at its end -/
theorem durable_coverage_prefix (pre post : List Step) (hd : Disciplined {} (pre ++ post)) : DC (run {} pre) :=
  durable_coverage pre (disciplined_prefix {} pre post hd)

/-- **restart_rediscovers**: a restart from a state with durable coverage: what the last walk found is stored - or the new engine
    needs a walk; and every recorded event at or below the stored cursor is stored (those above it are replayed,
    `restart_replays_suffix`; the second conjunct is `DC`'s cursor clause of the state BEFORE the restart, which a restart
    does not touch) -/
theorem restart_rediscovers (s : St) (h : DC s) :
    ((step s .restart).needWalk = true ∨ ∀ e ∈ s.found, e ∈ s.stored) ∧
    (∀ p, s.cursor = some p → ∀ i ∈ s.seen, i ≤ p → Ent.ev i ∈ s.stored) := by
  refine ⟨?_, h.2⟩
  cases hm : s.marker
  · left; simp [step, hm]
  · right; exact h.1 hm

/-- **monitor_sound**: the monitor the harness runs over recorded write-order traces of the real EventManager accepts only
    disciplined traces, and durable coverage at the start of such a trace gives durable coverage at its end -/
theorem monitor_sound (s : St) (n : Nat) (steps : List Step) (h : monitor s n steps = none) :
    Disciplined s steps ∧ (DC s → DC (run s steps)) := by
  induction steps generalizing s n with
  | nil => exact ⟨trivial, id⟩
  | cons a as ih =>
    simp only [monitor] at h
    split at h
    · simp at h
    · rename_i hok
      split at h
      · simp at h
      · rename_i hdc
        have hok' : ok s a = true := by simpa using hok
        have hdc' : DC (step s a) := (dcB_iff _).mp (by simpa using hdc)
        obtain ⟨hd, hrun⟩ := ih (step s a) (n + 1) h
        exact ⟨⟨hok', hd⟩, fun _ => hrun hdc'⟩

/-- the intake step after a lost cursor in the order of the code as it is: marker dropped, cursor re-seeded, each finding
    committed before the marker, each event committed before the cursor - cut by a fault after the walk, then a restart -/
def currentOrderCut : List Step :=
  [.dropMarker, .writeCursor 5, .walkBegin, .walkRecord 0, .commit, .walkRecord 1, .commit, .writeMarker, .fault, .restart]

/-- the same with one commit for the whole batch (the marker is still written right after the walk loop) -/
def batchOrderCut : List Step :=
  [.dropMarker, .writeCursor 5, .walkBegin, .walkRecord 0, .walkRecord 1, .writeMarker, .fault, .restart]

theorem current_order_is_safe :
    monitor {} 0 currentOrderCut = none ∧ (run {} currentOrderCut).stored = [.w 1, .w 0] := by decide

/-- **batch_commit_breaks**: the discipline is violated at the marker write, durable coverage is lost, and the
    restarted engine has no reason to walk again while nothing the walk found is stored -/
theorem batch_commit_breaks :
    monitor {} 0 batchOrderCut = some (5, .writeMarker, true) ∧
    dcB (run {} batchOrderCut) = false ∧ (run {} batchOrderCut).needWalk = false ∧
    (run {} batchOrderCut).stored = [] ∧ (run {} batchOrderCut).marker = true := by decide

theorem batch_commit_not_DC : ¬ DC (run {} batchOrderCut) := fun h =>
  nomatch batch_commit_breaks.2.1.symm.trans ((dcB_iff _).2 h)

end CS.Durable
