import Csverif.Props.C01
/-
C03 — one-sided changes mirror exactly, the origin is untouched, nothing echoes.
`oneSidedOk` (Model/Spec/Sync.lean) is the verdict the monitor (op `c03`) computes from the
snapshots and counters of a real one-sided run; these theorems spell the verdict out.
-/
namespace CS.Spec

/-- the verdict is exactly the conjunction of the clauses of the property, labelled at the right -/
theorem oneSidedOk_iff (ob oa ma : Tree) (n1 n2 : Nat) :
    oneSidedOk ob oa ma n1 n2 = true ↔
      ob.sameAs oa = true ∧                                                         -- origin untouched
      ma.sameAs oa = true ∧                                                         -- mirror = origin
      ((∀ e ∈ ma, isConflicted e.1 = false) ∧ (∀ e ∈ oa, isConflicted e.1 = false)) ∧  -- no artefacts
      n1 = 0 ∧                                                                      -- no engine write on the origin
      n2 = 0 := by                                                                  -- no write after quiet
  simp only [oneSidedOk, Bool.and_eq_true, Bool.not_eq_true', List.any_eq_false, beq_iff_eq,
    Bool.not_eq_true, and_assoc]

/-- the same with the two tree clauses read as equalities of lookups (well-formed snapshots) -/
theorem oneSidedOk_iff_get (ob oa ma : Tree) (n1 n2 : Nat) (hob : ob.WF) (hoa : oa.WF) (hma : ma.WF) :
    oneSidedOk ob oa ma n1 n2 = true ↔
      (∀ p, ob.get p = oa.get p) ∧
      (∀ p, ma.get p = oa.get p) ∧
      ((∀ e ∈ ma, isConflicted e.1 = false) ∧ (∀ e ∈ oa, isConflicted e.1 = false)) ∧
      n1 = 0 ∧ n2 = 0 := by
  rw [oneSidedOk_iff, sameAs_iff _ _ hob hoa, sameAs_iff _ _ hma hoa]

/-- what an accepted one-sided run guarantees whatever the form of the snapshots: no well-formedness needed -/
theorem oneSidedOk_sound (ob oa ma : Tree) (n1 n2 : Nat) (h : oneSidedOk ob oa ma n1 n2 = true) :
    (∀ p, ob.get p = oa.get p) ∧ (∀ p, ma.get p = oa.get p) ∧ n1 = 0 ∧ n2 = 0 := by
  obtain ⟨horigin, hmirror, _, h1, h2⟩ := (oneSidedOk_iff ..).mp h
  exact ⟨sameAs_sound _ _ horigin, sameAs_sound _ _ hmirror, h1, h2⟩

/-- C03's verdict implies C01's (no side condition) -/
theorem oneSided_implies_converged (ob oa ma : Tree) (n1 n2 : Nat)
    (h : oneSidedOk ob oa ma n1 n2 = true) : converged oa ma = true := by
  obtain ⟨_, hmirror, _⟩ := (oneSidedOk_iff ..).mp h
  rw [converged_symm]
  exact sameAs_implies_converged _ _ hmirror

/-- … and the origin after the run is converged with the origin before it -/
theorem oneSided_origin_converged (ob oa ma : Tree) (n1 n2 : Nat)
    (h : oneSidedOk ob oa ma n1 n2 = true) : converged ob oa = true := by
  exact sameAs_implies_converged _ _ ((oneSidedOk_iff ..).mp h).1

/-- with the verdict, convergence is exact: the cores are the trees themselves -/
theorem oneSided_core_eq (ob oa ma : Tree) (n1 n2 : Nat) (h : oneSidedOk ob oa ma n1 n2 = true) :
    ma.core = ma ∧ oa.core = oa := by
  obtain ⟨_, _, ⟨hmirror, horigin⟩, _⟩ := (oneSidedOk_iff ..).mp h
  exact ⟨Tree.core_eq_self hmirror, Tree.core_eq_self horigin⟩

/-- non-vacuity: an accepted run, and one rejection per clause -/
example :
    let o : Tree := [(["a"], .dir), (["a", "f"], .file 1)]
    let m : Tree := [(["a", "f"], .file 1), (["a"], .dir)]
    oneSidedOk o o m 0 0 = true ∧
    oneSidedOk o ((["g"], .file 2) :: o) m 0 0 = false ∧
    oneSidedOk o o [(["a"], .dir)] 0 0 = false ∧
    oneSidedOk o o m 1 0 = false ∧
    oneSidedOk o o m 0 2 = false ∧
    oneSidedOk ((["x.conflicted"], .file 3) :: o) ((["x.conflicted"], .file 3) :: o)
      ((["x.conflicted"], .file 3) :: m) 0 0 = false := by
  decide +kernel

end CS.Spec
