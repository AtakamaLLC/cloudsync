import Csverif.Proofs.MockRun
import Csverif.Proofs.FsHash
/-
C16 — offline-runnable providers honour the provider contract.
Models: Model/Tree.lean (reference tree), Model/MockFS.lean (providers/mock.py, Provider.connect),
Model/FsHash.lean (FileSystemProvider hash functions).
-/

namespace CS.FsHash
variable {B Hh : Type}

/-- `hash_data(bytes)` is the hash `info` reports for a file holding exactly those bytes (fresh or
    cleared cache entry — `create` and `upload` clear it), for every length, the 1024 and 2048
    boundaries included: both are the full digest. -/
theorem fs_hash_agree [DecidableEq Hh] (D : List B → Hh) (mtime : Nat) (bs : List B) :
    hashData D bs = (fastHashPath D CacheEnt.fresh mtime bs).2 := by
  rw [hashData_eq_digest, fastHashPath_fresh]

/-- a second look at the same file (same mtime, same bytes) answers from the cache with the same hash -/
theorem fs_hash_agree_cached [DecidableEq Hh] (D : List B → Hh) (mtime : Nat) (bs : List B) :
    (fastHashPath D (fastHashPath D CacheEnt.fresh mtime bs).1 mtime bs).2 = hashData D bs := by
  rw [hashData_eq_digest]
  simp only [fastHashPath, CacheEnt.fresh, fastHashData_final, fastHashData_fst]
  by_cases h : bs.length ≤ 1024
  · simp [h, fastInput_short bs (by omega)]
  · simp [h]

/-- equal bytes ⇔ equal hashes, given a collision-free digest (hypothesis, not axiom) -/
theorem fs_hash_data_injective (D : List B → Hh) (hD : Function.Injective D) (a b : List B) :
    hashData D a = hashData D b ↔ a = b := by
  rw [hashData_eq_digest, hashData_eq_digest]
  exact ⟨fun h => hD h, fun h => by rw [h]⟩

/-- What the code did before commit 231899d (`return self._fast_hash_data(file_like)[0]`): it agreed with
    the file hash exactly up to 2048 bytes. -/
theorem fs_hash_old_agree_iff_le_2048 [DecidableEq Hh] (D : List B → Hh) (hD : Function.Injective D)
    (mtime : Nat) (bs : List B) :
    hashDataOld D bs = (fastHashPath D CacheEnt.fresh mtime bs).2 ↔ bs.length ≤ 2048 := by
  rw [fastHashPath_fresh, hashDataOld, fastHashData_fst]
  constructor
  · intro h
    have := hD h
    by_cases hl : bs.length ≤ 2048
    · exact hl
    · have h2 := fastInput_length_long bs (by omega)
      rw [this] at h2
      omega
  · intro h
    rw [fastInput_short bs h]

/-- kernel-checked witness for the pre-fix code at 2049 bytes (identity digest) -/
theorem fs_hash_old_witness_2049 :
    hashDataOld (id : List Nat → List Nat) (List.replicate 2049 0) ≠
      (fastHashPath id CacheEnt.fresh 0 (List.replicate 2049 0)).2 := by
  intro h
  have := (fs_hash_old_agree_iff_le_2048 (id : List Nat → List Nat) (fun _ _ h => h) 0 (List.replicate 2049 0)).1 h
  rw [List.length_replicate] at this
  omega

example : hashData (id : List Nat → List Nat) [1, 2, 3] = [1, 2, 3] := by decide

end CS.FsHash

namespace CS.FsCursor

/-- `current_cursor = k` for any int `0 ≤ k ≤ latest` then a drain: exactly the stamps `k+1 … latest` -/
theorem fs_rewind_replays_suffix (s : St) (k : Nat) (hk : k ≤ s.latest) :
    (setCursor s (.int k)).2 = .ok ∧
    (drain (setCursor s (.int k)).1).2 = (List.range (s.latest - k)).map (fun i => k + i + 1) ∧
    (drain (setCursor s (.int k)).1).2.length = s.latest - k ∧
    (drain (setCursor s (.int k)).1).1.cursor = s.latest := by
  have h1 : ¬ k > s.latest + 1 := by omega
  simp [setCursor, h1, drain, Nat.max_eq_right hk]

/-- the setter's other branches: `latest + 1` is accepted (nothing to drain), beyond that and non-ints are
    CloudCursorError and change nothing, `None` jumps to the latest cursor -/
theorem fs_setCursor_branches (s : St) :
    (setCursor s (.int (s.latest + 1))).2 = .ok ∧ (drain (setCursor s (.int (s.latest + 1))).1).2 = [] ∧
    (∀ k, k > s.latest + 1 → setCursor s (.int k) = (s, .cursorErr)) ∧
    setCursor s .other = (s, .cursorErr) ∧
    (setCursor s .none).1.cursor = s.latest ∧ (drain (setCursor s .none).1).2 = [] := by
  refine ⟨by simp [setCursor], by simp [setCursor, drain], ?_, rfl, rfl, by simp [setCursor, drain]⟩
  intro k hk
  simp [setCursor, hk]

example : (drain (setCursor { cursor := 3, latest := 3 } (.int 0)).1).2 = [1, 2, 3] := by decide

end CS.FsCursor

namespace CS.Tree
variable {C : Type}

/-- **rename_never_destroys_other_bytes** — for every tree (a map: distinct keys), every target, every destination and
    whatever the outcome: each file of the tree is still a file with the same content after `rename` (at its own key or
    at the key it moved to).  Together with `rename_refused_is_noop` this is the clause the filesystem provider
    and the mock are compared against: a rename onto an occupied name is refused with Exists — or replaces an *empty
    folder*, the only entry `rename` ever removes — and never costs another object its bytes. -/
theorem rename_never_destroys_other_bytes (cfg : Cfg) (t : T C) (hn : (t.map (·.1)).Nodup) (tg : Option Path) (dst : Path)
    (k : Path) (n : Node C) (hk : (k, n) ∈ t) (hfile : n.kind = .file) :
    ∃ k' n', (k', n') ∈ (rename cfg t tg dst).1 ∧ n'.kind = .file ∧ n'.content = n.content := by
  rcases rename_cases cfg t tg dst with ⟨e', he⟩ | ⟨sk, sn, hl, _, hb, hcases⟩
  · rw [he]; exact ⟨k, n, hk, hfile, rfl⟩
  obtain ⟨p, _, _, hs⟩ := lookupT_some hl
  -- a file at the destination refuses the rename, unless it is the source itself
  have hkd : k = fold cfg dst → fold cfg dst = sk := by
    intro e
    refine Classical.byContradiction fun hds => ?_
    have hds' : (fold cfg dst == sk) = false := by simpa using hds
    rw [hds', ← e, if_neg (by simp), get_of_mem hn hk] at hb
    simp [renameBlocked, hfile] at hb
  -- so the entry survives the removal of an empty directory there
  have h1 : (k, n) ∈ cleared t sk (fold cfg dst) := by
    unfold cleared
    by_cases hsome : (if fold cfg dst == sk then none else get t (fold cfg dst)).isSome = true
    · rw [if_pos hsome]
      refine mem_erase_iff.2 ⟨hk, fun e => ?_⟩
      rw [hkd e] at hsome
      simp at hsome
    · rw [if_neg hsome]; exact hk
  rcases hcases with he | ⟨_, he⟩ | he <;> rw [he]
  · exact ⟨k, n, h1, hfile, rfl⟩
  · -- a file moves alone
    by_cases hks : k = sk
    · subst hks
      have : n = sn := Option.some.inj ((get_of_mem hn hk).symm.trans hs)
      subst this
      exact ⟨_, _, mem_set_iff.2 (.inl rfl), hfile, rfl⟩
    · exact ⟨k, n, mem_set_iff.2 (.inr ⟨mem_erase_iff.2 ⟨h1, hks⟩, fun e => hks (e.trans (hkd e))⟩), hfile, rfl⟩
  · -- a folder moves with everything beneath it; contents are untouched
    by_cases hpre : sk.isPrefixOf k = true
    · exact ⟨fold cfg dst ++ k.drop sk.length, moveNode sk dst n,
        mem_move.2 ⟨(k, n), h1, by simp [hpre]⟩, hfile, rfl⟩
    · exact ⟨k, n, mem_move.2 ⟨(k, n), h1, by simp [hpre]⟩, hfile, rfl⟩

/-- a refused rename changes nothing -/
theorem rename_refused_is_noop (cfg : Cfg) (t : T C) (tg : Option Path) (dst : Path) (e : Err)
    (h : (rename cfg t tg dst).2 = .err e) : (rename cfg t tg dst).1 = t := by
  -- refused: `rw` closes the goal `t = t`; not refused: the answer is a path, not an error
  rcases rename_cases cfg t tg dst with ⟨e', he⟩ | ⟨sk, sn, _, _, _, he | ⟨_, he⟩ | he⟩ <;> rw [he] at h ⊢
  all_goals cases h

end CS.Tree

namespace CS.Conn
variable {Cr : Type}

/-- provider.py:141-156.  Once an identity is established (a non-empty `connection_id`), connecting with
    credentials that log in as a different identity raises CloudTokenError, leaves the provider
    disconnected and keeps the established identity. -/
theorem connect_rejects_other_identity (impl : Option Cr → Option String) (s : St Cr) (creds : Option Cr)
    (i j : String) (hi : s.connId = some i) (hne : i ≠ "") (hj : impl creds = some j) (hij : j ≠ i) :
    (connect impl s creds).2 = .tokenError ∧
    isConnected (connect impl s creds).1 = false ∧
    (connect impl s creds).1.connId = some i := by
  have h1 : idSet (some i) = true := by simp [idSet, hne]
  have h2 : (some i != some j) = true := by
    simp only [bne_iff_ne, ne_eq, Option.some.injEq]; exact fun h => hij h.symm
  simp [connect, hj, hi, h1, h2, isConnected]

/-- the established identity never changes, whatever is called afterwards -/
theorem connect_identity_stable (impl : Option Cr → Option String) (ops : List (Op Cr)) (s : St Cr) (i : String)
    (hi : s.connId = some i) (hne : i ≠ "") : (run impl s ops).connId = some i := by
  induction ops generalizing s with
  | nil => exact hi
  | cons op ops ih =>
    simp only [run]
    apply ih
    have hset : idSet (some i) = true := by simp [idSet, hne]
    have hconn : ∀ cr, (connect impl s cr).1.connId = some i := by
      intro cr
      simp only [connect, hi, hset, if_true]
      cases impl cr with
      | none => rfl
      | some newId => simp only; split <;> rfl
    cases op with
    | connect cr => exact hconn cr
    | disconnect => simpa [step, disconnect] using hi
    | reconnect =>
      simp only [step, reconnect]
      split
      · exact hi
      · exact hconn _

/-- a successful connect leaves the provider connected as exactly the identity the credentials belong to -/
theorem connect_ok_identity (impl : Option Cr → Option String) (s : St Cr) (creds : Option Cr)
    (h : (connect impl s creds).2 = .ok) :
    ∃ j, impl creds = some j ∧ isConnected (connect impl s creds).1 = true ∧
      (idSet s.connId = true → s.connId = some j) := by
  simp only [connect] at h ⊢
  cases hi : impl creds with
  | none => simp [hi] at h
  | some j =>
    refine ⟨j, rfl, ?_, ?_⟩
    · simp only [hi] at h ⊢
      split
      · split
        · rename_i h1 h2; simp [h1, h2] at h
        · simp only [isConnected, Bool.and_true]
          cases hc : s.connId with
          | none => rename_i h1 _; simp [hc, idSet] at h1
          | some _ => rfl
      · simp [isConnected]
    · intro hs
      simp only [hi, hs, if_true] at h
      split at h
      · cases h
      · rename_i hne; simpa using hne

/-- quirk kept by the model: the empty string is falsy in Python, so an identity "" is never
    protected — a provider whose connect_impl returns "" accepts any later identity -/
theorem connect_empty_identity_not_protected :
    let impl : Option String → Option String := fun c => c
    let s1 := (connect impl (init : St String) (some "")).1
    (connect impl s1 (some "bob")).2 = .ok ∧ (connect impl s1 (some "bob")).1.connId = some "bob" := by
  decide

example : (connect (fun c => c) (init : St String) (some "alice")).1.connId = some "alice" := by decide

end CS.Conn

namespace CS.MockFS
open CS.Path
open CS.Tree (Kind Err)
variable {C H : Type}

/-- `download` hands out the bytes of a live file and nothing else -/
theorem download_data {c : Cfg} {fl : Flavour} {hc : HashCfg C H} {s : St C} {oid : Str} {x : C}
    (hd : (step c fl hc s (.download oid)).2 = .data x) :
    ∃ h o, getObj s oid = some (h, o) ∧ o.live = true ∧ o.kind = .file ∧ o.contents = some x := by
  simp only [step, download] at hd
  split at hd
  · cases hd
  · rename_i h o hg
    refine ⟨h, o, hg, ?_⟩
    split at hd
    · cases hd
    · rename_i hl
      split at hd
      · cases hd
      · rename_i hk hcn
        cases hd
        exact ⟨by simpa using hl, hk, hcn⟩
      · cases hd

/-- whatever `download` hands back, `info_oid` and `hash_oid` report the hash that `hash_data`
    computes from exactly those bytes -/
theorem hash_info_eq_hash_data (c : Cfg) (fl : Flavour) (hc : HashCfg C H) (s : St C) (oid : Str) (x : C)
    (hd : (step c fl hc s (.download oid)).2 = .data x) :
    (∃ i, (step c fl hc s (.infoOid oid)).2 = .info i ∧ i.hash = some (hc.hashOf x) ∧ i.size = hc.sizeOf x) ∧
    (step c fl hc s (.hashOid oid)).2 = .hash (some (hc.hashOf x)) ∧
    (step c fl hc s (.hashData x)).2 = .hash (some (hc.hashOf x)) := by
  obtain ⟨h, o, hg, hl, hk, hcn⟩ := download_data hd
  refine ⟨⟨infoOfObj c hc o, ?_, ?_, ?_⟩, ?_, rfl⟩
  · simp [step, liveObj, hg, hl]
  · simp [infoOfObj, objHash, hk, hcn]
  · simp [infoOfObj, objSize, hcn]
  · simp [step, liveObj, hg, hl, objHash, hk, hcn]

/-- equal bytes ⇔ equal hashes for the mock's data hash, given an injective `_hash_func` -/
theorem hash_data_injective (c : Cfg) (fl : Flavour) (hc : HashCfg C H) (hinj : Function.Injective hc.hashOf)
    (s : St C) (x y : C) :
    (step c fl hc s (.hashData x)).2 = (step c fl hc s (.hashData y)).2 ↔ x = y := by
  simp only [step, Res.hash.injEq, Option.some.injEq]
  exact ⟨fun h => hinj h, fun h => by rw [h]⟩

/-- the log is append-only over every call sequence -/
theorem event_log_append_only (c : Cfg) (fl : Flavour) (hc : HashCfg C H) (ops : List (Op C)) (s : St C) :
    ∃ t, (run c fl hc s ops).1.events = s.events ++ t := by
  induction ops generalizing s with
  | nil => exact ⟨[], by simp [run]⟩
  | cons op ops ih =>
    simp only [run]
    obtain ⟨t1, h1⟩ := step_ext c fl hc s op
    obtain ⟨t2, h2⟩ := ih (step c fl hc s op).1
    exact ⟨t1 ++ t2, by rw [h2, ← h1]; simp⟩

/-- draining `events()` from a cursor yields exactly the log entries from that cursor on, in log
    order, each stamped with its own index, and moves the cursor to the end -/
theorem drain_yields_all_from_cursor (fl : Flavour) (s : St C) :
    (drain fl s).2 = ((s.events.drop s.cursor).zipIdx s.cursor).map (fun (pe, i) => translateEvent fl pe i) ∧
    (drain fl s).1.cursor = max s.cursor s.events.length ∧
    (drain fl s).1.events = s.events := ⟨rfl, rfl, rfl⟩

/-- the k-th log entry is delivered by a drain from any cursor at or before it -/
theorem drain_delivers (fl : Flavour) (s : St C) (k : Nat) (pe : MEv) (hk : s.cursor ≤ k)
    (hpe : s.events[k]? = some pe) : translateEvent fl pe k ∈ (drain fl s).2 := by
  simp only [drain, List.mem_map]
  refine ⟨(pe, k), ?_, rfl⟩
  rw [List.mem_zipIdx_iff_le_and_getElem?_sub]
  refine ⟨hk, ?_⟩
  rw [List.getElem?_drop]
  have : s.cursor + (k - s.cursor) = k := by omega
  rw [this]; exact hpe

/-- nothing is delivered twice: a drain right after a drain is empty -/
theorem drain_twice_empty (fl : Flavour) (s : St C) : (drain fl (drain fl s).1).2 = [] := by
  simp only [drain, List.map_eq_nil_iff]
  have : s.events.length ≤ max s.cursor s.events.length := Nat.le_max_right _ _
  simp [List.drop_eq_nil_of_le this]

/-- `_translate_event`: id and existence flag of the delivered event are those of the log entry
    (default flavours: no oid-less folder trash events) -/
theorem translateEvent_id_exists (fl : Flavour) (hno : fl.oidlessTrash = false) (pe : MEv) (k : Nat) :
    (translateEvent fl pe k).oid = some pe.oid ∧ (translateEvent fl pe k).live = !pe.trashed ∧
    (translateEvent fl pe k).prior = pe.prior ∧ (translateEvent fl pe k).cursor = k := by
  simp [translateEvent, hno]

/-- the path configuration of every mock flavour satisfies the hypotheses -/
theorem mkCfg_COk2 (cs : Bool) : COk2 (mkCfg cs false) where
  ok := mkCfg_ok cs true
  sep := rfl
  lowerAlt := mkCfg_lowerAltOk cs false true

/-- **mock_refines_tree** — for every call sequence, both id styles and both case modes, every operation
    (folder renames included: everything beneath the folder moves with it, an empty folder at the destination is
    replaced): every return value and error class of the mock is the reference tree's (`ResRel`: same kind / hash /
    size / path / name, same error class, listings equal as sets, returned id = path for path style), and after every
    call the live part of the object table, read through its path keys, *is* the tree (`Rel`), which stays well
    formed (`Tree.TWf`: every entry's parent is a directory entry).

    Hypotheses (`Guarded`, evaluated along the run): path arguments are clean; `delete` does not target the root;
    `rename` never targets the root, is handed an id (not a path) by id-style callers, and its destination does not lie
    strictly beneath its source (open finding mock-rename-into-own-subtree).  Path-style flavours additionally need
    case-folded names (`Clean`), which is vacuous when case sensitive; see `path_ci_*` below for what happens
    otherwise. -/
theorem mock_refines_tree {c : Cfg} (hc : COk2 c) (fl : Flavour) (hfs : c.sep ∉ fl.forbidden) (hcfg : HashCfg C H)
    (ops : List (Op C)) (hg : Guarded c fl hcfg (init c fl) ops) :
    Agree c fl hcfg (init c fl) (Tree.init : Tree.T C) ops :=
  (agree_of_inv hc hfs hcfg ops (init_inv_rel hc fl).1 (init_inv_rel hc fl).2 Tree.twf_init hg).1

/-- the object-table invariant holds in every reachable state -/
theorem reachable_inv {c : Cfg} (hc : COk2 c) (fl : Flavour) (hfs : c.sep ∉ fl.forbidden) (hcfg : HashCfg C H)
    (ops : List (Op C)) (hg : Guarded c fl hcfg (init c fl) ops) :
    Inv c fl (run c fl hcfg (init c fl) ops).1 :=
  (agree_of_inv hc hfs hcfg ops (init_inv_rel hc fl).1 (init_inv_rel hc fl).2 Tree.twf_init hg).2

/-- **oid_is_normalized_path** — path-style flavours: in every reachable state every object's id is its path,
    and that path is its own normal form -/
theorem oid_is_normalized_path {c : Cfg} (hc : COk2 c) (fl : Flavour) (hoip : fl.oip = true)
    (hfs : c.sep ∉ fl.forbidden) (hcfg : HashCfg C H)
    (ops : List (Op C)) (hg : Guarded c fl hcfg (init c fl) ops) (k : Str) (h : Nat) (o : Obj C)
    (hget : getObj (run c fl hcfg (init c fl) ops).1 k = some (h, o)) :
    o.oid = o.path ∧ o.oid = norm c o.path := by
  have hi := reachable_inv hc fl hfs hcfg ops hg
  have hho := (getObj_some.1 hget).2
  have h1 := hi.pathOid hoip h o hho
  exact ⟨h1, by rw [h1, norm_eq_self_of_oip hc (hi.clean h o hho) hoip]⟩

/-- id-style flavours: whatever `rename` returns on success is the id it was given (any object kind, any state) -/
theorem rename_returns_given_oid (c : Cfg) (fl : Flavour) (hcfg : HashCfg C H) (s : St C) (oid p x : Str)
    (hid : fl.oip = false) (h : (rename c fl hcfg s oid p).2 = .oid x) : x = oid := by
  rcases rename_result c fl hcfg s oid p with ⟨e, he⟩ | he | ⟨s2, h', o, he⟩
  · rw [he] at h; cases h
  · rw [he] at h; cases h; rfl
  · exact renameFinish_oid hid (he ▸ h)

/-- **oid_stable_under_rename** — renaming a file or a folder (guarded call in a reachable state): the returned id
    is the given id for id-style flavours, and it resolves to a live object that now reports the new path -/
theorem oid_stable_under_rename {c : Cfg} (hc : COk2 c) {fl : Flavour} (hcfg : HashCfg C H) {s : St C} {t : Tree.T C}
    (hi : Inv c fl s) (hr : Rel c s t) (hw : Tree.TWf t) (oid p x : Str) (hok : OpOk c fl s (.rename oid p))
    (hres : (step c fl hcfg s (.rename oid p)).2 = .oid x) :
    (fl.oip = false → x = oid) ∧
    (∃ i, (step c fl hcfg (step c fl hcfg s (.rename oid p)).1 (.infoOid x)).2 = .info i ∧ i.oid = x ∧ i.path = p) := by
  refine ⟨fun hid => rename_returns_given_oid c fl hcfg s oid p x hid hres, ?_⟩
  obtain ⟨o', h1, h2, h3⟩ := (sim_rename hc hcfg hi hr hw oid p hok.1 hok.2.1 hok.2.2.1 hok.2.2.2).1 x hres
  refine ⟨infoOfObj c hcfg o', ?_, h3, h2⟩
  show (match liveObj (rename c fl hcfg s oid p).1 x with
    | some ob => Res.info (infoOfObj c hcfg ob) | none => Res.none) = _
  rw [h1]

/-- **info_listing_exists_download_agree** (in every state satisfying the invariant, hence every reachable one):
    1. `exists_path` / `exists_oid` are exactly "`info_path` / `info_oid` is not None";
    2. what `info_oid` reports is what `info_path` reports for the reported path;
    3. every `listdir` entry is what `info_oid` reports for the entry's id and what `info_path` reports for its path;
    4. `download` succeeds exactly on what `info_oid` calls a file, and the hash matches (see `hash_info_eq_hash_data`). -/
theorem info_listing_exists_download_agree {c : Cfg} (hc : COk2 c) {fl : Flavour} (hcfg : HashCfg C H) {s : St C}
    (hi : Inv c fl s) :
    (∀ p, (step c fl hcfg s (.existsPath p)).2 = .bool (infoPath c s p).isSome ∧
          ((infoPath c s p).isSome = false ↔ (step c fl hcfg s (.infoPath p)).2 = .none)) ∧
    (∀ oid i, (step c fl hcfg s (.infoOid oid)).2 = .info i →
          (step c fl hcfg s (.infoPath i.path)).2 = .info i ∧ (step c fl hcfg s (.existsOid oid)).2 = .bool true) ∧
    (∀ oid l e, (step c fl hcfg s (.listdir oid)).2 = .list l → e ∈ l →
          (step c fl hcfg s (.infoOid e.oid)).2 = .info e ∧ (step c fl hcfg s (.infoPath e.path)).2 = .info e) ∧
    (∀ oid x, (step c fl hcfg s (.download oid)).2 = .data x →
          ∃ i, (step c fl hcfg s (.infoOid oid)).2 = .info i ∧ i.kind = .file ∧ i.hash = some (hcfg.hashOf x)) := by
  -- a live object is found again under its own path and its own id
  have hback : ∀ (h : Nat) (o : Obj C), s.heap[h]? = some o → o.live = true →
      infoPath c s o.path = some (h, o) ∧ liveObj s o.oid = some o := by
    intro h o hho hl
    constructor
    · rw [infoPath_eq]; exact pv_some.2 ⟨hi.filed h o hho hl, hho, hl⟩
    · rw [liveObj_eq, pv_some.2 ⟨hi.oidFiled h o hho hl, hho, hl⟩]; rfl
  refine ⟨?_, ?_, ?_, ?_⟩
  · intro p
    refine ⟨rfl, ?_⟩
    simp only [step]
    cases infoPath c s p with
    | none => simp
    | some ho => simp
  · intro oid i hinfo
    simp only [step, liveObj_eq] at hinfo ⊢
    cases hp : pv s oid with
    | none => rw [hp] at hinfo; cases hinfo
    | some ho =>
      obtain ⟨h, o⟩ := ho
      rw [hp] at hinfo
      simp only [Option.map_some, Res.info.injEq] at hinfo
      subst hinfo
      obtain ⟨_, h2, h3⟩ := pv_some.1 hp
      have := (hback h o h2 h3).1
      simp only [infoOfObj] at this ⊢
      rw [this]
      simp
  · intro oid l e hlist he
    simp only [step] at hlist
    cases hld : listdir c hcfg s oid with
    | none => rw [hld] at hlist; cases hlist
    | some l' =>
      rw [hld] at hlist
      cases hlist
      obtain ⟨h', o', hho', hl', rfl⟩ := listdir_some hc hcfg hi hld he
      obtain ⟨hb1, hb2⟩ := hback h' o' hho' hl'
      exact ⟨by simp only [step, infoOfObj, hb2], by simp only [step, infoOfObj, hb1]⟩
  · intro oid x hd
    obtain ⟨h, o, hg, hl, hk, hcn⟩ := download_data hd
    exact ⟨infoOfObj c hcfg o, by simp [step, liveObj, hg, hl], hk, by simp [infoOfObj, objHash, hk, hcn]⟩

/-- a successful `create` (mock.py:455-477) logs one create event: the id and path it returned, a file, `exists = True` -/
theorem create_appends_event (c : Cfg) (fl : Flavour) (hcfg : HashCfg C H) (s : St C) (p : Str) (d : C) (i : Info H)
    (h : (step c fl hcfg s (.create p d)).2 = .info i) :
    (step c fl hcfg s (.create p d)).1.events = s.events ++
      [{ action := .create, oid := i.oid, kind := .file, path := i.path, prior := none, trashed := false }] := by
  simp only [step, create] at h ⊢
  by_cases h1 : hasForbidden fl p = true
  · simp [h1] at h
  · by_cases h2 : (infoPath c s p).isSome = true
    · simp [h1, h2] at h
    · cases h3 : verifyParent c s p with
      | some e => simp [h1, h2, h3] at h
      | none =>
        simp only [h1, h2, h3, Bool.false_eq_true, if_false] at h ⊢
        simp only [Res.info.injEq] at h
        subst h
        rfl

/-- a successful `mkdir` of a new folder (mock.py:565-583) logs one create event carrying the returned id.  `hnew`: an existing
    folder is answered with its id and no event.  The logged path is the constructor's (`rstrip`), hence `∃` -/
theorem mkdir_appends_event (c : Cfg) (fl : Flavour) (hcfg : HashCfg C H) (s : St C) (p : Str) (x : Str)
    (hnew : infoPath c s p = none) (h : (step c fl hcfg s (.mkdir p)).2 = .oid x) :
    ∃ path, (step c fl hcfg s (.mkdir p)).1.events = s.events ++
      [{ action := .create, oid := x, kind := .dir, path := path, prior := none, trashed := false }] := by
  simp only [step, mkdir] at h ⊢
  cases h3 : verifyParent c s p with
  | some e => simp [h3] at h
  | none =>
    by_cases h1 : hasForbidden fl p = true
    · simp [h3, h1] at h
    · simp only [h3, h1, hnew, Bool.false_eq_true, if_false] at h ⊢
      simp only [Res.oid.injEq] at h
      subst h
      exact ⟨_, rfl⟩

/-- a successful `upload` (mock.py:423-439) logs one update event for the object it answered with, `exists = True` -/
theorem upload_appends_event (c : Cfg) (fl : Flavour) (hcfg : HashCfg C H) (s : St C) (oid : Str) (d : C) (i : Info H)
    (h : (step c fl hcfg s (.upload oid d)).2 = .info i) :
    (step c fl hcfg s (.upload oid d)).1.events = s.events ++
      [{ action := .update, oid := i.oid, kind := i.kind, path := i.path, prior := none, trashed := false }] := by
  cases hg : getObj s oid with
  | none => simp [step, upload, hg] at h
  | some ho =>
    obtain ⟨hh, o⟩ := ho
    simp only [step, upload, hg] at h ⊢
    cases hl : o.live with
    | false => simp [hl] at h
    | true =>
      simp only [hl, Bool.not_true, Bool.false_eq_true, if_false] at h ⊢
      split at h
      · cases h
      · rename_i hk
        simp only [hk, Bool.false_eq_true, if_false]
        simp only [Res.info.injEq] at h
        subst h
        simp [registerEvent, infoOfObj]

/-- `_delete` of a live object (mock.py:597-621), unless refused as a non-empty folder, logs one delete event for it with
    `exists = False` -/
theorem delete_appends_event (c : Cfg) (fl : Flavour) (hcfg : HashCfg C H) (s : St C) (oid : Str) (o : Obj C)
    (hlive : liveObj s oid = some o) (h : (step c fl hcfg s (.delete oid)).2 = .unit) :
    (step c fl hcfg s (.delete oid)).1.events = s.events ++
      [{ action := .delete, oid := o.oid, kind := o.kind, path := o.path, prior := none, trashed := true }] := by
  cases hg : getObj s oid with
  | none => simp [liveObj, hg] at hlive
  | some ho =>
    obtain ⟨hh, o'⟩ := ho
    simp only [liveObj, hg] at hlive
    split at hlive
    · rename_i hl
      simp only [Option.some.injEq] at hlive
      subst hlive
      simp only [step, delete, hg, hl, Bool.not_true, Bool.false_eq_true, if_false] at h ⊢
      revert h
      cases hb : (if (o'.kind == Kind.dir) = true then dirBlocked c hcfg s o'.oid else none) with
      | some e => intro h; cases h
      | none => intro _; rfl
    · cases hlive

/-- renaming a file to another path (guarded call, reachable state) appends a rename event carrying the returned
    id, `exists = True`, and — path style — the previous id as `prior_oid` -/
theorem rename_appends_event {c : Cfg} (hc : COk2 c) {fl : Flavour} (hcfg : HashCfg C H) {s : St C}
    (hi : Inv c fl s) (oid p : Str) (hok : OpOk c fl s (.rename oid p)) (h : Nat) (o : Obj C)
    (hg : getObj s oid = some (h, o)) (hl : o.live = true) (hk : o.kind = .file) (hmoved : o.path ≠ p)
    (x : Str) (hres : (step c fl hcfg s (.rename oid p)).2 = .oid x) :
    (step c fl hcfg s (.rename oid p)).1.events = s.events ++
      [{ action := .rename, oid := x, kind := .file, path := p,
         prior := if fl.oip then some o.oid else none, trashed := false }] := by
  obtain ⟨hp, hpn, harg, _⟩ := hok
  have hho := (getObj_some.1 hg).2
  have hoeq := oid_of_resolved hc hi harg hg
  simp only [step, rename, hg, hl, Bool.not_true, Bool.false_eq_true, if_false] at hres ⊢
  revert hres
  cases hvp : verifyParent c s p with
  | some e => intro hres; cases hres
  | none =>
    simp only
    -- whatever else is live at the destination refuses a file
    have hfree : ∀ (ch : Nat) (co : Obj C), pv s (norm c p) = some (ch, co) →
        resolveConflict c hcfg s o (some (ch, co)) = (s, some .exists) := by
      intro ch co hpd
      simp only [resolveConflict, (pv_some.1 hpd).2.2, if_true, hk]
      cases co.kind <;> simp
    by_cases hclear : ∀ (ch : Nat) (co : Obj C), pv s (norm c p) = some (ch, co) → ch = h
    · have hrc : resolveConflict c hcfg s o (conflictOf c s oid p) = (s, none) := by
        rw [conflict_live hcfg hi p hho hl hoeq]
        cases hpd : pv s (norm c p) with
        | none => rfl
        | some cho => simp [hclear cho.1 cho.2 hpd]
      have h1 : ¬ (o.path == p) = true := by simpa using hmoved
      simp only [hrc, hho, Option.getD_some, if_neg h1]
      -- the event is the one registered by `_rename_single_object`
      obtain ⟨sR, hsr, hu, hev⟩ := renameSingle_spec hc hi hho (hi.filed h o hho hl) hp hpn hclear true
      have hmove : renameMove c fl s h o p = (sR, none) := by
        simp only [renameMove, hk, beq_self_eq_true, if_true]; exact hsr
      rw [hmove]
      simp only [renameFinish, hu.heap h, if_true]
      intro hres
      split at hres
      · cases hres
      · split at hres
        · cases hres
        · simp only [Res.oid.injEq] at hres
          rw [hev, ← hres]
          simp [hk, hl]
    · intro hres
      exfalso
      apply hclear
      intro ch co hpd
      rw [conflict_live hcfg hi p hho hl hoeq, hpd] at hres
      by_cases hch : ch = h
      · exact hch
      · simp only [hch, if_false, hfree ch co hpd] at hres
        cases hres

/-- the loop of a folder rename (every object beneath the folder is re-filed) logs nothing: only the folder
    itself generates an event (mock.py:530-537 "only parent generates event") — any state, any paths -/
theorem folder_rename_children_log_nothing (c : Cfg) (fl : Flavour) (s : St C) (oldPath newPath : Str) :
    (renameChildren c fl s oldPath newPath).1.events = s.events :=
  renameChildren_events c fl s oldPath newPath

/-- **every_mutation_is_eventually_an_event** — the pieces put together: an event appended by a successful
    mutation stays in the log whatever is called afterwards (`event_log_append_only`), and a drain of
    `events()` from any cursor at or before it delivers it, with its id and existence flag, in log order
    (`drain_yields_all_from_cursor`, `drain_delivers`, `translateEvent_id_exists`). -/
theorem every_mutation_is_eventually_an_event (c : Cfg) (fl : Flavour) (hno : fl.oidlessTrash = false)
    (hcfg : HashCfg C H) (s : St C) (op : Op C) (ev : MEv)
    (happ : (step c fl hcfg s op).1.events = s.events ++ [ev])
    (later : List (Op C)) (cur : Nat) (hcur : cur ≤ s.events.length) :
    let s' := (run c fl hcfg (step c fl hcfg s op).1 later).1
    ∃ e ∈ (drain fl { s' with cursor := cur }).2,
      e.oid = some ev.oid ∧ e.live = !ev.trashed ∧ e.prior = ev.prior ∧ e.cursor = s.events.length := by
  intro s'
  obtain ⟨t, ht⟩ := event_log_append_only c fl hcfg later (step c fl hcfg s op).1
  have hidx : s'.events[s.events.length]? = some ev := by
    show (run c fl hcfg (step c fl hcfg s op).1 later).1.events[s.events.length]? = some ev
    rw [ht, happ, List.append_assoc]
    simp
  refine ⟨translateEvent fl ev s.events.length, drain_delivers fl { s' with cursor := cur } s.events.length ev hcur hidx, ?_⟩
  exact translateEvent_id_exists fl hno ev _

/-- **rewind_replays_suffix** — `current_cursor = c` for an int `c ≥ -1` (model value `k = c + 1`, so the
    initial cursor -1 is `k = 0` and Python's cursor 0 — exactly one event consumed — is `k = 1`), followed by a
    drain of `events()`: exactly the log entries with Python index `> c` are delivered, in log order, each
    stamped with its own index; nothing else; the cursor ends at the latest cursor. -/
theorem rewind_replays_suffix (c : Cfg) (fl : Flavour) (hcfg : HashCfg C H) (s : St C) (k : Nat) :
    let s1 := (step c fl hcfg s (.setCursor (.int k))).1
    (step c fl hcfg s (.setCursor (.int k))).2 matches .unit ∧
    s1.events = s.events ∧
    (drain fl s1).2 = ((s.events.drop k).zipIdx k).map (fun (pe, i) => translateEvent fl pe i) ∧
    (drain fl s1).2.length = s.events.length - k ∧
    (k ≤ s.events.length → (drain fl s1).1.cursor = s.events.length) :=
  ⟨rfl, rfl, rfl, by simp [drain, step, setCursor], fun hk => by simp [drain, step, setCursor, Nat.max_eq_right hk]⟩

/-- a cursor saved earlier (`k ≤` the log length then) still replays everything logged since, whatever was
    called in between: the drain after the rewind delivers every entry the intermediate calls appended -/
theorem rewind_to_saved_cursor_replays_everything_since (c : Cfg) (fl : Flavour) (hcfg : HashCfg C H) (s : St C)
    (ops : List (Op C)) (k : Nat) (hk : k ≤ s.events.length) :
    let s' := (run c fl hcfg s ops).1
    let s1 := (step c fl hcfg s' (.setCursor (.int k))).1
    ∃ t, s'.events = s.events ++ t ∧
      (drain fl s1).2 = (((s.events ++ t).drop k).zipIdx k).map (fun (pe, i) => translateEvent fl pe i) ∧
      (drain fl s1).2.length = (s.events.length - k) + t.length := by
  intro s' s1
  obtain ⟨t, ht⟩ := event_log_append_only c fl hcfg ops s
  refine ⟨t, ht, ?_, ?_⟩
  · show ((s'.events.drop k).zipIdx k).map _ = _
    rw [ht]
  · show (((s'.events.drop k).zipIdx k).map _).length = _
    rw [ht]; simp; omega

/-- the other two branches of the setter: `None` jumps to the latest cursor (the next drain is empty), anything
    that is not an int raises CloudCursorError and changes nothing -/
theorem setCursor_none_and_other (c : Cfg) (fl : Flavour) (hcfg : HashCfg C H) (s : St C) :
    (drain fl (step c fl hcfg s (.setCursor .none)).1).2 = [] ∧
    (step c fl hcfg s (.setCursor .none)).1.cursor = s.events.length ∧
    (step c fl hcfg s (.setCursor .other)).2 matches .cursorErr ∧
    (step c fl hcfg s (.setCursor .other)).1.cursor = s.cursor ∧
    (step c fl hcfg s (.setCursor .other)).1.events = s.events := by
  refine ⟨?_, rfl, rfl, rfl, rfl⟩
  simp [drain, step, setCursor]

/- `Res` derives no `DecidableEq`, so the witnesses below compare decidable projections of it. -/
def wH : HashCfg Nat Nat := { hashOf := id, sizeOf := id }

def asBool : Res Nat Nat → Option Bool
  | .bool b => some b
  | _ => none

def asOid : Res Nat Nat → Option Str
  | .oid o => some o
  | _ => none

def infoOidPath : Res Nat Nat → Option (Str × Str)
  | .info i => some (i.oid, i.path)
  | _ => none

def listLen : Res Nat Nat → Option Nat
  | .list l => some l.length
  | _ => none

def isNone : Res Nat Nat → Bool
  | .none => true
  | _ => false

/-- open finding mock-path-ci-recreate-hits-tombstone: path-style, case-insensitive, a name with an upper-case
    letter.  After create; delete; create the new file exists by path but not by the id `create` returned. -/
theorem path_ci_recreate_hits_tombstone :
    let c := mkCfg false false
    let fl : Flavour := { oip := true }
    let s := (run c fl wH (init c fl) [.create "/A".toList 1, .delete "/A".toList, .create "/A".toList 2]).1
    asBool (step c fl wH s (.existsPath "/A".toList)).2 = some true ∧
    asBool (step c fl wH s (.existsOid "/A".toList)).2 = some false := by
  decide +kernel

/-- open finding mock-path-ci-listdir-twice, and the reason `oid_is_normalized_path` needs folded names there:
    the id is the raw path "/A", the normalised path is "/a", and both are '/'-keys of the same object -/
theorem path_ci_listdir_twice :
    let c := mkCfg false false
    let fl : Flavour := { oip := true }
    let s := (run c fl wH (init c fl) [.create "/A".toList 1]).1
    listLen (step c fl wH s (.listdir "/".toList)).2 = some 2 ∧
    infoOidPath (step c fl wH s (.infoPath "/a".toList)).2 = some ("/A".toList, "/A".toList) ∧
    norm c "/A".toList = "/a".toList := by
  decide +kernel

/-- open finding mock-rename-into-own-subtree: id-style; the folder ends up at /a/b while /a no longer exists -/
theorem rename_into_own_subtree_orphans :
    let c := mkCfg true false
    let fl : Flavour := { oip := false }
    let s := (run c fl wH (init c fl) [.mkdir "/a".toList, .rename "1".toList "/a/b".toList]).1
    infoOidPath (step c fl wH s (.infoOid "1".toList)).2 = some ("1".toList, "/a/b".toList) ∧
    isNone (step c fl wH s (.infoPath "/a".toList)).2 = true := by
  decide +kernel

/-- a folder rename re-files the children (their ids kept, id style) and logs one event, for the folder only -/
theorem folder_rename_moves_children_one_event :
    let c := mkCfg true false
    let fl : Flavour := { oip := false }
    let s0 := (run c fl wH (init c fl) [.mkdir "/a".toList, .create "/a/f".toList 7]).1
    let s := (step c fl wH s0 (.rename "1".toList "/b".toList)).1
    infoOidPath (step c fl wH s (.infoPath "/b/f".toList)).2 = some ("2".toList, "/b/f".toList) ∧
    isNone (step c fl wH s (.infoPath "/a/f".toList)).2 = true ∧
    s.events.length = s0.events.length + 1 := by
  decide +kernel

/-- a guard of the form "whatever the id resolves to satisfies a decidable condition on its path", by evaluation -/
theorem guard_by_eval (s : St Nat) (oid : Str) (P : Str → Prop) [DecidablePred P]
    (h : (match pv s oid with | some ho => decide (P ho.2.path) | none => true) = true) :
    ∀ (h' : Nat) (o : Obj Nat), pv s oid = some (h', o) → P o.path := by
  intro h' o hp
  rw [hp] at h
  simpa using h

/-- the last clause of `OpOk` for `rename`, as a condition on the source's path: the destination is not strictly beneath it -/
def RenGuard (c : Cfg) (dst : Str) (path : Str) : Prop :=
  foldL c (Path.C c path) <+: foldL c (Path.C c dst) → foldL c (Path.C c path) = foldL c (Path.C c dst)

instance (c : Cfg) (dst path : Str) : Decidable (RenGuard c dst path) := by unfold RenGuard; infer_instance

/-- non-vacuity: a concrete guarded call sequence (clean paths, a folder rename, a file rename, a delete) -/
example : Guarded (mkCfg true false) ({ oip := false } : Flavour) wH (init (mkCfg true false) { oip := false })
    [.mkdir "/d".toList, .create "/d/f".toList 3, .rename "1".toList "/e".toList, .rename "2".toList "/e/g".toList,
     .delete "2".toList] := by
  have hcl : ∀ (l : List Str), (∀ f ∈ l, f ≠ [] ∧ '/' ∉ f ∧ '\\' ∉ f) →
      Clean (mkCfg true false) ({ oip := false } : Flavour) (canon '/' l) := by
    intro l hl
    refine ⟨l, ⟨fun f hf => ⟨(hl f hf).1, (hl f hf).2.1⟩, fun f hf a ha => ?_⟩, rfl, fun h => by cases h⟩
    simp [mkCfg] at ha; subst ha; exact (hl f hf).2.2
  refine ⟨hcl ["d".toList] (by decide), hcl ["d".toList, "f".toList] (by decide),
    ⟨hcl ["e".toList] (by decide), ?_, ?_, ?_⟩, ⟨hcl ["e".toList, "g".toList] (by decide), ?_, ?_, ?_⟩, ?_, trivial⟩
  · decide +kernel
  · intro _; decide
  · exact guard_by_eval _ _ (RenGuard (mkCfg true false) "/e".toList) (by decide +kernel)
  · decide +kernel
  · intro _; decide
  · exact guard_by_eval _ _ (RenGuard (mkCfg true false) "/e/g".toList) (by decide +kernel)
  · show resolve (mkCfg true false) _ "2".toList ≠ some []
    decide +kernel

end CS.MockFS
