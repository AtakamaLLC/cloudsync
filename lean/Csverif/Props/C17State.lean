import Csverif.Proofs.SchedMoves
import Csverif.Props.C17
/-
C17, state level — the changeset is *derived* from the calls, and `SyncState.change` runs its
fill-in loop first.  Model: Model/Sched.lean (`St`, `applyOp`, `fillIn`, `changeFull`).
The modelled calls (`Op`): events with or without a path, for files and for folders (renames / moves with their descendants),
attaching the other side, attribute writes on sides with or without an id, mark_changed, punt, priority writes, set_aged, the
synced path, finished, the fill-in loop.
-/
namespace CS.Sched

theorem opFinished_inv (dn : String → String) (st : St) (id : Nat) (h : Inv st) : Inv (opFinished dn st id) := by
  rcases opFinished_cases dn st id with ⟨h', _⟩ | ⟨ent, hent, hch, h'⟩ <;> rw [h']
  · exact h
  · -- priorities are reset, nothing else; the finished entry leaves the changeset, and it carries no change
    refine inv_map (st := st) _ (fun x => by split <;> rfl) rfl (fun j hj => ?_) (fun j e he => ?_) h
    · have hj' := (mem_act st id j [false]).1 hj
      split at hj'
      · exact absurd hj' (by simp)
      · exact h.pend j hj'
    · refine EInv_congr (e := e) (fun t => by split <;> cases t <;> exact ⟨rfl, rfl⟩) ?_
      show EInv e (decide (j ∈ (st.act id [false]).pending))
      rw [decide_mem_act]
      split
      · rename_i hji
        rw [hji, hent] at he
        cases he
        refine ⟨fun hh => absurd (anyChange_of_hasIdChange hh) ?_, fun hh => absurd hh (by simp)⟩
        rw [anyChange, Bool.or_comm, hch]; simp
      · exact h.mem j e he

/-- every call but `finished` is a run of hooked writes (`applyOp_moves`), each of which keeps the invariant of its entry -/
theorem applyOp_inv (dn : String → String) (st : St) (op : Op) (h : Inv st) : Inv (applyOp dn st op) := by
  rcases op.writesIn_pres with ⟨id, rfl⟩ | ⟨cls, hw⟩
  · exact opFinished_inv dn st id h
  · obtain ⟨st0, hg, m⟩ := applyOp_moves dn st op hw
    exact m.inv (fun _ hf => hf) (inv_grown hg h)

/-- the fold of the fill-in loop, without the membership check -/
def fillFold (orc : Oracle) (now : Rat) (ids : List Nat) (st : St) : St :=
  ids.foldl (fun acc id => acc.withE id (fun e => fillEntryA acc.punt now (orc id false) (orc id true) e)) st

theorem fillIn_eq (orc : Oracle) (now : Rat) (st : St) :
    fillIn orc now st =
      if (fillFold orc now st.pending st).pending != st.pending
      then { fillFold orc now st.pending st with unmodelled := true } else fillFold orc now st.pending st := rfl

theorem fillIn_inv (orc : Oracle) (now : Rat) (st : St) (h : Inv st) : Inv (fillIn orc now st) :=
  applyOp_inv (fun p => p) st (.fill orc now) h

theorem fillFold_frame (orc : Oracle) (now : Rat) (ids : List Nat) (st : St) (j : Nat) (e : Entry)
    (h : st.get? j = some e) :
    ∃ e', (fillFold orc now ids st).get? j = some e' ∧ FillRel e e' ∧ (j ∉ ids → e' = e) := by
  induction ids generalizing st e with
  | nil => exact ⟨e, h, FillRel.refl e, fun _ => rfl⟩
  | cons id ids ih =>
    simp only [fillFold, List.foldl_cons]
    by_cases hji : j = id
    · subst hji
      have h1 := withE_get?_same st j (fun e => fillEntryA st.punt now (orc j false) (orc j true) e) e h
        (fun _ => fillEntryA_id _ _ _ _ _)
      obtain ⟨e', he', hr, _⟩ := ih _ _ h1
      exact ⟨e', he', (fillEntryA_fillRel _ _ _ _ e).trans hr, fun hn => absurd List.mem_cons_self hn⟩
    · have h1 : (st.withE id (fun e => fillEntryA st.punt now (orc id false) (orc id true) e)).get? j = some e := by
        rw [withE_get?_other st id j _ (fun e => fillEntryA_id _ _ _ _ e) hji]; exact h
      obtain ⟨e', he', hr, hn⟩ := ih _ _ h1
      exact ⟨e', he', hr, fun hnot => hn (fun hm => hnot (List.mem_cons_of_mem _ hm))⟩

/-- the membership check at the end of the loop only sets the flag -/
theorem fillIn_get? (orc : Oracle) (now : Rat) (st : St) (j : Nat) :
    (fillIn orc now st).get? j = (fillFold orc now st.pending st).get? j := by
  rw [fillIn_eq]; split <;> rfl

/-- **the fill-in touches only path-less sides**: for every entry, ids and synced paths are kept; a
    side that has a path (or whose `exists` is neither EXISTS nor UNKNOWN) keeps everything except,
    possibly, its change stamp (shifted when the filled-in path raises the priority); an entry with
    two such sides is untouched -/
theorem fillIn_frame (orc : Oracle) (now : Rat) (st : St) (j : Nat) (e : Entry) (h : st.get? j = some e) :
    ∃ e', (fillIn orc now st).get? j = some e' ∧ FillRel e e' := by
  obtain ⟨e', he', hr, _⟩ := fillFold_frame orc now st.pending st j e h
  exact ⟨e', (fillIn_get? orc now st j).trans he', hr⟩

/-- … and entries that are not pending are not looked at: the loop iterates over the changeset -/
theorem fillIn_not_pending (orc : Oracle) (now : Rat) (st : St) (j : Nat) (e : Entry) (h : st.get? j = some e)
    (hj : j ∉ st.pending) : (fillIn orc now st).get? j = some e := by
  obtain ⟨e', he', _, hn⟩ := fillFold_frame orc now st.pending st j e h
  rw [fillIn_get?, he', hn hj]

/-- **the selection laws hold for the table after the fill-in loop** -/
theorem changeFull_laws (orc : Oracle) (st : St) (now age : Rat) :
    let st' := (changeFull orc st now age).1
    let r := (changeFull orc st now age).2
    st' = fillIn orc now st ∧
    r = pickFirstMin (st'.pendingEntries.filter (fun e => eligible e now age)) ∧
    (r = none ↔ ∀ e ∈ st'.pendingEntries, eligible e now age = false) ∧
    (∀ e, r = some e → e ∈ st'.pendingEntries ∧ eligible e now age = true ∧
      ∀ e' ∈ st'.pendingEntries, eligible e' now age = true → keyLt e' e = false) := by
  refine ⟨rfl, change_eq_pickFirstMin _ _ _, change_none_iff_no_eligible _ _ _, ?_⟩
  intro e he
  have h1 := change_returns_eligible _ now age e he
  exact ⟨h1.1, h1.2, fun e' he' hel => (change_minimal _ now age e he e' he' hel).1⟩

/-- a path change, with all the descendants it carries along, keeps the changeset invariant -/
theorem changePath_inv (cls : Cls) (oip : Bool × Bool) (fuel : Nat) :
    ∀ (moving : List Nat) (st : St) (id : Nat) (s : Bool) (path : String), Inv st →
      Inv (changePath cls oip fuel moving st id s path) :=
  fun moving st id s path =>
    (changePath_moves folderWrites_pres oip fuel moving [] st id s path (fun _ h => nomatch h) (fun h => nomatch h)
      (fun _ => pres_rawPath s path)).inv (fun _ h => h)

theorem inv_init (p : Rat × Rat) (last : Rat) : Inv { punt := p, last := last } :=
  ⟨fun _ h => absurd h (by simp), fun _ h => absurd h (by simp), fun _ _ h => by simp [St.get?] at h⟩

/-- the changeset is derived: in every state reached from a fresh `SyncState` by any sequence of the
    modelled calls, membership in the changeset is consistent with the entries' fields -/
theorem reachable_inv (dn : String → String) (p : Rat × Rat) (last : Rat) (ops : List Op) :
    Inv (runOps dn { punt := p, last := last } ops) := by
  suffices ∀ st, Inv st → Inv (runOps dn st ops) from this _ (inv_init p last)
  induction ops with
  | nil => exact fun _ h => h
  | cons op ops ih => exact fun st h => ih _ (applyOp_inv dn st op h)

theorem mem_pendingEntries (st : St) (e : Entry) :
    e ∈ st.pendingEntries ↔ ∃ j ∈ st.pending, st.get? j = some e := by
  simp [St.pendingEntries, List.mem_filterMap]

/-- what `change` returns in a reachable state is a pending, eligible entry that really carries a change -/
theorem changeSt_sound (st : St) (h : Inv st) (now age : Rat) (e : Entry) (hc : changeSt st now age = some e) :
    (∃ j ∈ st.pending, st.get? j = some e) ∧ anyChange e = true ∧ eligible e now age = true := by
  have h1 := change_returns_eligible _ now age e hc
  obtain ⟨j, hj, hg⟩ := (mem_pendingEntries st e).1 h1.1
  refine ⟨⟨j, hj, hg⟩, ?_, h1.2⟩
  have := (h.mem j e hg).2
  simpa [hj] using this

/-- nothing identified is forgotten: if some entry has a side with an id whose change was notified at
    least `age` ago, `change` returns an entry, and one at least as urgent -/
theorem changeSt_complete (st : St) (h : Inv st) (now age : Rat) (j : Nat) (e : Entry) (s : Bool)
    (hg : st.get? j = some e) (ho : truthyS (e.side s).oid = true)
    (haged : sideAged (e.side s).changed (now - age) = true) :
    ∃ e', changeSt st now age = some e' ∧
      (e'.priority < e.priority ∨ (e'.priority = e.priority ∧ keyTime e' ≤ keyTime e)) := by
  have hch : truthy (e.side s).changed = true := ((sideAged_eq _ _).1 haged).1
  have hid : hasIdChange e = true := (hasIdChange_sides e).2 ⟨s, hch, ho⟩
  have hjp : j ∈ st.pending := by simpa using (h.mem j e hg).1 hid
  have hmem : e ∈ st.pendingEntries := (mem_pendingEntries st e).2 ⟨j, hjp, hg⟩
  have hel : eligible e now age = true := eligible_of_sideAged haged
  obtain ⟨e', hc⟩ := Option.ne_none_iff_exists'.1 (change_ne_none hmem hel)
  exact ⟨e', hc, (change_minimal _ now age e' hc e hmem hel).2⟩

/-- the hypotheses are satisfiable: a reachable state with one pending entry -/
example : ∃ st : St, Inv st ∧ st.pending = [0] :=
  ⟨runOps id { punt := (1/4, 1/4), last := 1000 } [.update false "L1" (some "/f") 0 1001],
   reachable_inv id _ _ _, by decide +kernel⟩

end CS.Sched
