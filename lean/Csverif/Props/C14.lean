import Csverif.Proofs.Hints
import Csverif.Model.Spec.Mangle
import Csverif.Proofs.Spec
/-
C14 — events are hints: duplicated, delayed, reordered, replayed events change nothing.  `CS.Hints`: about
Model/Hints.lean, for ALL states, ALL events, ALL provider truths.  `CS.Spec`: what the trace-refinement layer `monc14`
(Model/Spec/Mangle.lean) decides on the outcome of a prompt run A and a mangled run B of the real engine.
-/
namespace CS.Hints

-- `ip`: the provider's `oid_is_path`; `norm`: its `normalize_path_separators`; `T`: what the provider answers to
-- `info_oid` and `hash_oid`
variable (ip : Bool) (norm : Path → Path) (T : Truth)

/-- the hash `get_latest` ends with when the provider knows the object: `info.hash`, or `hash_oid` for a
    file whose info carries none (state.py 1393-1396, 1404-1406) -/
def Truth.resolved (T : Truth) (o : Oid) (info : Info) : Option Hash :=
  if info.otype = .file ∧ info.hash = none then T.hashOid o else info.hash

theorem aOid_oid (s : Side) (e : Event) (o : Oid) (h : e.oid = some o) : (aOid ip s e).oid = some o := by
  rw [aOid_some ip s h]

theorem aOid_ex_ne (s : Side) (e : Event) (h : s.ex ≠ .corrupt) : (aOid ip s e).ex ≠ .corrupt := by
  cases ho : e.oid with
  | none => rw [aOid_none ip s ho]; exact h
  | some o =>
    rw [aOid_some ip s ho]; dsimp only
    split
    · simp [fresh]
    · exact h

/-- the entry just before the `exists` rule of `update_entry` is applied -/
def pre (s : Side) (e : Event) : Side := aHash (aPath norm (aType (aOid ip s e) e) e) e

theorem applyEvent_eq (s : Side) (e : Event) (t : Nat) (h : e.raises = false) :
    applyEvent ip norm s e t = aChanged (aEx (pre ip norm s e) e) e t := by
  unfold applyEvent pre; simp [h]

theorem applyEvent_raises (s : Side) (e : Event) (t : Nat) (h : e.raises = true) :
    applyEvent ip norm s e t = aType (aOid ip s e) e := by
  unfold applyEvent; simp [h]

theorem applyEvent_cases (s : Side) (e : Event) (t : Nat) :
    applyEvent ip norm s e t = aType (aOid ip s e) e ∨
    applyEvent ip norm s e t = aChanged (aEx (pre ip norm s e) e) e t := by
  cases h : e.raises
  · exact .inr (applyEvent_eq ip norm s e t h)
  · exact .inl (applyEvent_raises ip norm s e t h)

theorem applyEvent_not_corrupt (s : Side) (e : Event) (t : Nat) (h : s.ex ≠ .corrupt) :
    (applyEvent ip norm s e t).ex ≠ .corrupt := by
  have h1 : (aPath norm (aType (aOid ip s e) e) e).ex ≠ .corrupt := by simpa using aOid_ex_ne ip s e h
  rcases applyEvent_cases ip norm s e t with he | he <;> rw [he]
  · simpa using h1
  · simp only [aChanged_eq]
    exact aEx_ne _ _ (by rw [pre, aHash_ex_of_ne _ _ h1]; exact h1)

theorem applyEvent_oid (s : Side) (e : Event) (t : Nat) (o : Oid) (h : e.oid = some o) :
    (applyEvent ip norm s e t).oid = some o := by
  rcases applyEvent_cases ip norm s e t with he | he <;> rw [he] <;> simp [pre, aOid_oid ip s e o h]

/-- after an event the entry counts as changed at the event's time, unless the assertion at state.py 1004 aborted the update -/
theorem applyEvent_changed (s : Side) (e : Event) (t : Nat) (h : e.raises = false) :
    (applyEvent ip norm s e t).changed = t := by
  rw [applyEvent_eq ip norm s e t h]; simp

theorem known_path (now : Nat) (o : Oid) (info : Info) (s : Side) :
    (known norm T now o info s).path = some (norm info.path) := by simp [known]

theorem known_otype (now : Nat) (o : Oid) (info : Info) (s : Side) :
    (known norm T now o info s).otype = info.otype := by simp [known]

theorem known_oid (now : Nat) (o : Oid) (info : Info) (s : Side) :
    (known norm T now o info s).oid = s.oid := by simp [known]

theorem known_hash (now : Nat) (o : Oid) (info : Info) (s : Side) :
    (known norm T now o info s).hash = T.resolved o info := by
  simp [known, Truth.resolved]

theorem known_ex (now : Nat) (o : Oid) (info : Info) (s : Side) (hc : s.ex ≠ .corrupt) :
    (known norm T now o info s).ex = .present := by
  have h1 : (kHash info now s).ex ≠ .corrupt := by rw [kHash_ex_of_ne _ _ _ hc]; exact hc
  have h2 : (kType info (kHash info now s)).ex = .present := (setEx_ex _ _).trans (if_neg h1)
  simp only [known, kPath_eq]
  rw [kFile_ex_of_ne _ _ _ (by rw [h2]; decide), h2]

theorem getLatest_fields (now : Nat) (o : Oid) (info : Info) (s : Side) (ho : s.oid = some o) (hT : T.info o = some info) :
    let r := getLatest ip norm T now s
    r.oid = some o ∧ r.path = some (norm info.path) ∧ r.hash = T.resolved o info ∧ r.otype = info.otype ∧
      (s.ex ≠ .corrupt → r.ex = .present) := by
  intro r
  have hr : r = known norm T now o info s := getLatest_known ip norm T now o info s ho hT
  rw [hr]
  exact ⟨by rw [known_oid, ho], known_path .., known_hash .., known_otype .., known_ex norm T now o info s⟩

/-- `truth_overrides_event_fields` without the `exists` part holds even for a CORRUPT entry -/
theorem truth_overrides_event_fields_any (s : Side) (e : Event) (t now : Nat) (o : Oid) (info : Info)
    (ho : e.oid = some o) (hT : T.info o = some info) :
    let r := getLatest ip norm T now (applyEvent ip norm s e t)
    r.oid = some o ∧ r.path = some (norm info.path) ∧ r.hash = T.resolved o info ∧ r.otype = info.otype := by
  obtain ⟨h1, h2, h3, h4, -⟩ := getLatest_fields ip norm T now o info _ (applyEvent_oid ip norm s e t o ho) hT
  exact ⟨h1, h2, h3, h4⟩

/-- **truth_overrides_event_fields** (both id styles).  After `update` with an event for id `o` followed by
    `get_latest`, if the provider knows `o` then id, path, hash, existence and type of the entry are functions
    of the provider's truth for `o` alone: not of the path / hash / exists / type fields the event carried, and
    not of what the entry held before (which must not be in the CORRUPT state for the `exists` part, see
    `truth_overrides_needs_not_corrupt`). -/
theorem truth_overrides_event_fields (s : Side) (e : Event) (t now : Nat) (o : Oid) (info : Info)
    (ho : e.oid = some o) (hT : T.info o = some info) (hc : s.ex ≠ .corrupt) :
    let r := getLatest ip norm T now (applyEvent ip norm s e t)
    r.oid = some o ∧ r.path = some (norm info.path) ∧ r.hash = T.resolved o info ∧ r.ex = .present ∧
      r.otype = info.otype := by
  obtain ⟨h1, h2, h3, h4, h5⟩ := getLatest_fields ip norm T now o info _ (applyEvent_oid ip norm s e t o ho) hT
  exact ⟨h1, h2, h3, h5 (applyEvent_not_corrupt ip norm s e t hc), h4⟩

/-- corollary in the form of the property: two events that touch the same id leave, after `get_latest`, entries
    that agree on id, path, hash, existence and type -/
theorem event_fields_irrelevant (s₁ s₂ : Side) (e₁ e₂ : Event) (t₁ t₂ n₁ n₂ : Nat) (o : Oid) (info : Info)
    (h₁ : e₁.oid = some o) (h₂ : e₂.oid = some o) (hT : T.info o = some info)
    (c₁ : s₁.ex ≠ .corrupt) (c₂ : s₂.ex ≠ .corrupt) :
    let r₁ := getLatest ip norm T n₁ (applyEvent ip norm s₁ e₁ t₁)
    let r₂ := getLatest ip norm T n₂ (applyEvent ip norm s₂ e₂ t₂)
    r₁.oid = r₂.oid ∧ r₁.path = r₂.path ∧ r₁.hash = r₂.hash ∧ r₁.ex = r₂.ex ∧ r₁.otype = r₂.otype := by
  intro r₁ r₂
  obtain ⟨a1, a2, a3, a4, a5⟩ := truth_overrides_event_fields ip norm T s₁ e₁ t₁ n₁ o info h₁ hT c₁
  obtain ⟨b1, b2, b3, b4, b5⟩ := truth_overrides_event_fields ip norm T s₂ e₂ t₂ n₂ o info h₂ hT c₂
  exact ⟨a1.trans b1.symm, a2.trans b2.symm, a3.trans b3.symm, a4.trans b4.symm, a5.trans b5.symm⟩

/- FALSE for a CORRUPT entry (kept for the record):
`truth_overrides_event_fields` without the hypothesis on `s.ex`:
   an event that carries a hash different from the entry's un-corrupts it (state.py 131-133); one that carries
   none leaves it CORRUPT, and `get_latest` only records EXISTS in `_saved_exists`. -/
/-- kernel-checked witness: same id, same truth, the two events differ only in the hash they carry -/
theorem truth_overrides_needs_not_corrupt :
    let s : Side := { oid := some "o", path := some "/a", hash := some "h", ex := .corrupt, saved := some .present,
                      otype := .file, changed := 0, lastGotten := 0, ign := .no }
    let T : Truth := { info := fun _ => some { path := "/a", hash := some "h", otype := .file }, hashOid := fun _ => some "h" }
    let e₁ : Event := { otype := .file, oid := some "o", path := none, hash := none, ex := some true }
    let e₂ : Event := { otype := .file, oid := some "o", path := none, hash := some "x", ex := some true }
    (getLatest false id T 5 (applyEvent false id s e₁ 3)).ex = .corrupt ∧
    (getLatest false id T 5 (applyEvent false id s e₂ 3)).ex = .present := by
  decide

theorem applyEvents_not_corrupt (s : Side) (es : List (Event × Nat)) (h : s.ex ≠ .corrupt) :
    (applyEvents ip norm s es).ex ≠ .corrupt := by
  induction es generalizing s with
  | nil => exact h
  | cons x xs ih => exact ih _ (applyEvent_not_corrupt ip norm s x.1 x.2 h)

theorem applyEvents_append (s : Side) (as bs : List (Event × Nat)) :
    applyEvents ip norm s (as ++ bs) = applyEvents ip norm (applyEvents ip norm s as) bs := by
  induction as generalizing s with
  | nil => rfl
  | cons x xs ih => exact ih _

theorem applyEvents_snoc (s : Side) (es : List (Event × Nat)) (e : Event) (t : Nat) :
    applyEvents ip norm s (es ++ [(e, t)]) = applyEvent ip norm (applyEvents ip norm s es) e t := by
  rw [applyEvents_append]; rfl

/-- delay, reordering and duplication of the deliveries for one id are invisible once the truth has been re-read: only
    the LAST event of each sequence has to touch `o` -/
theorem delivery_order_irrelevant (s₁ s₂ : Side) (pre₁ pre₂ : List (Event × Nat)) (e₁ e₂ : Event)
    (t₁ t₂ n₁ n₂ : Nat) (o : Oid) (info : Info)
    (h₁ : e₁.oid = some o) (h₂ : e₂.oid = some o) (hT : T.info o = some info)
    (c₁ : s₁.ex ≠ .corrupt) (c₂ : s₂.ex ≠ .corrupt) :
    let r₁ := getLatest ip norm T n₁ (applyEvents ip norm s₁ (pre₁ ++ [(e₁, t₁)]))
    let r₂ := getLatest ip norm T n₂ (applyEvents ip norm s₂ (pre₂ ++ [(e₂, t₂)]))
    r₁.oid = r₂.oid ∧ r₁.path = r₂.path ∧ r₁.hash = r₂.hash ∧ r₁.ex = r₂.ex ∧ r₁.otype = r₂.otype := by
  intro r₁ r₂
  simp only [r₁, r₂, applyEvents_snoc]
  exact event_fields_irrelevant ip norm T _ _ e₁ e₂ t₁ t₂ n₁ n₂ o info h₁ h₂ hT
    (applyEvents_not_corrupt ip norm s₁ pre₁ c₁) (applyEvents_not_corrupt ip norm s₂ pre₂ c₂)

theorem noInfo_oid (s : Side) : (noInfo ip s).oid = s.oid := by simp [noInfo_eq]
theorem noInfo_path (s : Side) : (noInfo ip s).path = s.path := by simp [noInfo_eq]
theorem noInfo_hash (s : Side) : (noInfo ip s).hash = s.hash := by simp [noInfo_eq]

theorem noInfo_ex (s : Side) (hc : s.ex ≠ .corrupt) :
    (noInfo ip s).ex = (if ip then (if s.ex = .trashed ∨ s.ex = .likely then .trashed else .missing) else .trashed) := by
  rw [noInfo_eq, setEx_ex, if_neg hc]; rfl

theorem noInfo_ex_any (s : Side) :
    (noInfo ip s).ex = .trashed ∨ (noInfo ip s).ex = .missing ∨ (noInfo ip s).ex = .corrupt := by
  rw [noInfo_eq, setEx_ex]
  split
  · exact .inr (.inr rfl)
  · exact (goneRule_cases ip _).imp id .inl

/-- **vanished_object_event_is_tombstone_only.**  An event (whatever it claims: exists, a path, a hash, a type)
    for an id the provider does not know leaves, after `get_latest`, a TRASHED / MISSING tombstone (a CORRUPT entry
    stays CORRUPT) and never a creation: `is_creation` is false whatever the other side looks like. -/
theorem vanished_object_event_is_tombstone_only (s : Side) (e : Event) (t now : Nat) (o : Oid)
    (ho : e.oid = some o) (hT : T.info o = none) (syncHash : Option Hash) (pathsDiffer otherGone : Bool) :
    let r := getLatest ip norm T now (applyEvent ip norm s e t)
    (r.ex = .trashed ∨ r.ex = .missing ∨ r.ex = .corrupt) ∧ (s.ex ≠ .corrupt → r.ex ≠ .corrupt) ∧
      isCreation r syncHash pathsDiffer otherGone = false := by
  intro r
  have hr : r = noInfo ip (applyEvent ip norm s e t) :=
    getLatest_vanished ip norm T now o _ (applyEvent_oid ip norm s e t o ho) hT
  have h3 := noInfo_ex_any ip (applyEvent ip norm s e t)
  rw [← hr] at h3
  refine ⟨h3, fun hc => ?_, ?_⟩
  · rw [hr, noInfo_ex ip _ (applyEvent_not_corrupt ip norm s e t hc)]
    exact goneRule_ne_corrupt _ _
  · unfold isCreation
    rcases h3 with h | h | h <;> simp [h]

/-- for an id-stable provider the tombstone is TRASHED, whatever the event said and whatever the entry held -/
theorem vanished_object_is_trashed_id_stable (s : Side) (e : Event) (t now : Nat) (o : Oid)
    (ho : e.oid = some o) (hT : T.info o = none) (hc : s.ex ≠ .corrupt) :
    (getLatest false norm T now (applyEvent false norm s e t)).ex = .trashed := by
  rw [getLatest_vanished false norm T now o _ (applyEvent_oid false norm s e t o ho) hT,
    noInfo_ex false _ (applyEvent_not_corrupt false norm s e t hc)]
  rfl

theorem aOid_again (r : Side) (e : Event) (h1 : ∀ o, e.oid = some o → r.oid = some o)
    (h2 : (r.ign.isDiscarded && ip && truthy e.path) = false) : aOid ip r e = r := by
  cases ho : e.oid with
  | none => exact aOid_none ip r ho
  | some o =>
    rw [aOid_some ip r ho, h2, ← h1 o ho]; rfl

theorem aType_again (r : Side) (e : Event) (h : r.otype = e.otype) : aType r e = r := by
  rw [aType_eq, ← h]

theorem aPath_again (r : Side) (e : Event) (h : ∀ p, e.path = some p → r.path = some (norm p)) :
    aPath norm r e = r := by
  rw [aPath_eq]
  cases hp : e.path with
  | none => rfl
  | some p => rw [Option.map_some, Option.some_or, ← h p hp]

theorem aHash_again (r : Side) (e : Event) (h : ∀ x, e.hash = some x → r.hash = some x) : aHash r e = r := by
  rw [aHash_eq]
  cases hp : e.hash with
  | none => exact setHash_self r
  | some x => rw [Option.some_or, ← h x hp]; exact setHash_self r

theorem aOid_ign (s : Side) (e : Event) (o : Oid) (ho : e.oid = some o) :
    (aOid ip s e).ign = (if (s.ign.isDiscarded && ip && truthy e.path) = true then Ign.no else s.ign) := by
  rw [aOid_some ip s ho]; dsimp only
  split <;> simp [fresh]

theorem aOid_ign_cond (s : Side) (e : Event) :
    ((aOid ip s e).ign.isDiscarded && ip && truthy e.path) = false ∨ e.oid = none := by
  cases ho : e.oid with
  | none => right; rfl
  | some o =>
    left
    rw [aOid_ign ip s e o ho]
    cases hc : (s.ign.isDiscarded && ip && truthy e.path) with
    | true => simp [Ign.isDiscarded]
    | false => simpa using hc

theorem aOid_again_of_aOid (s x : Side) (e : Event) (hoid : x.oid = (aOid ip s e).oid) (hign : x.ign = (aOid ip s e).ign) :
    aOid ip x e = x := by
  cases ho : e.oid with
  | none => exact aOid_none ip x ho
  | some o =>
    apply aOid_again
    · intro o' ho'; rw [hoid]; exact aOid_oid ip s e o' ho'
    · rw [hign]; exact (aOid_ign_cond ip s e).resolve_right (by simp [ho])

theorem pre_again (s : Side) (e : Event) (t : Nat) (x : Side)
    (hoid : x.oid = (pre ip norm s e).oid) (hpath : x.path = (pre ip norm s e).path)
    (hhash : x.hash = (pre ip norm s e).hash) (hot : x.otype = (pre ip norm s e).otype)
    (hign : x.ign = (pre ip norm s e).ign) : pre ip norm x e = x := by
  have e1 : aOid ip x e = x := aOid_again_of_aOid ip s x e (by simpa [pre] using hoid) (by simpa [pre] using hign)
  have e2 : aType x e = x := aType_again x e (by simpa [pre] using hot)
  have e3 : aPath norm x e = x := aPath_again norm x e fun p hp => by simpa [pre, hp] using hpath
  have e4 : aHash x e = x := aHash_again x e fun h hh => by simpa [pre, hh] using hhash
  unfold pre
  rw [e1, e2, e3, e4]

theorem setEx_with_times (s : Side) (v : Ex) (c g : Nat) :
    setEx { s with changed := c, lastGotten := g } v = { setEx s v with changed := c, lastGotten := g } := by
  unfold setEx; (repeat' split) <;> rfl

theorem aChanged_aEx_aChanged (x : Side) (e : Event) (t₁ t₂ : Nat) :
    aChanged (aEx (aChanged x e t₁) e) e t₂ = aChanged (aEx x e) e t₂ := by
  simp only [aChanged_eq, aEx_eq, setEx_with_times, setEx_fields]
  cases e.accurate <;> rfl

/-- false on the code before fix `pathid-tombstone-erased-by-stale-event`: there the second delivery of an "exists" event
    turns LIKELY_TRASHED into EXISTS -/
theorem aEx_twice (m : Side) (e : Event) : aEx (aEx m e) e = aEx m e := by
  simp only [aEx_eq]
  exact setEx_idem _ (exRule_ne_corrupt _) (exRule_idem _) m

/-- **duplicate_event_same_state** (every provider, no re-read needed): delivering the
    same event a second time leaves exactly the state of delivering it once (at the later time). -/
theorem duplicate_event_same_state (s : Side) (e : Event) (t₁ t₂ : Nat) :
    applyEvent ip norm (applyEvent ip norm s e t₁) e t₂ = applyEvent ip norm s e t₂ := by
  -- after one delivery the entry carries the event's id, type, path and hash, so the stages before `exists` are the identity
  -- (`pre_again`); the time `aChanged` wrote is not read by `aEx` and is overwritten; `aEx` is idempotent as `exRule` is
  cases hr : e.raises with
  | true =>
    rw [applyEvent_raises ip norm s e t₁ hr, applyEvent_raises ip norm s e t₂ hr, applyEvent_raises ip norm _ e t₂ hr,
      aOid_again_of_aOid ip s _ e (by simp) (by simp)]
    exact aType_again _ _ (by simp)
  | false =>
    rw [applyEvent_eq ip norm s e t₁ hr, applyEvent_eq ip norm s e t₂ hr, applyEvent_eq ip norm _ e t₂ hr,
      pre_again ip norm s e t₁ _ (by simp) (by simp) (by simp) (by simp) (by simp), aChanged_aEx_aChanged, aEx_twice]

theorem duplicate_event_same_state_n (s : Side) (e : Event) (t : Nat) (ts : List Nat) (tl : Nat) :
    applyEvents ip norm (applyEvent ip norm s e t) ((ts ++ [tl]).map (fun x => (e, x))) = applyEvent ip norm s e tl := by
  induction ts generalizing t with
  | nil => simp [applyEvents, duplicate_event_same_state]
  | cons x xs ih =>
    simp only [List.cons_append, List.map_cons, applyEvents]
    rw [duplicate_event_same_state]
    exact ih x

/-- corollaries in the form the property states them: after the truth is re-read -/
theorem duplicate_event_same_state_partial (s : Side) (e : Event) (t₁ t₂ now : Nat) :
    getLatest false norm T now (applyEvent false norm (applyEvent false norm s e t₁) e t₂) =
      getLatest false norm T now (applyEvent false norm s e t₂) := by
  rw [duplicate_event_same_state]

theorem duplicate_event_same_state_known (s : Side) (e : Event) (t₁ t₂ now : Nat) :
    getLatest ip norm T now (applyEvent ip norm (applyEvent ip norm s e t₁) e t₂) =
      getLatest ip norm T now (applyEvent ip norm s e t₂) := by
  rw [duplicate_event_same_state]

def Ex.isTomb (x : Ex) : Bool := x == .trashed || x == .likely

theorem Ex.isTomb_iff (x : Ex) : x.isTomb = true ↔ x = .trashed ∨ x = .likely := by simp [Ex.isTomb]

theorem Ex.ne_corrupt_of_isTomb {x : Ex} (h : x.isTomb = true) : x ≠ .corrupt := fun hc => by rw [hc] at h; cases h

theorem exRule_tomb (b : Option Bool) (x : Ex) (h : x.isTomb = true) : (exRule b x).isTomb = true := by
  have ht := (Ex.isTomb_iff x).mp h
  unfold exRule
  by_cases hb : b = some false
  · rw [if_neg (fun hc => hc.2 hb), hb]; rfl
  · rw [if_pos ⟨ht, hb⟩]; rfl

theorem aEx_tomb (m : Side) (e : Event) (h : m.ex.isTomb = true) : (aEx m e).ex.isTomb = true := by
  rw [aEx_eq, setEx_ex, if_neg (Ex.ne_corrupt_of_isTomb h)]
  exact exRule_tomb _ _ h

theorem aOid_keep (s : Side) (e : Event) (hd : (s.ign.isDiscarded && ip && truthy e.path) = false) :
    (aOid ip s e).ex = s.ex ∧ (aOid ip s e).ign = s.ign := by
  cases ho : e.oid with
  | none => rw [aOid_none ip s ho]; exact ⟨rfl, rfl⟩
  | some o => rw [aOid_some ip s ho, hd]; exact ⟨rfl, rfl⟩

theorem applyEvent_ign (s : Side) (e : Event) (t : Nat) : (applyEvent ip norm s e t).ign = (aOid ip s e).ign := by
  rcases applyEvent_cases ip norm s e t with he | he <;> rw [he] <;> simp [pre]

/-- whatever an event says, it leaves a tombstone a tombstone — unless the entry is a discarded one of a path-id
    provider, which `update_entry` replaces by a new entry (state.py 986-991) -/
theorem tombstone_survives_event (s : Side) (e : Event) (t : Nat) (h : s.ex.isTomb = true)
    (hd : (s.ign.isDiscarded && ip && truthy e.path) = false) : (applyEvent ip norm s e t).ex.isTomb = true := by
  have h0 := (aOid_keep ip s e hd).1
  have hne := Ex.ne_corrupt_of_isTomb h
  cases hr : e.raises with
  | true => rw [applyEvent_raises ip norm s e t hr]; simpa [h0] using h
  | false =>
    rw [applyEvent_eq ip norm s e t hr]
    simp only [aChanged_eq]
    apply aEx_tomb
    unfold pre
    rw [aHash_ex_of_ne _ _ (by simpa [h0] using hne)]
    simpa [h0] using h

theorem tombstone_survives_events (s : Side) (es : List (Event × Nat)) (h : s.ex.isTomb = true)
    (hd : s.ign.isDiscarded = false) : (applyEvents ip norm s es).ex.isTomb = true := by
  induction es generalizing s with
  | nil => exact h
  | cons x xs ih =>
    have hd' : (s.ign.isDiscarded && ip && truthy x.1.path) = false := by simp [hd]
    apply ih _ (tombstone_survives_event ip norm s x.1 x.2 h hd')
    rw [applyEvent_ign, (aOid_keep ip s x.1 hd').2]
    exact hd

/-- for BOTH id styles, never MISSING: MISSING is what makes the engine re-create the object from the other side -/
theorem noInfo_of_tomb (s : Side) (h : s.ex.isTomb = true) : (noInfo ip s).ex = .trashed := by
  rw [noInfo_ex ip s (Ex.ne_corrupt_of_isTomb h)]
  exact goneRule_tomb ip _ ((Ex.isTomb_iff _).mp h)

/-- **stale_events_cannot_erase_tombstone**: a deleted entry, then ANY sequence of stale events for it, then a re-read
    of a provider that does not know the id: TRASHED.  (On the code before the fix two "exists" events, or one "unknown" event,
    give MISSING on a path-id provider.) -/
theorem stale_events_cannot_erase_tombstone (s : Side) (es : List (Event × Nat)) (now : Nat) (o : Oid)
    (h : s.ex.isTomb = true) (hd : s.ign.isDiscarded = false)
    (ho : (applyEvents ip norm s es).oid = some o) (hT : T.info o = none) :
    (getLatest ip norm T now (applyEvents ip norm s es)).ex = .trashed := by
  rw [getLatest_vanished ip norm T now o _ ho hT]
  exact noInfo_of_tomb ip _ (tombstone_survives_events ip norm s es h hd)

def Truth.HashConsistent (T : Truth) : Prop :=
  ∀ o info, T.info o = some info → info.otype = .file → info.hash = none → T.hashOid o = none

theorem setEx_same (s : Side) (v : Ex) (h : s.ex = v) : setEx s v = s :=
  h ▸ setEx_self s

/-- what `exists` / `_saved_exists` look like after the known branch.  On a CORRUPT entry `kType` writes EXISTS to
    `_saved_exists` and `exists` stays CORRUPT, so `r.ex = .present` alone is not what the second re-read finds -/
def Settled (r : Side) : Prop := r.ex = .present ∨ (r.ex = .corrupt ∧ r.saved = some .present)

theorem kType_settled (info : Info) (x : Side) : Settled (kType info x) := by
  by_cases h : x.ex = .corrupt <;> simp [Settled, setEx, h]

theorem setHash_settled (x : Side) (h : Option Hash) (hx : Settled x) : Settled (setHash x h) := by
  rcases hx with hx | ⟨hx, hs⟩
  · rw [setHash_of_ne x h (by simp [hx])]; exact .inl hx
  · by_cases hh : x.hash = h <;> simp [Settled, setHash, uncorrupt, hx, hs, hh]

theorem kFile_settled (o : Oid) (x : Side) (hx : Settled x) : Settled (kFile T o x) := by
  rw [kFile_eq]; exact setHash_settled x _ hx

theorem known_settled (now : Nat) (o : Oid) (info : Info) (s : Side) : Settled (known norm T now o info s) := by
  have h := kFile_settled T o _ (kType_settled info (kHash info now s))
  simpa [known, Settled] using h

theorem kHash_fix (info : Info) (now : Nat) (r : Side) (h : r.hash = info.hash) : kHash info now r = r := by
  unfold kHash; simp [h]

theorem kType_fix (info : Info) (r : Side) (h1 : r.otype = info.otype) (h2 : Settled r) : kType info r = r := by
  have : setEx r .present = r := by
    rcases h2 with h2 | ⟨h2, h3⟩
    · exact setEx_same r _ h2
    · unfold setEx
      rw [if_neg (by simp), if_pos ⟨by decide, h2⟩, ← h3]
  rw [kType, this, ← h1]

theorem kFile_fix (o : Oid) (r : Side) (h : r.otype = .file → r.hash = none → T.hashOid o = none) :
    kFile T o r = r := by
  rw [kFile_eq]
  split
  · rename_i hc
    rw [h hc.1 hc.2, ← hc.2]
    exact setHash_self r
  · exact setHash_self r

theorem kPath_fix (info : Info) (now : Nat) (r : Side) (h : r.path = some (norm info.path)) :
    kPath norm info now r = r := by
  unfold kPath; simp [h]

theorem known_idempotent (hT : T.HashConsistent) (o : Oid) (info : Info) (hi : T.info o = some info)
    (s : Side) (n₁ n₂ : Nat) :
    known norm T n₂ o info (known norm T n₁ o info s) = known norm T n₁ o info s := by
  -- the first result has the provider's path, type and hash and is `Settled`; each of the four stages is the identity under
  -- one of these.  `HashConsistent` is what makes the hash `info.hash` and keeps `kFile` from fetching another one
  generalize hr : known norm T n₁ o info s = r
  have hpath : r.path = some (norm info.path) := hr ▸ known_path norm T n₁ o info s
  have hot : r.otype = info.otype := hr ▸ known_otype norm T n₁ o info s
  have hset : Settled r := hr ▸ known_settled norm T n₁ o info s
  have hhash : r.hash = info.hash := by
    rw [← hr, known_hash]
    unfold Truth.resolved
    split
    · rename_i h; rw [hT o info hi h.1 h.2, h.2]
    · rfl
  rw [known, kHash_fix info n₂ r hhash, kType_fix info r hot hset,
    kFile_fix T o r fun h1 h2 => hT o info hi (hot ▸ h1) (hhash ▸ h2), kPath_fix norm info n₂ r hpath]

theorem known_keeps_oid (now : Nat) (o : Oid) (info : Info) (s : Side) (h : s.oid = some o) :
    (known norm T now o info s).oid = some o := by rw [known_oid]; exact h

/-- **getLatest_idempotent**: re-reading the truth twice is re-reading it once — every field, every state, both id
    styles — for a provider whose `hash_oid` agrees with `info_oid` (`HashConsistent`; the mock, and every provider
    whose `info_oid` carries the hash) -/
theorem getLatest_idempotent (hT : T.HashConsistent) (s : Side) (n₁ n₂ : Nat) :
    getLatest ip norm T n₂ (getLatest ip norm T n₁ s) = getLatest ip norm T n₁ s := by
  cases ho : s.oid with
  | none =>
    rw [getLatest_idless ip norm T n₂ _ (by simp [getLatest_idless ip norm T n₁ s ho, ho]),
      getLatest_idless ip norm T n₁ s ho]
    exact setEx_idem idlessRule idlessRule_ne_corrupt idlessRule_idem s
  | some o =>
    cases hi : T.info o with
    | none =>
      rw [getLatest_vanished ip norm T n₂ o _ (by rw [getLatest_vanished ip norm T n₁ o s ho hi, noInfo_oid, ho]) hi,
        getLatest_vanished ip norm T n₁ o s ho hi]
      simp only [noInfo_eq]
      exact setEx_idem _ (goneRule_ne_corrupt ip) (goneRule_idem ip) s
    | some info =>
      rw [getLatest_known ip norm T n₁ o info _ ho hi,
        getLatest_known ip norm T n₂ o info _ (known_keeps_oid norm T n₁ o info _ ho) hi]
      exact known_idempotent norm T hT o info hi _ n₁ n₂

/- FALSE without `HashConsistent` (kept for the record): `getLatest_idempotent` for every truth -/
/-- kernel-checked witness: `info_oid` reports no hash, `hash_oid` does: the second `get_latest` sees a "new" hash
    (None) and marks an unchanged, synced entry as changed -/
theorem getLatest_not_idempotent_when_hashes_disagree :
    let s : Side := { oid := some "o", path := some "/a", hash := none, ex := .present, saved := none,
                      otype := .file, changed := 0, lastGotten := 0, ign := .no }
    let T : Truth := { info := fun _ => some { path := "/a", hash := none, otype := .file }, hashOid := fun _ => some "h" }
    (getLatest false id T 5 s).changed = 0 ∧ (getLatest false id T 7 (getLatest false id T 5 s)).changed = 7 := by
  decide

theorem applyEvent_lastGotten (s : Side) (e : Event) (t : Nat) (h : e.raises = false) (ha : e.accurate = false) :
    (applyEvent ip norm s e t).lastGotten = (aOid ip s e).lastGotten := by
  rw [applyEvent_eq ip norm s e t h]
  simp [ha, pre]

theorem aOid_lastGotten_le (s : Side) (e : Event) : (aOid ip s e).lastGotten ≤ s.lastGotten := by
  cases ho : e.oid with
  | none => rw [aOid_none ip s ho]; exact Nat.le_refl _
  | some o => rw [aOid_some ip s ho]; dsimp only; split <;> simp [fresh]

/-- **event_forces_reread**: after any event that is not flagged `accurate`, delivered at a time later than the last
    read, the non-forced `get_latest()` of `pre_sync` (manager.py 369) does re-read the provider, whatever the
    other side's change time is -/
theorem event_forces_reread (s : Side) (e : Event) (t now oc : Nat) (h : e.raises = false)
    (ha : e.accurate = false) (hlt : s.lastGotten < t) :
    getLatestMaybe ip norm T now false oc (applyEvent ip norm s e t) =
      { getLatest ip norm T now (applyEvent ip norm s e t) with lastGotten := max t oc } := by
  unfold getLatestMaybe
  have h1 := applyEvent_changed ip norm s e t h
  have h2 := applyEvent_lastGotten ip norm s e t h ha
  have h3 := aOid_lastGotten_le ip s e
  simp only [h1]
  rw [if_pos]
  right
  rw [h2]
  omega

/-- **idless_event_dropped**: an event without id is dropped — `state.update` is not called — unless it is a folder
    delete whose path is known -/
theorem idless_event_dropped (idx : List Side) (e : Event) (fw : Bool) (ho : e.oid = none)
    (h : ¬ (e.ex = some false ∧ truthy e.path = true ∧ e.otype = .dir) ∨ lookupPath idx (e.path.getD "") = []) :
    processEvent idx e fw = .dropped := by
  have hf : fillOid idx e = e := by
    unfold fillOid
    rw [ho]
    rcases h with h | h
    · simp only [if_neg h]
    · simp only [h]; split <;> rfl
  unfold processEvent
  simp [hf, ho]

/-- a known path whose first entry has no id is dropped too -/
theorem idless_event_dropped_idless_entry (idx : List Side) (e : Event) (fw : Bool) (ho : e.oid = none)
    (k : Side) (ks : List Side) (hk : lookupPath idx (e.path.getD "") = k :: ks) (hko : k.oid = none) :
    processEvent idx e fw = .dropped := by
  have hf : (fillOid idx e).oid = none := by
    unfold fillOid
    rw [ho]
    simp only [hk]
    split <;> simp [hko, ho]
  unfold processEvent
  simp [hf]

/-- **folder_delete_matched_by_path**: an id-less delete of a folder whose path the state knows is given the id of the
    first live entry at that path and passed on to `state.update` (as a delete of THAT id, with the path it carried) -/
theorem folder_delete_matched_by_path (idx : List Side) (e : Event) (p : Path) (k : Side) (ks : List Side) (o : Oid)
    (ho : e.oid = none) (hx : e.ex = some false) (hp : e.path = some p) (hpt : p ≠ "") (hd : e.otype = .dir)
    (hk : lookupPath idx p = k :: ks) (hko : k.oid = some o) :
    processEvent idx e false = .update { e with oid := some o } := by
  have ht : truthy e.path = true := by simp [hp, truthy, hpt]
  have hf : fillOid idx e = { e with oid := some o } := by
    unfold fillOid
    rw [ho]
    simp only []
    rw [if_pos ⟨hx, ht, hd⟩]
    simp only [hp, Option.getD_some, hk, hko]
  unfold processEvent
  simp [hf, walkNoop, fillPath, ht]

theorem fillOid_of_oid (idx : List Side) (e : Event) (o : Oid) (ho : e.oid = some o) : fillOid idx e = e := by
  unfold fillOid; rw [ho]

theorem processEvent_of_oid (idx : List Side) (e : Event) (fw : Bool) (o : Oid) (ho : e.oid = some o) :
    processEvent idx e fw = if walkNoop idx e o fw then .walkNoop else .update (fillPath idx e o) := by
  unfold processEvent; simp only [fillOid_of_oid idx e o ho, ho]

/-- **walk_event_noop_when_nothing_differs**: a walk event for an id the state knows, with the hash and the path the
    state has, does not reach `state.update` at all -/
theorem walk_event_noop_when_nothing_differs (idx : List Side) (e : Event) (o : Oid) (a : Side)
    (ho : e.oid = some o) (ha : lookupOid idx o = some a) (hh : a.hash = e.hash) (hp : a.path = e.path) :
    processEvent idx e true = .walkNoop := by
  simp [processEvent_of_oid idx e true o ho, walkNoop, ha, hh, hp]

/-- conversely every other walk event, and every ordinary event with an id, is passed on to `state.update` -/
theorem event_with_id_is_passed_on (idx : List Side) (e : Event) (fw : Bool) (o : Oid) (ho : e.oid = some o)
    (h : fw = false ∨ lookupOid idx o = none ∨ ∃ a, lookupOid idx o = some a ∧ (a.hash ≠ e.hash ∨ a.path ≠ e.path)) :
    ∃ e', processEvent idx e fw = .update e' ∧ e'.oid = some o ∧ e'.hash = e.hash ∧ e'.ex = e.ex ∧
      e'.otype = e.otype ∧ (truthy e.path = true → e'.path = e.path) := by
  have hn : walkNoop idx e o fw = false := by
    unfold walkNoop
    rcases h with h | h | ⟨a, h, h' | h'⟩ <;> simp [*]
  refine ⟨fillPath idx e o, by simp [processEvent_of_oid idx e fw o ho, hn], ?_⟩
  -- `_fill_event_path` only fills in a missing path
  unfold fillPath
  split
  · simp [ho]
  · split <;> simp_all

/-- non-vacuity: concrete states satisfying the hypotheses of the theorems above -/
example :
    let s : Side := { oid := some "o1", path := some "/r/a", hash := some "h1", ex := .trashed, saved := none,
                      otype := .file, changed := 0, lastGotten := 2, ign := .no }
    let e : Event := { otype := .file, oid := some "o1", path := some "/r/zzz", hash := some "bogus", ex := some true }
    let T : Truth := { info := fun o => if o = "o1" then some { path := "/r/b", hash := some "h2", otype := .file } else none,
                       hashOid := fun _ => none }
    let r := getLatest false id T 9 (applyEvent false id s e 5)
    s.ex ≠ .corrupt ∧ T.HashConsistent ∧ (applyEvent false id s e 5).ex = .likely ∧
    (applyEvent false id (applyEvent false id s e 5) e 6).ex = .likely ∧ s.ex.isTomb = true ∧
    r.path = some "/r/b" ∧ r.hash = some "h2" ∧ r.ex = .present ∧
    processEvent [s] { e with oid := none } false = .dropped ∧
    processEvent [s] { e with hash := some "h1", path := some "/r/a" } true = .walkNoop := by
  refine ⟨by decide, ?_, by decide, by decide, by decide, by decide, by decide, by decide, by decide, by decide⟩
  intro o info h1 h2 h3
  rfl

theorem lookupPathS_false (idx : List Side) (p : Path) : lookupPathS idx p false = lookupPath idx p := by
  simp [lookupPathS, lookupPath, Bool.and_assoc]

theorem mem_lookupPathS (idx : List Side) (p : Path) (stale : Bool) (s : Side) :
    s ∈ lookupPathS idx p stale ↔ s ∈ idx ∧ s.path = some p ∧ (stale = true ∨ s.live = true) := by
  simp [lookupPathS, Side.live]

/-- **live_lookup_never_returns_tombstone**: `lookup_path` without `stale` never returns a discarded (or conflicted) entry -/
theorem live_lookup_never_returns_tombstone (idx : List Side) (p : Path) (s : Side) (h : s ∈ lookupPathS idx p false) :
    s.ign.isDiscarded = false ∧ s.ign.isConflicted = false ∧ s.path = some p ∧ s ∈ idx := by
  obtain ⟨hm, hp, hl⟩ := (mem_lookupPathS ..).mp h
  simp [Side.live] at hl
  exact ⟨hl.1, hl.2, hp, hm⟩

theorem stale_lookup_returns_tombstones (idx : List Side) (p : Path) (s : Side) (hm : s ∈ idx) (hp : s.path = some p) :
    s ∈ lookupPathS idx p true :=
  (mem_lookupPathS ..).mpr ⟨hm, hp, .inl rfl⟩

theorem live_lookup_depends_on_live_only (idx : List Side) (p : Path) :
    lookupPathS idx p false = lookupPathS (idx.filter Side.live) p false := by
  unfold lookupPathS Side.live
  rw [List.filter_filter]
  congr 1
  funext s
  cases s.ign <;> simp [Ign.isDiscarded, Ign.isConflicted]

/-- **fnf_parent_decision_depends_on_live_only**: the "parent known?" decision of the handler is a function of the LIVE
    entries: two indexes with the same live entries (whatever tombstones they hold, wherever) decide alike -/
theorem fnf_parent_decision_depends_on_live_only (idx idx' : List Side) (parent : Path) (prio : Nat) (has : Bool)
    (h : idx.filter Side.live = idx'.filter Side.live) :
    fnfParent false idx parent prio has = fnfParent false idx' parent prio has := by
  unfold fnfParent
  rw [live_lookup_depends_on_live_only idx, live_lookup_depends_on_live_only idx', h]

theorem fnf_ignores_tombstones (pre post : List Side) (tomb : Side) (parent : Path) (prio : Nat) (has : Bool)
    (ht : tomb.live = false) :
    fnfParent false (pre ++ tomb :: post) parent prio has = fnfParent false (pre ++ post) parent prio has := by
  apply fnf_parent_decision_depends_on_live_only
  simp [List.filter_append, ht]

/-- **fnf_injects_parent_when_no_live_entry**: no live entry for the parent path, the provider has the folder, the child
    has not been punted out (`sync.priority > 5` raises CloudTooManyRetriesError): the synthetic parent event is injected —
    however many tombstones the path has -/
theorem fnf_injects_parent_when_no_live_entry (idx : List Side) (parent : Path) (prio : Nat)
    (hp : prio ≤ 5) (hl : ∀ s ∈ idx, s.path = some parent → s.live = false) :
    fnfParent false idx parent prio true = .injectParent := by
  have : lookupPathS idx parent false = [] := List.eq_nil_iff_forall_not_mem.mpr fun s hs => by
    obtain ⟨hm, hpa, h⟩ := (mem_lookupPathS ..).mp hs
    simp [hl s hm hpa] at h
  simp [fnfParent, Nat.not_lt.mpr hp, this]

/-- the first decision of `handle_cloud_file_not_found_error`, complete -/
theorem fnf_decision_table (idx : List Side) (parent : Path) (prio : Nat) (has : Bool) :
    fnfParent false idx parent prio has =
      (if prio > 5 then .tooManyRetries
       else match lookupPath idx parent with
         | [] => if has then .injectParent else .noInfo
         | k :: _ => .useEntry k) := by
  unfold fnfParent
  rw [lookupPathS_false]
  rfl

/- FALSE for the stale lookup (kept for the record): `fnf_injects_parent_when_no_live_entry` with `fnfParent true` -/
/-- kernel-checked witness: ONE tombstone of an earlier, deleted folder on the parent path: the stale variant takes the dead
    entry for the parent and never injects the parent event; the live variant injects it -/
theorem stale_lookup_blocks_parent_injection :
    let tomb : Side := { oid := some "o1", path := some "/r/d", hash := none, ex := .trashed, saved := none,
                         otype := .dir, changed := 0, lastGotten := 0, ign := .discarded }
    fnfParent false [tomb] "/r/d" 0 true = .injectParent ∧ fnfParent true [tomb] "/r/d" 0 true = .useEntry tomb ∧
    tomb.live = false := by
  decide

end CS.Hints

namespace CS.Spec

theorem countOf_eq_count (x : String) (l : List String) : countOf x l = l.count x := by
  simp [countOf, List.count_eq_length_filter]

theorem countOf_nil (x : String) : countOf x [] = 0 := rfl

theorem countOf_cons (x y : String) (l : List String) :
    countOf x (y :: l) = (if y = x then 1 else 0) + countOf x l := by
  simp [countOf_eq_count, List.count_cons, Nat.add_comm]

theorem countOf_pos_iff (x : String) (l : List String) : 0 < countOf x l ↔ x ∈ l := by
  rw [countOf_eq_count, List.count_pos_iff]

theorem msub_iff (b a : List String) : msub b a = true ↔ ∀ x, countOf x b ≤ countOf x a := by
  simp only [msub, List.all_eq_true, decide_eq_true_eq]
  refine ⟨fun h x => ?_, fun h x _ => h x⟩
  by_cases hx : x ∈ b
  · exact h x hx
  · simp [countOf_eq_count, List.count_eq_zero_of_not_mem hx]

theorem msub_refl (a : List String) : msub a a = true := (msub_iff a a).mpr (fun _ => Nat.le_refl _)

theorem msub_trans (c b a : List String) (h1 : msub c b = true) (h2 : msub b a = true) : msub c a = true :=
  (msub_iff c a).mpr (fun x => Nat.le_trans ((msub_iff c b).mp h1 x) ((msub_iff b a).mp h2 x))

/-- every write of the mangled run is a write of the prompt run -/
theorem msub_mem (b a : List String) (h : msub b a = true) (x : String) (hx : x ∈ b) : x ∈ a :=
  (countOf_pos_iff x a).mp (Nat.lt_of_lt_of_le ((countOf_pos_iff x b).mpr hx) ((msub_iff b a).mp h x))

theorem mangledOk_iff (A B : MangleOutcome) : mangledOk A B = true ↔
    converged B.l B.r = true ∧ B.l.sameAs A.l = true ∧ B.r.sameAs A.r = true ∧
    noNewConflicts A.l B.l = true ∧ noNewConflicts A.r B.r = true ∧ msub B.calls A.calls = true := by
  simp only [mangledOk, Bool.and_eq_true, and_assoc]

/-- **what a verdict "ok" of the layer `monc14` means**: the mangled run B is converged; on every path both of its
    sides hold exactly what the prompt run A holds; every `.conflicted` artefact of B exists in A; and B issued no
    effective write (transfer, deletion, move, mkdir — as keyed by the harness) more often than A. -/
theorem mangledOk_sound (A B : MangleOutcome) (h : mangledOk A B = true) :
    converged B.l B.r = true ∧ (∀ p, B.l.get p = A.l.get p) ∧ (∀ p, B.r.get p = A.r.get p) ∧
    (∀ p ∈ B.l.conflicts, A.l.has p = true) ∧ (∀ p ∈ B.r.conflicts, A.r.has p = true) ∧
    (∀ x, countOf x B.calls ≤ countOf x A.calls) ∧ (∀ x ∈ B.calls, x ∈ A.calls) := by
  obtain ⟨hconv, hl, hr, hcl, hcr, hcalls⟩ := (mangledOk_iff A B).mp h
  exact ⟨hconv, Tree.get_eq_of_sameAs hl, Tree.get_eq_of_sameAs hr, List.all_eq_true.mp hcl, List.all_eq_true.mp hcr,
    (msub_iff _ _).mp hcalls, msub_mem _ _ hcalls⟩

theorem noNewConflicts_refl (t : Tree) : noNewConflicts t t = true := by
  unfold noNewConflicts Tree.conflicts
  rw [List.all_eq_true]
  intro p hp
  rw [List.mem_map] at hp
  obtain ⟨e, he, rfl⟩ := hp
  rw [List.mem_filter] at he
  unfold Tree.has
  rw [List.any_eq_true]
  exact ⟨e, he.1, by simp⟩

/-- a run compared with itself is accepted: the relation is not vacuous, and an unmangled "mangled" run passes -/
theorem mangledOk_refl (A : MangleOutcome) (hl : A.l.WF) (hr : A.r.WF) (hc : converged A.l A.r = true) :
    mangledOk A A = true :=
  (mangledOk_iff A A).mpr
    ⟨hc, Tree.sameAs_refl hl, Tree.sameAs_refl hr, noNewConflicts_refl _, noNewConflicts_refl _, msub_refl _⟩

theorem noNewConflicts_trans (a b c : Tree) (hab : b.sameAs a = true)
    (h1 : noNewConflicts a b = true) (h2 : noNewConflicts b c = true) : noNewConflicts a c = true := by
  unfold noNewConflicts at *
  rw [List.all_eq_true] at *
  intro p hp
  rw [Tree.has_eq_isSome, ← Tree.get_eq_of_sameAs hab p, ← Tree.has_eq_isSome]
  exact h2 p hp

/-- acceptance composes, so the kinds of mangling may be combined and iterated -/
theorem mangledOk_trans (A B C : MangleOutcome) (h1 : mangledOk A B = true) (h2 : mangledOk B C = true) :
    mangledOk A C = true := by
  obtain ⟨-, al, ar, acl, acr, acalls⟩ := (mangledOk_iff A B).mp h1
  obtain ⟨bconv, bl, br, bcl, bcr, bcalls⟩ := (mangledOk_iff B C).mp h2
  exact (mangledOk_iff A C).mpr ⟨bconv, Tree.sameAs_trans bl al, Tree.sameAs_trans br ar,
    noNewConflicts_trans _ _ _ al acl bcl, noNewConflicts_trans _ _ _ ar acr bcr, msub_trans _ _ _ bcalls acalls⟩

/-- a deletion (any write) the prompt run does not have is rejected -/
theorem mangledOk_rejects_extra_write (A B : MangleOutcome) (x : String) (hx : x ∈ B.calls) (hn : x ∉ A.calls) :
    mangledOk A B = false :=
  Bool.eq_false_iff.mpr fun h =>
    let ⟨_, _, _, _, _, hcalls⟩ := (mangledOk_iff A B).mp h
    hn (msub_mem _ _ hcalls x hx)

/-- replaying the tree as walk events: accepted only if nothing was written and no path changed -/
theorem replayQuiet_sound (lb rb la ra : Tree) (n : Nat) (h : replayQuiet lb rb la ra n = true) :
    n = 0 ∧ (∀ p, lb.get p = la.get p) ∧ (∀ p, rb.get p = ra.get p) := by
  unfold replayQuiet at h
  simp only [Bool.and_eq_true, beq_iff_eq] at h
  exact ⟨h.2, Tree.get_eq_of_sameAs h.1.1, Tree.get_eq_of_sameAs h.1.2⟩

/-- non-vacuity: an accepted pair, and the three kinds of rejection -/
example :
    let A : MangleOutcome := { l := [(["a"], .file 1), (["d"], .dir)], r := [(["d"], .dir), (["a"], .file 1)], calls := ["1:put:F1", "1:mkdir:/d"] }
    mangledOk A { A with calls := ["1:mkdir:/d"] } = true ∧
    mangledOk A { A with calls := ["1:put:F1", "1:put:F1", "1:mkdir:/d"] } = false ∧
    mangledOk A { A with l := [(["a"], .file 1)], r := [(["a"], .file 1)] } = false ∧
    mangledOk A { A with l := A.l ++ [(["a.conflicted"], .file 2)] } = false := by
  decide

end CS.Spec

