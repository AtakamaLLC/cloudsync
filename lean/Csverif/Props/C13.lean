import Csverif.Proofs.Path
/-
C13 — path algebra: property theorems over the model `CS.Path` (Model/Path.lean), for all strings.
FALSE as stated (refuted below by a proved `…_counterexample` theorem), replaced by a `…_partial` theorem with an explicit
extra hypothesis: `normalizePath_idem`, `pathsMatch_display_leaf`, `translate_roundtrip`.
`split_join` (`hp`), `isSubpath_join` and `replacePath_join` (`hr`), `translate_inside_some` and `translate_lands_in_root`
(`hF`), `translate_roundtrip_partial` (`hrF`) have a hypothesis their proofs do not use.
-/
namespace CS.Path

/-- The configuration guard of the C13 theorems.  `win_paths` is off: drive-letter joins are covered by the correspondence
    only.  That case folding does not produce the ALTERNATE separator is not part of it: `normalizePath_idem` and
    `pathsMatch_display_leaf` fail for that reason, and their `_partial` versions take it as the extra hypothesis `hla`. -/
structure Cfg.WF (c : Cfg) : Prop where
  alt_ne_sep : ∀ a, c.alt = some a → a ≠ c.sep
  lower_idem : ∀ x, c.lower (c.lower x) = c.lower x
  lower_sep  : ∀ x, c.lower x = c.sep ↔ x = c.sep
  noWin      : c.win = false

def Absolute (c : Cfg) (p : Str) : Prop := ∃ t, normSeps c p = c.sep :: t

def HasName (c : Cfg) (r : Str) : Prop := ∃ x ∈ r, x ≠ c.sep ∧ c.alt ≠ some x

theorem Cfg.WF.ok {c : Cfg} (h : c.WF) : c.Ok := ⟨h.alt_ne_sep, h.lower_idem, h.lower_sep, h.noWin⟩

theorem normSeps_idem (c : Cfg) (h : c.WF) (p : Str) :
    normSeps c (normSeps c p) = normSeps c p := normSeps_idem' h.ok p

/- FALSE AS STATED — omitted.  Full statement:

theorem normalizePath_idem (c : Cfg) (h : c.WF) (p : Str) (fd : Bool) :
    normalizePath c (normalizePath c p fd) fd = normalizePath c p fd

`Cfg.WF` lets case folding map an ordinary character onto the alternate separator.  With `cexCfg` (sep `/`, alt `\`,
case-insensitive, `lower 'B' = '\'`): `normalize_path("B") = "/\"` but `normalize_path("/\") = "/"`
(`normalizePath_idem_counterexample`, proved below).  Repaired by the hypothesis `hla` of `normalizePath_idem_partial`. -/

/-- PARTIAL version of `normalizePath_idem`: extra hypothesis `hla` (on a case-insensitive
    configuration, case folding never maps another character onto the alternate separator; it holds
    for `mkCfg`, see `mkCfg_lower_alt`). -/
theorem normalizePath_idem_partial (c : Cfg) (h : c.WF)
    (hla : c.cs = false → ∀ a, c.alt = some a → ∀ x, c.lower x = a → x = a) (p : Str) (fd : Bool) :
    normalizePath c (normalizePath c p fd) fd = normalizePath c p fd := by
  -- every normal form is `canon` of a list computed from the components `C c p`, and `C_canon` undoes `canon`
  have hl := comps_C' h.ok p
  cases fd with
  | false =>
    have hm := hl.mapFold h.ok hla
    rw [normalizePath_false_form h.ok p, normalizePath_false_form h.ok, C_canon h.ok hm]
    simp only [List.map_map, Function.comp_def, fold_idem h.ok]
  | true =>
    cases hcs : c.cs with
    | true => rw [normalizePath_cs hcs, normalizePath_cs hcs, nrm_eq h.ok p, nrm_eq h.ok, C_canon h.ok hl]
    | false =>
      rw [normalizePath_true_form h.ok hcs (hla hcs) p, normalizePath_true_form h.ok hcs (hla hcs),
        C_canon h.ok (hl.disp h.ok (hla hcs)), dispComps_idem h.ok]

/-- `join(dirname(p), basename(p))` is the same path as `p` (provider.py:511-519 `split`) -/
theorem split_join (c : Cfg) (h : c.WF) (p : Str) (hp : p ≠ []) :
    pathsMatch c (some (join c [dirname c p, basename c p])) (some p) false = true := by
  apply pathsMatch_false_of h.ok
  rw [C_join h.ok]
  simp only [List.flatMap_cons, List.flatMap_nil, List.append_nil, dirname, basename, split_C h.ok]

/-- `join(f, rel)` lies inside an absolute folder `f`: `is_subpath(f, join(f, rel))` answers a relative part, and joining that
    part back under `f` gives the same path -/
theorem isSubpath_join (c : Cfg) (h : c.WF) (f rel : Str) (hf : Absolute c f) (hr : HasName c rel) :
    ∃ r, isSubpath c f (join c [f, rel]) false = .rel r ∧ r ≠ [] ∧ join c [f, r] = join c [f, rel] := by
  refine ⟨c.sep :: relPart c rel, isSubpath_join_gen h.ok f rel hf, by simp, ?_⟩
  rw [join_two h.ok f _ hf, join_two h.ok f rel hf, relPart_sep_cons h.ok]

/-- a prefix sibling is not inside: `is_subpath("/a/b", "/a/bc…")` is `False` for either `strict` (provider.py:576, the
    separator test at `target_full[len(folder_full)]`) -/
theorem isSubpath_prefix_sibling (c : Cfg) (h : c.WF) (f t : Str) (x : Char) (strict : Bool)
    (hf : normSeps c f ≠ []) (hroot : normSeps c f ≠ [c.sep]) (hx : x ≠ c.sep ∧ c.alt ≠ some x) :
    isSubpath c f (normSeps c f ++ x :: t) strict = .no := by
  -- the target's normal form still starts with the folder's followed by `x`; each of the three ways to answer `.rel` then
  -- fails by a length or by the character right after the folder
  have hnt : normSeps c (normSeps c f ++ x :: t) = normSeps c f ++ x :: rstrip c.sep (replaceAlt c t) := by
    rw [normSeps_eq, replaceAlt_append, replaceAlt_of_altFree (normSeps_altFree h.ok f), replaceAlt_cons,
      if_neg hx.2, rstrip_append_of_ne _ _ _ _ hx.1, if_neg]
    intro e
    have := congrArg List.length e
    simp at this
    exact hf (List.length_eq_zero_iff.1 (by omega))
  cases hr : isSubpath c f (normSeps c f ++ x :: t) strict with
  | no => rfl
  | rel r =>
    exfalso
    rcases isSubpath_rel_inv hr with ⟨_, he, _⟩ | ⟨_, he, _, _, _⟩ | ⟨_, u, v, hp, he, _⟩
    · simpa [hnt] using congrArg List.length he
    · exact hroot (fold_eq_sep h.ok he)
    · rw [hnt] at hp
      have hl : u.length = (normSeps c f).length := by simpa using congrArg List.length he
      have := congrArg (·[u.length]?) hp
      simp [hl, hx.1] at this

/-- `replace_path(join(f, rel), f, to)` succeeds and is the same path as `join(to, rel)` (provider.py:593-598; what a folder
    rename does to the paths beneath it) -/
theorem replacePath_join (c : Cfg) (h : c.WF) (f rel to : Str) (hf : Absolute c f) (hr : HasName c rel) :
    ∃ m, replacePath c (join c [f, rel]) f to = .ok m ∧
      pathsMatch c (some m) (some (join c [to, rel])) false = true := by
  -- holds also for a relative part of separators only (`hr` is not used): the answer is then `[sep]` and `m` is `normSeps c to`
  refine ⟨normSeps c to ++ (if relPart c rel = [] then [] else c.sep :: relPart c rel),
    by simp [replacePath, isSubpath_join_gen h.ok f rel hf], pathsMatch_false_of h.ok _ _ ?_⟩
  have e : C c (normSeps c to ++ if relPart c rel = [] then [] else c.sep :: relPart c rel) = C c to ++ C c rel := by
    rw [← C_relPart h.ok rel]
    split
    · simp [*, C_normSeps h.ok]
    · rw [C_append_sep h.ok, C_normSeps h.ok]
  simp [C_join h.ok, e]

theorem pathsMatch_refl (c : Cfg) (a : Option Str) (fd : Bool) : pathsMatch c a a fd = true := by
  cases a <;> simp [pathsMatch]

theorem pathsMatch_symm (c : Cfg) (a b : Option Str) (fd : Bool) :
    pathsMatch c a b fd = pathsMatch c b a fd := by
  cases a <;> cases b <;> simp [pathsMatch, Bool.beq_comm]

theorem pathsMatch_trans (c : Cfg) (a b d : Option Str) (fd : Bool)
    (h1 : pathsMatch c a b fd = true) (h2 : pathsMatch c b d fd = true) : pathsMatch c a d fd = true := by
  cases a <;> cases b <;> cases d <;> simp [pathsMatch] at *
  exact h1.trans h2

theorem pathsMatch_iff_normalize (c : Cfg) (a b : Str) (fd : Bool) :
    pathsMatch c (some a) (some b) fd = true ↔ normalizePath c a fd = normalizePath c b fd := by
  simp [pathsMatch]

/- FALSE AS STATED (first conjunct) — omitted.  Full statement:

/-- case-insensitive providers: the display form differs from the comparison form only by case,
    and keeps the leaf exactly as the case-sensitive normalisation has it -/
theorem pathsMatch_display_leaf (c : Cfg) (h : c.WF) (hcs : c.cs = false) (p : Str) :
    lowerStr c (normalizePath c p true) = normalizePath c p false ∧
    basename c (normalizePath c p true) = basename c (normalizePath { c with cs := true } p false)

Same cause as `normalizePath_idem`: with `cexCfg` and `p = "B/a"` the folded dirname "/\" normalises to "", so the display
form is "/a" and the comparison form "/\/a" (`pathsMatch_display_leaf_counterexample`, proved below).  The first conjunct
is repaired by the same `hla` (`pathsMatch_display_leaf_partial`); the second holds under `Cfg.WF` alone
(`pathsMatch_display_leaf_basename`). -/

/-- the second conjunct of `pathsMatch_display_leaf` needs no extra hypothesis: the display form
    keeps the leaf exactly as the case-sensitive normalisation has it -/
theorem pathsMatch_display_leaf_basename (c : Cfg) (h : c.WF) (hcs : c.cs = false) (p : Str) :
    basename c (normalizePath c p true) = basename c (normalizePath { c with cs := true } p false) := by
  -- no `LowerAltOk` here, unlike `normalizePath_true_form`: only the last component of the display form is looked at
  have hl := comps_C' h.ok p
  rw [nrm_eq_cs, normalizePath_true_def hcs, nrm_eq h.ok, basename_eq, C_join h.ok, basename, dirname, split_canon h.ok hl]
  generalize C c p = l at hl ⊢
  induction l using concat_cases with
  | nil => simp [canon, intercalate, lowerStr, lower_sep_self h.ok, C_sep_cons h.ok]
  | concat init a =>
    have ha := hl.1 a (by simp)
    simp [C_of_altFree (hl.2 a (by simp)), comps_of_not_mem _ _ ha.2 ha.1]

/-- PARTIAL version of `pathsMatch_display_leaf`: extra hypothesis `hla`, as in `normalizePath_idem_partial`. -/
theorem pathsMatch_display_leaf_partial (c : Cfg) (h : c.WF) (hcs : c.cs = false)
    (hla : ∀ a, c.alt = some a → ∀ x, c.lower x = a → x = a) (p : Str) :
    lowerStr c (normalizePath c p true) = normalizePath c p false ∧
    basename c (normalizePath c p true) = basename c (normalizePath { c with cs := true } p false) := by
  constructor
  · rw [normalizePath_true_form h.ok hcs hla p, normalizePath_false_form h.ok p, lowerStr_canon h.ok,
      map_lowerStr_dispComps h.ok, fold_eq_lowerStr hcs]
  · exact pathsMatch_display_leaf_basename c h hcs p

/-- On a case-sensitive provider `normalize_path(p, for_display)` never consults the case map:
    for either flag value the result is the one obtained with ANY other per-character map `g` in
    place of `str.lower` (in particular the identity) and the default flag.  Holds for every
    configuration, drive-letter joins included. -/
theorem case_sensitive_normalize_preserves_case (c : Cfg) (hcs : c.cs = true) (p : Str) (fd : Bool)
    (g : Char → Char) :
    normalizePath c p fd = normalizePath { c with lower := g } p false := by
  rw [normalizePath_cs hcs, normalizePath_cs (c := { c with lower := g }) hcs]
  rfl

/-- …and `normalize_path` ignores `for_display` there -/
theorem case_sensitive_normalize_flag_irrelevant (c : Cfg) (hcs : c.cs = true) (p : Str) :
    normalizePath c p true = normalizePath c p false := by
  rw [normalizePath_cs hcs, normalizePath_cs hcs]

/-- on a case-sensitive provider no character is replaced by its other-case variant -/
theorem case_sensitive_normalize_chars (c : Cfg) (h : c.WF) (hcs : c.cs = true) (p : Str) (fd : Bool) :
    ∀ x ∈ normalizePath c p fd, x = c.sep ∨ x ∈ p := by
  intro x hx
  rw [normalizePath_cs hcs] at hx
  exact mem_nrm h.ok hx

/-- `normalizePath_idem` as stated holds on case-sensitive providers -/
theorem normalizePath_idem_cs (c : Cfg) (h : c.WF) (hcs : c.cs = true) (p : Str) (fd : Bool) :
    normalizePath c (normalizePath c p fd) fd = normalizePath c p fd :=
  normalizePath_idem_partial c h (fun e => by rw [hcs] at e; cases e) p fd

/-- on a case-sensitive provider `paths_match(a, b, for_display=True)` is `paths_match(a, b)` -/
theorem pathsMatch_display_iff_default_cs (c : Cfg) (hcs : c.cs = true) (a b : Option Str) :
    pathsMatch c a b true = pathsMatch c a b false := by
  cases a <;> cases b <;> simp [pathsMatch, case_sensitive_normalize_flag_irrelevant c hcs]

/-- on a case-sensitive provider path equality (either flavour) is never case-folded -/
theorem pathsMatch_cs_exact (c : Cfg) (hcs : c.cs = true) (a b : Str) (fd : Bool) :
    pathsMatch c (some a) (some b) fd = true ↔
      normalizePath { c with lower := id } a false = normalizePath { c with lower := id } b false := by
  rw [pathsMatch_iff_normalize, case_sensitive_normalize_preserves_case c hcs a fd id,
    case_sensitive_normalize_preserves_case c hcs b fd id]

/-- What HEAD does for `for_display=True` on a case-insensitive provider: the folder part of the
    case-sensitive normal form is folded, the leaf is kept exactly. -/
theorem display_folds_folders_keeps_leaf (c : Cfg) (h : c.WF) (hcs : c.cs = false)
    (hla : ∀ a, c.alt = some a → ∀ x, c.lower x = a → x = a) (p : Str) :
    dirname c (normalizePath c p true)
      = lowerStr c (dirname c (normalizePath { c with cs := true } p false)) ∧
    basename c (normalizePath c p true) = basename c (normalizePath { c with cs := true } p false) := by
  refine ⟨?_, pathsMatch_display_leaf_basename c h hcs p⟩
  have hl := comps_C' h.ok p
  rw [nrm_eq_cs, nrm_eq h.ok, normalizePath_true_form h.ok hcs hla p, dirname_canon h.ok hl,
    dirname_canon h.ok (hl.disp h.ok hla), dropLast_dispComps, lowerStr_canon h.ok]

/-- `paths_match(a, b, for_display=True)` on a case-insensitive provider: exactly "folder parts
    equal after folding and leaves equal as they are". -/
theorem pathsMatch_display_iff_ci (c : Cfg) (h : c.WF) (hcs : c.cs = false)
    (hla : ∀ a, c.alt = some a → ∀ x, c.lower x = a → x = a) (a b : Str) :
    pathsMatch c (some a) (some b) true = true ↔
      lowerStr c (dirname c (normalizePath { c with cs := true } a false))
        = lowerStr c (dirname c (normalizePath { c with cs := true } b false)) ∧
      basename c (normalizePath { c with cs := true } a false)
        = basename c (normalizePath { c with cs := true } b false) := by
  rw [pathsMatch_iff_normalize]
  constructor
  · intro e
    have ha := display_folds_folders_keeps_leaf c h hcs hla a
    have hb := display_folds_folders_keeps_leaf c h hcs hla b
    rw [e] at ha
    exact ⟨ha.1.symm.trans hb.1, ha.2.symm.trans hb.2⟩
  · intro ⟨e1, e2⟩
    rw [nrm_eq_cs, nrm_eq_cs] at e1 e2
    rw [normalizePath_true_def hcs, normalizePath_true_def hcs, e1, e2]

/-- `paths_match(normalize_path(p, for_display), p)`: a path and its normal form (either flag) are the same path -/
theorem normalizePath_matches_self (c : Cfg) (h : c.WF)
    (hla : c.cs = false → ∀ a, c.alt = some a → ∀ x, c.lower x = a → x = a) (p : Str) (fd : Bool) :
    pathsMatch c (some (normalizePath c p fd)) (some p) false = true := by
  rw [pathsMatch_iff_normalize]
  cases fd with
  | false => exact normalizePath_idem_partial c h hla p false
  | true =>
    cases hcs : c.cs with
    | true =>
      rw [case_sensitive_normalize_flag_irrelevant c hcs]
      exact normalizePath_idem_partial c h hla p false
    | false =>
      have hl := comps_C' h.ok p
      rw [normalizePath_true_form h.ok hcs (hla hcs) p, normalizePath_false_form h.ok,
        normalizePath_false_form h.ok, C_canon h.ok (hl.disp h.ok (hla hcs))]
      rw [fold_eq_lowerStr hcs, map_lowerStr_dispComps h.ok]

/-- `paths_match(a, b, for_display=True)` implies `paths_match(a, b)`: the display flavour of path equality is the finer one -/
theorem pathsMatch_display_implies_default (c : Cfg) (h : c.WF)
    (hla : c.cs = false → ∀ a, c.alt = some a → ∀ x, c.lower x = a → x = a) (a b : Str)
    (hm : pathsMatch c (some a) (some b) true = true) : pathsMatch c (some a) (some b) false = true := by
  rw [pathsMatch_iff_normalize] at hm ⊢
  rw [← (pathsMatch_iff_normalize ..).1 (normalizePath_matches_self c h hla a true),
    ← (pathsMatch_iff_normalize ..).1 (normalizePath_matches_self c h hla b true), hm]

/-- `join(*paths)` with nested lists/tuples/`None`: only the flattened sequence of strings matters (so every `join` law
    above transfers) -/
theorem joinArgs_strs (c : Cfg) (ps : List Str) : joinArgs c (ps.map JArg.str) = join c ps := by
  rw [joinArgs, flattenArgs_strs]

theorem joinArgs_nested (c : Cfg) (l m r : List JArg) :
    joinArgs c (l ++ JArg.seq m :: r) = joinArgs c (l ++ m ++ r) := by
  simp [joinArgs, flattenArgs_append, flattenArgs, JArg.flatten]

theorem joinArgs_none (c : Cfg) (l r : List JArg) :
    joinArgs c (l ++ JArg.none :: r) = joinArgs c (l ++ r) := by
  simp [joinArgs, flattenArgs_append, flattenArgs, JArg.flatten]

/-- `is_subpath` / `is_subpath_of_root` with `None`: only two strings can be related -/
theorem isSubpathOpt_rel (c : Cfg) (f t : Option Str) (strict : Bool) (h : isSubpathOpt c f t strict ≠ .no) :
    ∃ f' t', f = some f' ∧ t = some t' ∧ isSubpathOpt c f t strict = isSubpath c f' t' strict := by
  cases f <;> cases t <;> simp [isSubpathOpt] at h ⊢

/-- `is_subpath_of_root(target, strict)` is `is_subpath(root_path, target, strict)`, flag included -/
theorem isSubpathOfRoot_eq (c : Cfg) (root target : Option Str) (strict : Bool) :
    isSubpathOfRoot c root target strict = isSubpathOpt c root target strict := rfl

/-- equal (normalised, folded) non-empty paths: the default answer is the separator ("same") -/
theorem isSubpath_same (c : Cfg) (f t : Str) (hf : f ≠ []) (ht : t ≠ [])
    (he : (if c.cs then normSeps c f else lowerStr c (normSeps c f)) =
            (if c.cs then normSeps c t else lowerStr c (normSeps c t))) :
    isSubpath c f t false = .rel [c.sep] := by
  rw [fold_eq, fold_eq] at he
  simp [isSubpath_def, hf, ht, he]

/-- `strict=True` differs from the default only on equal (normalised, folded) paths: there it answers `False` -/
theorem isSubpath_strict (c : Cfg) (f t : Str) :
    isSubpath c f t true =
      if f ≠ [] ∧ t ≠ [] ∧
          (if c.cs then normSeps c f else lowerStr c (normSeps c f)) =
            (if c.cs then normSeps c t else lowerStr c (normSeps c t))
      then .no else isSubpath c f t false := by
  simp only [fold_eq, isSubpath_def]
  by_cases hf : f = []
  · simp [hf]
  by_cases ht : t = []
  · simp [ht]
  by_cases he : fold c (normSeps c f) = fold c (normSeps c t) <;> simp [hf, ht, he]

theorem translate_outside_none (cF cT : Cfg) (rF rT p : Str) (h : isSubpath cF rF p false = .no) :
    translate cF cT rF rT p = none := translate_eq_none.2 h

theorem translate_inside_some (cF cT : Cfg) (hF : cF.WF) (rF rT p : Str)
    (h : isSubpath cF rF p false ≠ .no) : ∃ q, translate cF cT rF rT p = some q :=
  Option.ne_none_iff_exists'.1 (mt translate_eq_none.1 h)

/-- whatever the default `translate` (cs.py:184-209) returns lies inside the root of the side translated to -/
theorem translate_lands_in_root (cF cT : Cfg) (hF : cF.WF) (hT : cT.WF) (rF rT p q : Str)
    (hrT : Absolute cT rT) (h : translate cF cT rF rT p = some q) : isSubpath cT rT q false ≠ .no := by
  obtain ⟨r, _, rfl⟩ := translate_eq_some.1 h
  rw [isSubpath_join_gen hT.ok rT r hrT]
  nofun

/- FALSE AS STATED — omitted.  Full statement:

theorem translate_roundtrip (cF cT : Cfg) (hF : cF.WF) (hT : cT.WF) (rF rT p q : Str)
    (hrF : Absolute cF rF) (hrT : Absolute cT rT) (h : translate cF cT rF rT p = some q) :
    ∃ p', translate cT cF rT rF q = some p' ∧ pathsMatch cF (some p') (some p) false = true

Nothing relates the separators of the two sides.  With `cexF` (sep `/`, no alt) and `cexT` (sep `/`, alt `\`), roots `"/"`:
`"/\"` (a file named `\` in the root) translates to `"/"` and comes back as `"/"`, which does not match `"/\"`
(`translate_roundtrip_counterexample`, proved below).  Configurations with different `sep` fail the same way (e.g. sep `/`
→ sep `\`, roots `"/"`, `"\"`, `p = "/"`).  Repaired by `hsep` and `halt` of `translate_roundtrip_partial`. -/

/-- PARTIAL version of `translate_roundtrip`: extra hypotheses `hsep` (both sides use the same
    separator) and `halt` (the side translated to has no alternate separator, or the same one). -/
theorem translate_roundtrip_partial (cF cT : Cfg) (hF : cF.WF) (hT : cT.WF)
    (hsep : cT.sep = cF.sep) (halt : cT.alt = none ∨ cT.alt = cF.alt) (rF rT p q : Str)
    (hrF : Absolute cF rF) (hrT : Absolute cT rT) (h : translate cF cT rF rT p = some q) :
    ∃ p', translate cT cF rT rF q = some p' ∧ pathsMatch cF (some p') (some p) false = true := by
  obtain ⟨r, hr, rfl⟩ := translate_eq_some.1 h
  obtain ⟨hrA, hrC⟩ := isSubpath_rel_spec hF.ok hr
  have hrAT : AltFree cT r := by
    rcases halt with e | e
    · intro a ha; rw [e] at ha; cases ha
    · exact fun a ha => hrA a (e ▸ ha)
  refine ⟨_, translate_eq_some.2 ⟨_, isSubpath_join_gen hT.ok rT r hrT, rfl⟩, ?_⟩
  apply pathsMatch_false_of hF.ok
  rw [C_join hF.ok, ← hrC]
  simp only [List.flatMap_cons, List.flatMap_nil, List.append_nil, List.map_append]
  -- the relative part, normalised by the other side, has the same components on this side
  have e : comps cF.sep (relPart cT r) = comps cF.sep r := by
    rw [relPart, ← hsep, comps_strip, comps_normSeps, C_of_altFree hrAT]
  have ha : AltFree cF (relPart cT r) := altFree_of_comps hF.ok fun f hf => hrA.mono (mem_comps (e ▸ hf)).2.2
  rw [hsep, C_sep_cons hF.ok, C_of_altFree ha, e]

theorem translate_prefix_sibling_none (cF cT : Cfg) (hF : cF.WF) (rF rT t : Str) (x : Char)
    (hf : normSeps cF rF ≠ []) (hroot : normSeps cF rF ≠ [cF.sep]) (hx : x ≠ cF.sep ∧ cF.alt ≠ some x) :
    translate cF cT rF rT (normSeps cF rF ++ x :: t) = none :=
  translate_outside_none cF cT rF rT _ (isSubpath_prefix_sibling cF hF rF t x false hf hroot hx)

/-- non-vacuity: the mock providers' configuration satisfies the guard -/
theorem mkCfg_WF (cs : Bool) (alt : Bool) : (mkCfg cs false alt).WF where
  alt_ne_sep := (mkCfg_ok cs alt).alt_ne_sep
  lower_idem := (mkCfg_ok cs alt).lower_idem
  lower_sep := (mkCfg_ok cs alt).lower_sep
  noWin := rfl

-- …and a concrete folder / relative part satisfy the hypotheses of the subpath laws
example : Absolute (mkCfg false false) "/Ab".toList ∧ HasName (mkCfg false false) "x/y".toList :=
  ⟨⟨"Ab".toList, by decide⟩, ⟨'x', by decide⟩⟩

/-- non-vacuity of the extra hypothesis `hla` of the `_partial` theorems: the mock providers' case folding has it -/
theorem mkCfg_lower_alt (cs win alt : Bool) :
    ∀ a, (mkCfg cs win alt).alt = some a → ∀ x, (mkCfg cs win alt).lower x = a → x = a :=
  mkCfg_lowerAltOk cs win alt

def cexLower (ch : Char) : Char := if ch = 'B' then '\\' else ch

def cexCfg : Cfg := { sep := '/', alt := some '\\', cs := false, win := false, lower := cexLower }

theorem cexCfg_WF : cexCfg.WF where
  alt_ne_sep := by intro a ha; cases ha; decide
  lower_idem x := by
    simp only [cexCfg, cexLower]
    split <;> simp_all
  lower_sep x := by
    simp only [cexCfg, cexLower]
    split <;> simp_all
  noWin := rfl

/-- `normalizePath_idem` is FALSE as stated: with `cexCfg`, `normalize_path("B") = "/\"` but
    `normalize_path("/\") = "/"`. -/
theorem normalizePath_idem_counterexample :
    ¬ (∀ (c : Cfg) (_ : c.WF) (p : Str) (fd : Bool),
        normalizePath c (normalizePath c p fd) fd = normalizePath c p fd) := by
  intro hall
  have := hall cexCfg cexCfg_WF ['B'] false
  revert this
  decide

/-- `pathsMatch_display_leaf` is FALSE as stated (first conjunct): with `cexCfg` and `p = "B/a"`
    the display form is `"/a"`, the comparison form `"/\/a"`. -/
theorem pathsMatch_display_leaf_counterexample :
    ¬ (∀ (c : Cfg) (_ : c.WF) (_ : c.cs = false) (p : Str),
        lowerStr c (normalizePath c p true) = normalizePath c p false ∧
        basename c (normalizePath c p true) = basename c (normalizePath { c with cs := true } p false)) := by
  intro hall
  have := (hall cexCfg cexCfg_WF rfl ['B', '/', 'a']).1
  revert this
  decide

def cexF : Cfg := { sep := '/', alt := none, cs := true, win := false, lower := id }
def cexT : Cfg := { sep := '/', alt := some '\\', cs := true, win := false, lower := id }

theorem cexF_WF : cexF.WF where
  alt_ne_sep := by intro a ha; simp [cexF] at ha
  lower_idem := fun _ => rfl
  lower_sep := fun _ => Iff.rfl
  noWin := rfl

theorem cexT_WF : cexT.WF where
  alt_ne_sep := by intro a ha; cases ha; decide
  lower_idem := fun _ => rfl
  lower_sep := fun _ => Iff.rfl
  noWin := rfl

/-- `translate_roundtrip` is FALSE as stated: from a side without alternate separator, `"/\"` (a
    file literally named `\` in the root) translates to `"/"` on a side whose alternate separator
    is `\`, and comes back as `"/"`, which does not match `"/\"`. -/
theorem translate_roundtrip_counterexample :
    ¬ (∀ (cF cT : Cfg) (_ : cF.WF) (_ : cT.WF) (rF rT p q : Str)
        (_ : Absolute cF rF) (_ : Absolute cT rT) (_ : translate cF cT rF rT p = some q),
        ∃ p', translate cT cF rT rF q = some p' ∧ pathsMatch cF (some p') (some p) false = true) := by
  intro hall
  obtain ⟨p', h1, h2⟩ := hall cexF cexT cexF_WF cexT_WF ['/'] ['/'] ['/', '\\'] ['/']
    ⟨[], by decide⟩ ⟨[], by decide⟩ (by decide)
  have : p' = ['/'] := by
    have h3 : translate cexT cexF ['/'] ['/'] ['/'] = some ['/'] := by decide
    rw [h3] at h1; cases h1; rfl
  subst this
  revert h2
  decide

/-! `is_subpath(folder, target, strict=True)` being truthy forces the separator-normalised target to be strictly
longer than the folder, for every configuration (no well-formedness guard needed); hence it is irreflexive and
asymmetric.  The engine relies on this when it decides that an object "left the root" (C12): a root can never be
reported as lying strictly inside an object that itself lies strictly inside the root. -/

theorem isSubpath_strict_longer (c : Cfg) (f t : Str)
    (h : (isSubpath c f t true).truthy = true) :
    (normSeps c f).length < (normSeps c t).length := by
  cases hr : isSubpath c f t true with
  | no => simp [hr, SubRes.truthy] at h
  | rel r =>
    rcases isSubpath_rel_inv hr with ⟨hs, _, _⟩ | ⟨hne, he, w, hw, _⟩ | ⟨_, u, v, hp, he, _⟩
    · cases hs
    · have h1 := congrArg List.length he
      have h2 := congrArg List.length hw
      cases w with
      | nil => exact absurd (he.trans hw.symm) hne
      | cons => simp at h1 h2; omega
    · have h1 := congrArg List.length he
      have h2 := congrArg List.length hp
      simp at h1 h2; omega

theorem isSubpath_strict_irrefl (c : Cfg) (f : Str) : (isSubpath c f f true).truthy = false := by
  cases h : (isSubpath c f f true).truthy
  · rfl
  · have := isSubpath_strict_longer c f f h; omega

theorem isSubpath_strict_asymm (c : Cfg) (f t : Str) (h : (isSubpath c f t true).truthy = true) :
    (isSubpath c t f true).truthy = false := by
  cases h' : (isSubpath c t f true).truthy
  · rfl
  · have h1 := isSubpath_strict_longer c f t h
    have h2 := isSubpath_strict_longer c t f h'
    omega

/-- non-vacuity: the hypothesis of `isSubpath_strict_longer/asymm` is met, on a case-sensitive and on a
    case-folding configuration (mixed case and alternate separators in the target) -/
example : (isSubpath (mkCfg true false) "/a".toList "/a/b".toList true).truthy = true := by decide
example : (isSubpath (mkCfg false false) "/Root".toList "\\rOOT\\x".toList true).truthy = true := by decide
end CS.Path
