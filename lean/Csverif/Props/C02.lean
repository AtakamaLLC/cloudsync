import Csverif.Proofs.Spec
/-
C02 — no silent data loss.  `live`/`noLoss` (Model/Spec/Sync.lean) are what the monitor (op `c02`)
evaluates on the user-event history and the final snapshots of a run; `Ledger.check` is the contract
on single engine actions, and `ledger_run_safe` is the universal statement about every engine whose
actions all pass the contract.  The contract half is about the specification alone: no driver layer and no
harness produces `EAct` streams or runs `Ledger.check`; runs are tied to C02 through `noLoss` only.
-/
namespace CS.Spec

/-- a version is user-live iff some user write created it and nothing later killed it -/
theorem mem_live_iff (h : List LEv) (t : Nat) :
    t ∈ live h ↔ ∃ pre k post, h = pre ++ .write t k :: post ∧ ∀ e ∈ post, e.kills ≠ some t := by
  induction h with
  | nil => simp [live]
  | cons e es ih =>
    rw [mem_live_cons, ih]
    constructor
    · rintro (⟨k, rfl, hk⟩ | ⟨pre, k, post, rfl, hp⟩)
      · exact ⟨[], k, es, rfl, hk⟩
      · exact ⟨e :: pre, k, post, rfl, hp⟩
    · rintro ⟨pre, k, post, heq, hp⟩
      cases pre with
      | nil => cases heq; exact Or.inl ⟨k, rfl, hp⟩
      | cons x pre' => cases heq; exact Or.inr ⟨pre', k, post, rfl, hp⟩

/-- a version killed by the last event of the history is not live, unless that event itself writes it -/
theorem not_live_of_killed_last (h : List LEv) (e : LEv) (t : Nat) (hk : e.kills = some t)
    (hw : ∀ k, e ≠ .write t k) : t ∉ live (h ++ [e]) := by
  rw [mem_live_iff]
  rintro ⟨pre, k, post, heq, hp⟩
  rcases List.eq_nil_or_concat post with rfl | ⟨post', e', rfl⟩
  · have := List.append_inj_right' (t₁ := [e]) (t₂ := [LEv.write t k]) (by simpa using heq) rfl
    simp only [List.cons.injEq, and_true] at this
    exact hw k this
  · have : h ++ [e] = (pre ++ LEv.write t k :: post') ++ [e'] := by simpa using heq
    have h2 := List.append_inj_right' this rfl
    simp only [List.cons.injEq, and_true] at h2
    subst h2
    exact hp e (by simp) hk

/-- the quiescence verdict: every user-live version still sits in a file on at least one side -/
theorem noLoss_iff (h : List LEv) (l r : Tree) :
    noLoss h l r = true ↔ ∀ t ∈ live h, t ∈ l.tags ∨ t ∈ r.tags := by
  simp only [noLoss, List.all_eq_true, Bool.or_eq_true, List.contains_iff_mem]

theorem mem_tags_iff (tr : Tree) (t : Nat) : t ∈ tr.tags ↔ ∃ p, (p, Node.file t) ∈ tr := by
  simp only [Tree.tags, List.mem_filterMap]
  constructor
  · rintro ⟨⟨p, n⟩, hm, hn⟩
    cases n with
    | dir => simp at hn
    | file g => simp only [Option.some.injEq] at hn; subst hn; exact ⟨p, hm⟩
  · rintro ⟨p, hm⟩; exact ⟨(p, .file t), hm, rfl⟩

/- FALSE as first stated (kept for the record): without the invariant "an object carries at most one
   version" the contract looks only at the first carrier entry of the object but removes all of them.
theorem ledger_check_safe' (s s' : Ledger) (a : EAct) (hs : s.safe) (hc : s.check a = some s') : s'.safe
-/
/-- counterexample: object 1 is listed with versions 5 and 7, 7 is live; re-copying 5 onto object 1
    is accepted (the first entry already holds 5) and drops the entry holding 7 -/
theorem ledger_check_not_safe_without_WF :
    let s : Ledger := { liveTags := [7], carriers := [(1, 5), (1, 7)] }
    s.safe ∧ ∃ s', s.check (.copy 1 5) = some s' ∧ ¬ s'.safe := by
  refine ⟨by decide, ⟨_, rfl, by decide⟩⟩

/-- one accepted action preserves: every live version has a carrier; the live set; the invariant -/
theorem ledger_check_safe_partial (s s' : Ledger) (a : EAct) (hw : s.WF) (hs : s.safe)
    (hc : s.check a = some s') : s'.safe ∧ s'.liveTags = s.liveTags ∧ s'.WF := by
  obtain ⟨hok, rfl⟩ := (Ledger.check_eq_some_iff s s' a).mp hc
  refine ⟨fun u hu => ?_, rfl, ?_⟩
  · obtain ⟨c, hcm, hcu⟩ := hs u hu
    by_cases hco : c.1 = a.obj
    · -- `c` is the entry the action replaces: the contract names another carrier of `u`
      rcases hok u (by rw [← hco, ← hcu]; exact Assoc.get_of_mem hw hcm) with h | h | h
      · exact ⟨_, List.mem_append_right _ h, rfl⟩
      · exact absurd hu h
      · obtain ⟨c', hc'm, hc'⟩ := List.any_eq_true.mp h
        rw [Bool.and_eq_true, beq_iff_eq] at hc'
        exact ⟨c', List.mem_append_left _ (List.mem_filter.mpr ⟨hc'm, hc'.2⟩), hc'.1⟩
    · exact ⟨c, List.mem_append_left _ (List.mem_filter.mpr ⟨hcm, bne_iff_ne.mpr hco⟩), hcu⟩
  · cases a with
    | copy o t => exact Assoc.nodup_del_snoc hw o t
    | remove o => exact (List.append_nil _).symm ▸ Assoc.nodup_del hw o

/-- the statement in the property's own words, for a ledger satisfying the object invariant -/
theorem ledger_check_safe (s s' : Ledger) (a : EAct) (hw : s.WF) (hs : s.safe)
    (hc : s.check a = some s') : s'.safe :=
  (ledger_check_safe_partial s s' a hw hs hc).1

theorem ledger_check_liveTags (s s' : Ledger) (a : EAct) (hc : s.check a = some s') :
    s'.liveTags = s.liveTags := by
  obtain ⟨_, rfl⟩ := (Ledger.check_eq_some_iff s s' a).mp hc
  rfl

/-- universal safety: an engine all of whose actions pass the contract never leaves a user-live
    version without a carrier — for every action sequence, of any length -/
theorem ledger_run_safe (acts : List EAct) (s s' : Ledger) (hw : s.WF) (hs : s.safe)
    (hr : s.run acts = some s') : s'.safe ∧ s'.liveTags = s.liveTags ∧ s'.WF := by
  induction acts generalizing s with
  | nil => cases hr; exact ⟨hs, rfl, hw⟩
  | cons a as ih =>
    obtain ⟨s1, hc, hr⟩ := Option.bind_eq_some_iff.mp hr
    obtain ⟨h1, h2, h3⟩ := ledger_check_safe_partial s s1 a hw hs hc
    obtain ⟨g1, g2, g3⟩ := ih s1 h3 h1 hr
    exact ⟨g1, g2.trans h2, g3⟩

/-- … and at every intermediate point of the run, not only at its end -/
theorem ledger_run_safe_prefix (pre post : List EAct) (s s' : Ledger) (hw : s.WF) (hs : s.safe)
    (hr : s.run (pre ++ post) = some s') : ∃ s1, s.run pre = some s1 ∧ s1.safe := by
  rw [Ledger.run_append] at hr
  obtain ⟨s1, h1, _⟩ := Option.bind_eq_some_iff.mp hr
  exact ⟨s1, h1, (ledger_run_safe pre s s1 hw hs h1).1⟩

theorem ledger_init_WF (lt : List Nat) : Ledger.WF { liveTags := lt, carriers := [] } := by
  simp [Ledger.WF]

/-- non-vacuity: a concrete safe ledger; moving the live version 7 to a second object and then
    removing the first is accepted; removing its only carrier is rejected; so is overwriting it -/
example :
    let s : Ledger := { liveTags := [7], carriers := [(1, 7), (2, 5)] }
    s.WF ∧ s.safe ∧
    (s.run [.copy 3 7, .remove 1]).isSome = true ∧
    s.check (.remove 1) = none ∧
    s.check (.copy 1 9) = none ∧
    (s.check (.copy 2 9)).isSome = true := by
  decide +kernel

/-- non-vacuity for the quiescence verdict: version 2 replaced version 1 (dead), version 3 is live but
    nowhere → rejected; with a carrier on either side → accepted -/
example :
    live [.write 1 none, .write 2 (some 1), .write 3 none, .write 4 none, .delete (some 4)] = [2, 3] ∧
    noLoss [.write 1 none, .write 2 (some 1), .write 3 none] [(["f"], .file 2)] [(["d"], .dir)] = false ∧
    noLoss [.write 1 none, .write 2 (some 1), .write 3 none] [(["f"], .file 2)] [(["g"], .file 3)] = true := by
  decide +kernel

end CS.Spec
