import Csverif.Proofs.Lock
import Csverif.Proofs.LockId
/-
C15 — thread safety: sync state only touched under its lock; threaded runs are equivalent to a sequential interleaving
of atomic steps.   Model: Model/Lock.lean (threads × one re-entrant lock × shared store).
Static tie: Gen/LockSites.lean (regenerated from the repo by tools/gen_lock_sites.py on every run) — Props/C15Table.lean.
-/
namespace CS.Lock

/-- If every access of every thread is made while that thread holds the lock, then
    every interleaving (every schedule the scheduler can actually run: `run … = some s'`) reaches a final state — the
    whole state: store, every thread's observations (the values it read), remaining code, lock — that is also reached by
    a SERIAL schedule, one in which no step is ever taken by a thread other than the current lock holder (every critical
    section, outermost acquire … matching release, runs without interruption).  The serial schedule is a permutation of
    the given one (every thread takes the same steps).  Proof: Lipton reduction, `decomp_exists`. -/
theorem discipline_implies_serializable (p : Prog) (σ : Loc → Val) (hd : Disciplined p)
    (sched : List Tid) (s' : State) (hr : run (init p σ) sched = some s') :
    ∃ sched', run (init p σ) sched' = some s' ∧ Serial (init p σ) sched' ∧ sched'.Perm sched := by
  obtain ⟨l, hp, hl, hser, _⟩ :=
    decomp_exists (inv_init hd) rfl sched.reverse s' (by rwa [List.reverse_reverse])
  exact ⟨l, hl, hser, List.reverse_reverse sched ▸ hp⟩

/-- the property's last sentence: `discipline_implies_serializable` projected to the store and the observations -/
theorem discipline_implies_serializable_obs (p : Prog) (σ : Loc → Val) (hd : Disciplined p)
    (sched : List Tid) (s' : State) (hr : run (init p σ) sched = some s') :
    ∃ sched' s'', run (init p σ) sched' = some s'' ∧ Serial (init p σ) sched' ∧
      s''.store = s'.store ∧ s''.obs = s'.obs := by
  obtain ⟨sched', h1, h2, _⟩ := discipline_implies_serializable p σ hd sched s' hr
  exact ⟨sched', s', h1, h2, rfl, rfl⟩

/-- in every reachable state of a disciplined program, a thread whose next action is an access holds the lock -/
theorem access_only_by_holder (p : Prog) (σ : Loc → Val) (hd : Disciplined p) (sched : List Tid) (s : State)
    (hr : run (init p σ) sched = some s) (u : Tid) (a : Act) (hn : next s u = some a) (ha : isAccess a = true) :
    s.owner = some u := by
  have hi := inv_run (inv_init hd) hr u
  unfold next at hn
  cases hc : s.code u with
  | nil => simp [hc] at hn
  | cons b rest =>
    simp [hc] at hn
    subst hn
    rw [hc] at hi
    by_cases ho : s.owner = some u
    · exact ho
    · exfalso
      cases b <;> simp [isAccess] at ha <;> simp [held, ho, okFrom] at hi

/-- mutual exclusion: two threads never hold the lock at once -/
theorem no_two_threads_in_section (s : State) (t u : Tid) (ht : 0 < held s t) (hu : 0 < held s u) : t = u := by
  unfold held at ht hu
  split at ht
  · split at hu
    · rename_i h1 h2
      rw [h1] at h2
      exact Option.some.inj h2
    · omega
  · omega

/-- atomicity of a critical section: the store seen inside a critical section changes only by the holder's own writes -/
theorem section_atomic (p : Prog) (σ : Loc → Val) (hd : Disciplined p) (sched : List Tid) (s s' : State)
    (hr : run (init p σ) sched = some s) (t u : Tid) (ho : s.owner = some t) (hut : u ≠ t)
    (hs : step s u = some s') : s'.store = s.store ∧ s'.obs = s.obs ∧ s'.owner = s.owner ∧ s'.depth = s.depth := by
  obtain ⟨h, _⟩ := step_nonholder (inv_run (inv_init hd) hr) ho hut hs
  subst h
  exact ⟨rfl, rfl, rfl, rfl⟩

/-- `serialB`: the executable version used in the witness `racy_not_serializable` -/
theorem serial_iff (l : List Tid) : ∀ s : State, Serial s l ↔ serialB s l = true := by
  induction l with
  | nil => intro s; simp [Serial, serialB]
  | cons t rest ih =>
    intro s
    simp only [Serial, serialB, Bool.and_eq_true, Bool.or_eq_true, beq_iff_eq]
    cases hs : step s t with
    | none => simp
    | some s1 => simp [ih s1]

/-- `firstBad`: the executable version the trace monitor runs (Driver/MonC15.lean) -/
theorem okFrom_iff_firstBad (c : List Act) : ∀ d i : Nat, okFrom d c ↔ firstBad d i c = none := by
  induction c with
  | nil => intro d i; simp [okFrom, firstBad]
  | cons a rest ih =>
    intro d i
    cases a with
    | acquire | release | other => simp only [okFrom, firstBad]; exact ih _ _
    | read _ | write _ _ =>
      by_cases h : d = 0
      · simp [okFrom, firstBad, h]
      · simp [okFrom, firstBad, h, ih d (i + 1)]; omega

/-! The discipline is needed: thread 0 is a locked read-modify-write (like `SyncManager.do`), thread 1 a public method that
forgets the lock. -/

def racy : Prog := fun t =>
  if t = 0 then [.acquire, .read 0, .write 0 (fun obs => obs.headD 0 + 1), .release]
  else if t = 1 then [.write 0 (fun _ => 5)]
  else []

/-- `racy` has 5 actions in all, so a complete run has length 5; a step of a thread other than 0, 1 is not enabled -/
def scheds : Nat → List (List Tid)
  | 0 => [[]]
  | n + 1 => (scheds n).map (0 :: ·) ++ (scheds n).map (1 :: ·)

theorem racy_undisciplined : ¬ Disciplined racy := by
  intro h
  have := h 1
  simp [racy, okFrom] at this

/-- the interleaving 0,0,1,0,0 loses thread 1's update (x = 1), and NO complete serial schedule (length 5 over the two
    threads) ends with x = 1 (the serial outcomes are 5 and 6) -/
theorem racy_not_serializable :
    (run (init racy (fun _ => 0)) [0, 0, 1, 0, 0]).map (fun s => s.store 0) = some 1 ∧
    (scheds 5).all (fun l => !(serialB (init racy (fun _ => 0)) l) ||
        (run (init racy (fun _ => 0)) l).map (fun s => s.store 0) != some 1) = true := by
  decide

/-- hypotheses are satisfiable: a disciplined two-thread program with nested (re-entrant) sections, and an interleaving
    of it that really runs -/
def demo : Prog := fun t =>
  if t = 0 then [.other, .acquire, .read 0, .acquire, .write 0 (fun obs => obs.headD 0 + 1), .release, .release, .other]
  else if t = 1 then [.acquire, .read 0, .write 0 (fun obs => obs.headD 0 + 10), .release]
  else []

example : Disciplined demo := by
  intro t
  unfold demo
  split
  · simp [okFrom]
  · split <;> simp [okFrom]

example : (run (init demo (fun _ => 0)) [0, 1, 1, 1, 1, 0, 0, 0, 0, 0, 0, 0]).map (fun s => s.store 0) = some 11 := by
  decide

end CS.Lock

/-! `discipline_implies_serializable` is about a model with ONE lock.  The code has an attribute `state.lock` that every
`with self.state.lock:` evaluates afresh; the theorem applies to it only if that attribute denotes the same lock object for
the whole life of the state.  Model/LockId.lean has lock OBJECTS and a `rebind` action; the theorem below is the serializability
theorem for that model, and it takes the stability of the lock identity as a named hypothesis, which is discharged from the
generated table of binding sites (Props/C15Table.lean: `lock_identity_stable`, `engine_serializable`). -/

namespace CS.LockId
open CS.Lock (Tid Loc Val Disciplined)

/-- serializability in the lock-object model, under LOCK-IDENTITY STABILITY (no thread re-binds `state.lock`) -/
theorem serializable_of_stable_identity (p : MProg) (σ : Loc → Val)
    (hstable : LockIdentityStable p) (hd : Disciplined (toProg p))
    (sched : List Tid) (s' : MState) (hr : mrun (minit p σ) sched = some s') :
    ∃ sched' s'', mrun (minit p σ) sched' = some s'' ∧ MSerial (minit p σ) sched' ∧
      s''.store = s'.store ∧ s''.obs = s'.obs := by
  have hi := minv_init (σ := σ) hstable
  obtain ⟨sched1, h1⟩ := run_fwd sched _ _ hi hr
  rw [proj_init] at h1
  obtain ⟨sched', h2, hser, _⟩ := CS.Lock.discipline_implies_serializable (toProg p) σ hd sched1 (proj s') h1
  rw [← proj_init] at h2 hser
  obtain ⟨s'', hm, hp, hms⟩ := run_bwd sched' _ _ hi h2 hser
  exact ⟨sched', s'', hm, hms, congrArg CS.Lock.State.store hp, congrArg CS.Lock.State.obs hp⟩

/-- **the property's theorem with its hidden assumption made explicit.**  `bs` are the binding sites of the lock attribute found
    in the source; `hsrc`: the only one is the constructor's (Props/C15Table.lean `lock_identity_stable`, by `decide` over the
    generated table); `habs`: the program abstracts that source (a `rebind` action stands for a binding site outside the
    constructor); `hd`: every access is made inside `acquire … release`. -/
theorem discipline_implies_serializable_stable_lock (bs : List BindingSite) (p : MProg) (σ : Loc → Val)
    (hsrc : ConstructorOnly bs = true) (habs : RespectsBindings bs p) (hd : Disciplined (toProg p))
    (sched : List Tid) (s' : MState) (hr : mrun (minit p σ) sched = some s') :
    ∃ sched' s'', mrun (minit p σ) sched' = some s'' ∧ MSerial (minit p σ) sched' ∧
      s''.store = s'.store ∧ s''.obs = s'.obs :=
  serializable_of_stable_identity p σ (habs hsrc) hd sched s' hr

/-! The hypothesis is needed: a `forget()` that re-creates the lock while the event thread is queued on it. -/

theorem rebindDemo_disciplined : Disciplined (toProg rebindDemo) := by
  intro t
  unfold toProg rebindDemo
  split
  · simp [toAct, CS.Lock.okFrom]
  · split
    · simp [toAct, CS.Lock.okFrom]
    · split <;> simp [toAct, CS.Lock.okFrom]

theorem rebindDemo_unstable : ¬ LockIdentityStable rebindDemo := by
  intro h
  have := h 0 .rebind (by simp [rebindDemo])
  simp [isRebind] at this

/-- On the schedule "application takes the lock; event thread queues on it; application re-binds and releases; event
    thread enters; sync thread enters" the event thread owns only the ORPHANED object 0 while the sync thread owns the current
    object 1 — two threads are inside their critical sections at once — and the run ends with the sync thread's update LOST
    (x = 1; both serial orders give 11). -/
theorem rebind_breaks_exclusion :
    (mrun (minit rebindDemo (fun _ => 0)) rebindSchedPrefix).map (fun s => (s.cur, s.owner 0, s.owner 1)) =
        some (1, some 1, some 2) ∧
    (mrun (minit rebindDemo (fun _ => 0)) rebindSched).map (fun s => s.store 0) = some 1 := by
  decide

end CS.LockId
