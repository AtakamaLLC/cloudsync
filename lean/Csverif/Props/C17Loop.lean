import Csverif.Model.SchedLoop
import Csverif.Props.C17
import Mathlib.Data.Rat.Floor
/-
C17, the loop — "an entry that was deferred becomes eligible again after a bounded delay, so a
persistently failing entry cannot starve the others", for the whole sync loop.
Model: Model/SchedLoop.lean (`Runnable.run` around `SyncManager.do` over an abstract work queue).
All statements are for scripts (what `_sync_one_entry` does, how long it takes) of ANY length.
`iter_raised_gap` is the backoff of C18, driven by the sync loop.
-/
namespace CS.SchedLoop
open CS.Sched

structure Cfg.Sane (c : Cfg) : Prop where
  age : 0 ≤ c.age
  sleep : 0 ≤ c.sleep

theorem sleepFor_nonneg (sleep b : Rat) (h : 0 ≤ sleep) : 0 ≤ Runnable.sleepFor sleep b := by
  unfold Runnable.sleepFor
  split
  · rename_i hb; exact le_of_lt hb
  · exact h

theorem iter_now_mono (c : Cfg) (hc : c.Sane) (L : Loop) (w : Step) (hd : 0 ≤ w.dur) :
    L.now ≤ (iter c L w).1.now := by
  unfold iter
  split
  · exact le_add_of_le_of_nonneg (le_add_of_nonneg_right hc.age) (sleepFor_nonneg _ _ hc.sleep)
  · exact le_add_of_le_of_nonneg (le_add_of_nonneg_right hd) (sleepFor_nonneg _ _ hc.sleep)

theorem iter_snd (c : Cfg) (L : Loop) (w : Step) : (iter c L w).2 = change L.P L.now c.age := by
  unfold iter
  split <;> rename_i h <;> exact h.symm

theorem iter_attempt (c : Cfg) (L : Loop) (w : Step) (e : Entry) (h : (iter c L w).2 = some e) :
    change L.P L.now c.age = some e := (iter_snd c L w).symm.trans h

/-- every attempt — first or repeated — is on a pending entry that is eligible at the clock of that
    iteration: some side's (possibly punt-shifted) stamp is at least `age` old, or the priority is negative -/
theorem loop_attempt_eligible (c : Cfg) (ws : List Step) (L : Loop) :
    ∀ r ∈ (run c L ws).2, ∀ e, r.ent = some e → eligible e r.at_ c.age = true := by
  induction ws generalizing L with
  | nil => simp [run]
  | cons w ws ih =>
    intro r hr e he
    simp only [run] at hr
    rcases List.mem_cons.1 hr with rfl | hr
    · exact (change_returns_eligible _ _ _ e (iter_attempt c L w e he)).2
    · exact ih _ r hr e he

/-- an attempt that raised: the entry is punted, the backoff incremented, and the next iteration starts after that backoff -/
theorem iter_raised (c : Cfg) (L : Loop) (w : Step) (e : Entry) (h : (iter c L w).2 = some e)
    (hw : w.work = .raised) :
    (iter c L w).1.P = puntIn c.punt L.P e.id ∧
    (iter c L w).1.backoff = Runnable.incr c.bp L.backoff ∧
    (iter c L w).1.now = L.now + w.dur + Runnable.sleepFor c.sleep (Runnable.incr c.bp L.backoff) := by
  have hc := iter_attempt c L w e h
  unfold iter
  simp only [hc, hw, Work.apply, Work.outcome, Runnable.after, and_self]

theorem iter_raised_gap (c : Cfg) (L : Loop) (w : Step) (e : Entry) (h : (iter c L w).2 = some e)
    (hw : w.work = .raised) (hd : 0 ≤ w.dur) (hmn : 0 < c.bp.mn) (hmx : 0 < c.bp.mx) :
    L.now + min c.bp.mx c.bp.mn ≤ (iter c L w).1.now := by
  rw [(iter_raised c L w e h hw).2.2]
  have hpos : 0 < Runnable.incr c.bp L.backoff := by
    unfold Runnable.incr
    exact lt_min hmx (lt_of_lt_of_le hmn (le_max_right _ _))
  have hge : min c.bp.mx c.bp.mn ≤ Runnable.incr c.bp L.backoff := by
    unfold Runnable.incr
    exact min_le_min (le_refl _) (le_max_right _ _)
  have : Runnable.sleepFor c.sleep (Runnable.incr c.bp L.backoff) = Runnable.incr c.bp L.backoff := by
    unfold Runnable.sleepFor; simp [hpos]
  rw [this]; linarith

theorem ratFloor_eq (q : ℚ) : Rat.floor q = ⌊q⌋ := rfl

theorem weight_pos (y z : Entry) (hid : z.id ≠ y.id) (hle : z.priority ≤ y.priority) : 0 < weight y z := by
  simp only [weight, hid, if_false, hle, if_true, ratFloor_eq]; omega

/-- one punt of a priority `b ≤ a` takes exactly one unit off `⌊a - b⌋ + 1` -/
theorem floor_punt (a b : ℚ) (hle : b ≤ a) :
    (if b + 1 ≤ a then ⌊a - (b + 1)⌋.toNat + 1 else 0) + 1 = ⌊a - b⌋.toNat + 1 := by
  have hnn : 0 ≤ a - b := sub_nonneg.2 hle
  split
  · rename_i h1
    have h2 : ⌊a - (b + 1)⌋ = ⌊a - b⌋ - 1 := by rw [← Int.floor_sub_one, sub_add_eq_sub_sub]
    have h1' : 0 ≤ ⌊a - (b + 1)⌋ := Int.floor_nonneg.2 (sub_nonneg.2 h1)
    rw [h2] at h1' ⊢
    omega
  · rename_i h1
    rw [Int.floor_eq_zero_iff.2 ⟨hnn, sub_lt_iff_lt_add'.2 (not_le.1 h1)⟩]; rfl

theorem weight_punt (p : Rat × Rat) (y z : Entry) (hid : z.id ≠ y.id) (hle : z.priority ≤ y.priority) :
    weight y (puntE p z) + 1 = weight y z := by
  have hid' : (puntE p z).id ≠ y.id := by rw [puntE_id]; exact hid
  simp only [weight, hid, hid', if_false, hle, if_true, puntE_priority, ratFloor_eq]
  exact floor_punt _ _ hle

theorem weight_punt_le (p : Rat × Rat) (y z : Entry) : weight y (puntE p z) ≤ weight y z := by
  by_cases hid : z.id = y.id
  · have : (puntE p z).id = y.id := by rw [puntE_id]; exact hid
    simp [weight, hid, this]
  · by_cases hle : z.priority ≤ y.priority
    · have := weight_punt p y z hid hle; omega
    · have hid' : (puntE p z).id ≠ y.id := by rw [puntE_id]; exact hid
      have hle' : ¬ (puntE p z).priority ≤ y.priority := by rw [puntE_priority]; push Not at hle ⊢; linarith
      simp [weight, hid, hid', hle, hle']

theorem sum_filterMap {α : Type} (g : α → Nat) (f : α → Option α) (P : List α) (h : ∀ x ∈ P, (f x).elim 0 g ≤ g x) :
    ((P.filterMap f).map g).sum ≤ (P.map g).sum ∧
    ((∃ x ∈ P, (f x).elim 0 g < g x) → ((P.filterMap f).map g).sum < (P.map g).sum) := by
  induction P with
  | nil => exact ⟨le_refl _, fun ⟨_, hx, _⟩ => nomatch hx⟩
  | cons a l ih =>
    obtain ⟨ih1, ih2⟩ := ih (fun x hx => h x (List.mem_cons_of_mem _ hx))
    have ha := h a List.mem_cons_self
    have hs : ((List.filterMap f (a :: l)).map g).sum = (f a).elim 0 g + ((l.filterMap f).map g).sum := by
      rw [List.filterMap_cons]
      cases f a with
      | none => exact (Nat.zero_add _).symm
      | some b => rfl
    rw [hs, List.map_cons, List.sum_cons]
    refine ⟨Nat.add_le_add ha ih1, fun ⟨x, hx, hlt⟩ => ?_⟩
    rcases List.mem_cons.1 hx with rfl | hx
    · exact Nat.add_lt_add_of_lt_of_le hlt ih1
    · exact Nat.add_lt_add_of_le_of_lt ha (ih2 ⟨x, hx, hlt⟩)

/-- while `y` waits eligible, whatever is attempted instead is at least as urgent as `y`, so it has positive weight, and
    dropping or punting it lowers the potential -/
theorem iter_progress (c : Cfg) (L : Loop) (w : Step) (y e : Entry)
    (hy : y ∈ L.P) (hel : eligible y L.now c.age = true)
    (ha : (iter c L w).2 = some e) (hne : e.id ≠ y.id) :
    y ∈ (iter c L w).1.P ∧ potential y (iter c L w).1.P ≤ potential y L.P ∧
    (w.work.progress = true → potential y (iter c L w).1.P < potential y L.P) := by
  have hc := iter_attempt c L w e ha
  have heP := (change_returns_eligible _ _ _ e hc).1
  have hle : e.priority ≤ y.priority := change_priority_le hc hy hel
  have hwpos := weight_pos y e hne hle
  have hP : (iter c L w).1.P = w.work.apply c.punt L.P e.id := by
    unfold iter; simp only [hc]
  have hyid : (y.id == e.id) = false := by simp [Ne.symm hne]
  -- the two kinds of rewriting: the attempted entry is dropped, or punted
  have hdrop : y ∈ dropIn L.P e.id ∧ potential y (dropIn L.P e.id) < potential y L.P := by
    refine ⟨List.mem_filter.2 ⟨hy, by simp [Ne.symm hne]⟩, ?_⟩
    rw [potential, dropIn, ← List.filterMap_eq_filter]
    refine (sum_filterMap (weight y) _ L.P fun x _ => ?_).2 ⟨e, heP, by simpa [Option.guard] using hwpos⟩
    rw [Option.guard]; split <;> simp
  have hpunt : y ∈ puntIn c.punt L.P e.id ∧ potential y (puntIn c.punt L.P e.id) < potential y L.P := by
    refine ⟨List.mem_map.2 ⟨y, hy, by simp [hyid]⟩, ?_⟩
    have key := (sum_filterMap (weight y) (some ∘ fun x => if x.id == e.id then puntE c.punt x else x) L.P fun x _ => ?_).2
      ⟨e, heP, ?_⟩
    · rwa [List.filterMap_eq_map] at key
    · show weight y (if x.id == e.id then puntE c.punt x else x) ≤ _
      split
      · exact weight_punt_le c.punt y x
      · exact le_refl _
    · have := weight_punt c.punt y e hne hle
      show weight y (if e.id == e.id then puntE c.punt e else e) < _
      rw [if_pos (beq_self_eq_true _)]; omega
  rw [hP]
  cases hw : w.work with
  | finished => exact ⟨hdrop.1, le_of_lt hdrop.2, fun _ => hdrop.2⟩
  | punted => exact ⟨hpunt.1, le_of_lt hpunt.2, fun _ => hpunt.2⟩
  | requeue => exact ⟨hy, le_refl _, fun h => absurd h (by simp [Work.progress])⟩
  | raised => exact ⟨hpunt.1, le_of_lt hpunt.2, fun _ => hpunt.2⟩
  | stuck => exact ⟨hy, le_refl _, fun h => absurd h (by simp [Work.progress])⟩

theorem iter_some_of_eligible (c : Cfg) (L : Loop) (w : Step) (y : Entry)
    (hy : y ∈ L.P) (hel : eligible y L.now c.age = true) : (iter c L w).2 ≠ none := by
  rw [iter_snd]; exact change_ne_none hy hel

/-- **no starvation, for the whole loop and scripts of any length.**  `y` is in the queue and eligible.
    As long as `y` itself is not attempted: every iteration attempts some entry (the loop never idles past `y`), and the
    number of iterations that make progress (`Work.progress`: neither a pure requeue nor a failure that leaves the entry as
    it was) is bounded by `potential y P`: the number of punts/completions it takes for the entries that are at least as
    urgent as `y` to get out of its way — fixed at the start, however often and in whatever way the other entries fail. -/
theorem loop_no_starvation (c : Cfg) (hc : c.Sane) (y : Entry) (ws : List Step) (L : Loop)
    (hy : y ∈ L.P) (hel : eligible y L.now c.age = true) (hd : ∀ w ∈ ws, 0 ≤ w.dur)
    (hnot : ∀ r ∈ (run c L ws).2, ∀ e, r.ent = some e → e.id ≠ y.id) :
    (∀ r ∈ (run c L ws).2, r.ent ≠ none) ∧
    (ws.filter (fun w => w.work.progress)).length ≤ potential y L.P := by
  induction ws generalizing L with
  | nil => simp [run]
  | cons w ws ih =>
    simp only [run] at hnot ⊢
    have hsome := iter_some_of_eligible c L w y hy hel
    obtain ⟨e, he⟩ := Option.ne_none_iff_exists'.1 hsome
    have hne : e.id ≠ y.id := hnot _ List.mem_cons_self e he
    obtain ⟨hy1, hle, hlt⟩ := iter_progress c L w y e hy hel he hne
    have hmono := iter_now_mono c hc L w (hd w List.mem_cons_self)
    have hel1 := eligible_mono y _ _ c.age hel hmono
    obtain ⟨ih1, ih2⟩ := ih (iter c L w).1 hy1 hel1 (fun w' hw' => hd w' (List.mem_cons_of_mem _ hw'))
      (fun r hr => hnot r (List.mem_cons_of_mem _ hr))
    refine ⟨?_, ?_⟩
    · intro r hr
      rcases List.mem_cons.1 hr with rfl | hr
      · exact hsome
      · exact ih1 r hr
    · simp only [List.filter_cons]
      cases hp : w.work.progress with
      | false => simp only [Bool.false_eq_true, if_false]; omega
      | true =>
        have := hlt hp
        simp only [if_true, List.length_cons]; omega

/-- contrapositive of `loop_no_starvation` -/
theorem loop_attempts_within (c : Cfg) (hc : c.Sane) (y : Entry) (ws : List Step) (L : Loop)
    (hy : y ∈ L.P) (hel : eligible y L.now c.age = true) (hd : ∀ w ∈ ws, 0 ≤ w.dur)
    (hmany : potential y L.P < (ws.filter (fun w => w.work.progress)).length) :
    ∃ r ∈ (run c L ws).2, ∃ e, r.ent = some e ∧ e.id = y.id := by
  by_contra hcon
  push Not at hcon
  have := (loop_no_starvation c hc y ws L hy hel hd (fun r hr e he => hcon r hr e he)).2
  omega

/-- with `potential_le_length`: among equal priorities every other entry is attempted at most once before `y` -/
theorem weight_le_one_of_eq (y z : Entry) (h : z.priority = y.priority) : weight y z ≤ 1 := by
  simp only [weight]
  split
  · omega
  · simp [h, ratFloor_eq]

theorem potential_le_length (y : Entry) (P : List Entry) (h : ∀ z ∈ P, z.priority = y.priority) :
    potential y P ≤ P.length := by
  induction P with
  | nil => simp [potential]
  | cons a l ih =>
    have ha := weight_le_one_of_eq y a (h a List.mem_cons_self)
    have := ih (fun z hz => h z (List.mem_cons_of_mem _ hz))
    simp only [potential, List.map_cons, List.sum_cons, List.length_cons] at *
    omega

/-- the hypotheses are satisfiable, and the bound is met: two entries of equal priority, the older one
    fails on every attempt; the other is attempted at the second iteration -/
example :
    let c : Cfg := { age := 1, sleep := 1/8, punt := (1/4, 1/4), bp := ⟨1/4, 8, 2⟩ }
    let x : Entry := { id := 0, l := { changed := some 1000, oid := some "a" } }
    let y : Entry := { id := 1, l := { changed := some 1001, oid := some "b" } }
    let L : Loop := { P := [x, y], now := 1010, backoff := 0 }
    c.Sane ∧ eligible y L.now c.age = true ∧ potential y L.P = 1 ∧
    ((run c L [⟨.raised, 0⟩, ⟨.raised, 0⟩, ⟨.raised, 0⟩]).2.map (fun r => r.ent.map (·.id))) = [some 0, some 1, some 0] := by
  refine ⟨⟨by decide +kernel, by decide +kernel⟩, by decide +kernel, by decide +kernel, by decide +kernel⟩

end CS.SchedLoop
