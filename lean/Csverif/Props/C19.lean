import Csverif.Proofs.HCache.RefineAll
/-
C19 — the hierarchical path/id cache stays coherent under any operation sequence.
Model: Model/HCache.lean (heap of nodes + separate id map, branch by branch from
cloudsync/hierarchical_cache.py).  Helper lemmas: Proofs/HCache/*.lean.

`Coherent` (Proofs/HCache/Tree.lean, described there) is the invariant.

Status of the design's statements
* proved as stated: `coherent_initial`, `coherent_tree`, `coherent_acyclic`, `no_id_held_twice`,
  `id_map_exact`, `get_path_get_oid_inverse`, `get_oid_get_path_inverse`, `delete_preserves` (every
  `delete`, no guard), `delete_terminates`, `delete_forgets_descendants`, `replace_forgets_descendants`,
  `rename_moves_subtree`, `weak_refs_alive`, `no_budget_exhaustion`.
* `every operation preserves Coherent` is FALSE of the code as it is (witnesses at the end of the
  file); proved under the explicit guard `opSafe` (= `OpGuard`, `opSafe_iff`) as
  `coherent_step_partial`, `coherent_run_from`, `coherent_run_partial` (induction over the operation
  sequence, no bound on its length), for *all* public operations (mkdir, create, delete, rename,
  set_oid, update) and both case modes.  The guard only excludes caller misuse: the target path of an
  id-assigning operation / of a rename is not the root, and the id being assigned is not the root's
  own id.  Its complement is refuted by two kernel-checked witnesses (`…_witness`, `…_incoherent`),
  each replayed on the real code on every run (known findings).
* repaired (fix `evict before resolving the parent` in `__insert_node` / `_set_oid`): on the code before
  the fix an id held by an ancestor of the target leaves an unreachable node in the id map; with the fix
  the two sequences are inside the guard and instances of the theorem (`insert_under_ancestor_repaired`,
  `set_oid_ancestor_repaired`); their replays are `fixed:` entries re-checked on every run.
* refinement to the plain dictionary specification `path ↦ (type, id?)` (Model/HDict.lean), for *every*
  public operation: `hcache_refines_dict_step`, `hcache_refines_dict_from`, `hcache_refines_dict`,
  `lookups_agree_with_dictionary` (get_oid / get_type / get_path / listdir-as-a-set), under the guard
  plus `opOidOk` (ids given to mkdir/create/update are None or truthy).
-/
namespace CS.HCache
open CS.Path CS.HDict

/-- the initial cache (`HierarchicalCache.__init__` with a truthy root id) is coherent -/
theorem coherent_initial (c : Cfg) (r : Oid) (hr : r ≠ 0) : Coherent c (init r) := coherent_init c r hr

/-- the reachable part is a tree: every reachable node is reached along exactly one key path … -/
theorem coherent_tree {c : Cfg} {s : HC} (hc : Coherent c s) {q1 q2 : List Str} {n : Nat}
    (h1 : res s q1 = some n) (h2 : res s q2 = some n) : q1 = q2 := hc.res_inj h1 h2

/-- … and there are no cycles: following the parent links from any reachable node ends at the root
    (`full_path()` succeeds, without running out of recursion budget, and is the canonical path of
    the node's keys); a resolving key path is shorter than the heap -/
theorem coherent_acyclic {c : Cfg} (g : CfgGood c) {s : HC} (hc : Coherent c s) {ks : List Str} {n : Nat}
    (h : res s ks = some n) : fullPath c s n = .ok (some (canon c.sep ks)) ∧ ks.length < s.heap.length :=
  ⟨hc.fullPath g h, hc.depth_lt h⟩

theorem no_id_held_twice {c : Cfg} {s : HC} (hc : Coherent c s) {n m : Nat} {o : Oid} (hn : Reach s n) (hm : Reach s m)
    (h1 : (s.nd n).oid = some o) (h2 : (s.nd m).oid = some o) (ho : o ≠ 0) : n = m :=
  hc.oid_unique hn hm h1 h2 ho

/-- the id map `_oid_to_node` contains exactly the reachable nodes that have a (truthy) id, each under its own id -/
theorem id_map_exact {c : Cfg} {s : HC} (hc : Coherent c s) (o : Oid) (n : Nat) :
    dget s.idmap o = some n ↔ (Reach s n ∧ (s.nd n).oid = some o ∧ o ≠ 0) := hc.dget_idmap

/-- the strong-index model of the weak parent reference is exact in coherent caches: every node
    reachable from the root or the id map has a reachable parent (so its parent object is alive) -/
theorem weak_refs_alive {c : Cfg} {s : HC} (hc : Coherent c s) {n : Nat}
    (h : Reach s n ∨ ∃ o, dget s.idmap o = some n) :
    n = 0 ∨ ∃ p, (s.nd n).parent = some p ∧ Reach s p := by
  have hr : Reach s n := h.elim id (fun ⟨o, ho⟩ => (hc.dget_idmap.1 ho).1)
  obtain ⟨q, hq⟩ := hr
  rcases snoc_cases q with rfl | ⟨i, k, rfl⟩
  · left; simpa using hq.symm
  · obtain ⟨p, hp, _, l⟩ := hc.link_snoc hq
    exact Or.inr ⟨p, l.parent, ⟨i, hp⟩⟩

/-- every cached id resolves to a path that resolves back to the same id -/
theorem get_path_get_oid_inverse {c : Cfg} (g : CfgGood c) {s : HC} (hc : Coherent c s) {o : Oid} {n : Nat}
    (h : dget s.idmap o = some n) :
    ∃ p, getPath c s o = .ok (some p) ∧ getOid c s p = .ok (some o) := by
  obtain ⟨⟨ks, hks⟩, ho, _⟩ := hc.dget_idmap.1 h
  refine ⟨canon c.sep ks, ?_, ?_⟩
  · simp only [getPath, h]; exact hc.fullPath g hks
  · simp only [getOid, getNode_canon g s (hc.ksOk hks), hks, ho]

/-- every path holding a (truthy) id is the path that id resolves to -/
theorem get_oid_get_path_inverse {c : Cfg} (g : CfgGood c) {s : HC} (hc : Coherent c s) {p : Str} {o : Oid}
    (h : getOid c s p = .ok (some o)) (h0 : o ≠ 0) : getPath c s o = .ok (some (normalizePath c p false)) := by
  simp only [getOid, getNode_path g] at h
  cases hr : res s (tcomps c p) with
  | none => rw [hr] at h; simp at h
  | some n =>
    rw [hr] at h
    simp only [Except.ok.injEq] at h
    have := hc.dget_idmap.2 ⟨⟨_, hr⟩, h, h0⟩
    simp only [getPath, this, normalizePath_tcomps g]
    exact hc.fullPath g hr

/-- `delete` (by id or by path, any target, the root included) preserves coherence: no guard -/
theorem delete_preserves {c : Cfg} (g : CfgGood c) {s : HC} (hc : Coherent c s) (oid : Option Oid) (path : Option Str) :
    Coherent c (step c s (.delete oid path)).1 := (delete_spec g s oid path hc).post.coh

/- FULL STATEMENT (false of the code as it is, see the witnesses at the end of this file):
   theorem coherent_step (g : CfgGood c) (hc : Coherent c s) (op : Op) : Coherent c (step c s op).1 -/

/-- every public operation preserves coherence whenever the (executable) guard holds in the
    pre-state: target path ≠ root, id being assigned ≠ the root's id -/
theorem coherent_step_partial {c : Cfg} (g : CfgGood c) {s : HC} (hc : Coherent c s) (op : Op)
    (hg : opSafe c s op = true) : Coherent c (step c s op).1 :=
  (step_safe g hc op ((opSafe_iff g s op).1 hg)).1

/-- an operation sequence every operation of which satisfies the guard `opSafe` in the state it runs in -/
def Guarded (c : Cfg) : HC → List Op → Prop
  | _, [] => True
  | s, op :: ops => opSafe c s op = true ∧ Guarded c (step c s op).1 ops

def Guarded.dec (c : Cfg) : (s : HC) → (ops : List Op) → Decidable (Guarded c s ops)
  | _, [] => isTrue trivial
  | s, op :: ops => by
    unfold Guarded
    exact @instDecidableAnd _ _ _ (Guarded.dec c _ ops)

instance (c : Cfg) (s : HC) (ops : List Op) : Decidable (Guarded c s ops) := Guarded.dec c s ops

/-- coherence after every guarded operation sequence, from any coherent state (induction on the sequence) -/
theorem coherent_run_from {c : Cfg} (g : CfgGood c) : ∀ (ops : List Op) (s : HC), Coherent c s → Guarded c s ops →
    Coherent c (run c s ops) := by
  intro ops
  induction ops with
  | nil => intro s hc _; exact hc
  | cons op ops ih =>
    intro s hc hg
    exact ih _ (coherent_step_partial g hc op hg.1) hg.2

/-- **the cache is coherent after every guarded operation sequence of any length** -/
theorem coherent_run_partial {c : Cfg} (g : CfgGood c) (r : Oid) (hr : r ≠ 0) (ops : List Op)
    (hg : Guarded c (init r) ops) : Coherent c (run c (init r) ops) :=
  coherent_run_from g ops _ (coherent_initial c r hr) hg

/-- After a successful `delete` whose target is the non-root node at `kx`: the cache is coherent, no
    path at or below `kx` resolves any more, every id that was held at or below `kx` is forgotten
    (`get_path` answers None, lookups by that id find nothing), and everything else is untouched. -/
theorem delete_forgets_descendants {c : Cfg} (g : CfgGood c) {s : HC} (hc : Coherent c s) {kx : List Str} {x : Nat}
    (hx : res s kx = some x) (hne : kx ≠ []) (oid : Option Oid) (path : Option Str)
    (hlook : getNode c s oid path = .ok (some x)) (hok : (delete c oid path s).2 = .ok ()) :
    Coherent c (delete c oid path s).1 ∧
    (∀ q, kx <+: q → res (delete c oid path s).1 q = none) ∧
    (∀ q, ¬ kx <+: q → res (delete c oid path s).1 q = res s q) ∧
    (∀ q m o, kx <+: q → res s q = some m → (s.nd m).oid = some o → o ≠ 0 →
      getPath c (delete c oid path s).1 o = .ok none ∧ getNode c (delete c oid path s).1 (some o) none = .ok none) := by
  have hs := delete_spec g s oid path hc
  have dp := hs.post
  have hgone' := (hs.gone hlook hx (hc.ne_zero hx hne)).1
  refine ⟨dp.coh, hgone', hs.out hlook hx, fun q m o hq hm ho h0 => ?_⟩
  have hnone : dget (delete c oid path s).1.idmap o = none := dp.forgets hc hm ho h0 (hgone' q hq)
  refine ⟨by simp only [getPath, hnone], ?_⟩
  have hroot : some o ≠ (delete c oid path s).1.rootOid := by
    intro e
    have hr0 : ((delete c oid path s).1.nd 0).oid = (s.nd 0).oid := (dp.fields 0).2.1
    simp only [HC.rootOid, hr0] at e
    have := hc.oid_unique (Reach.root s) ⟨q, hm⟩ e.symm ho h0
    subst this
    have hq0 := hc.res_root hm
    subst hq0
    exact hne (List.prefix_nil.1 hq)
  simp only [getNode, hroot, if_false, hnone]

/-- **replacing a folder forgets all its descendants' ids**: `set_oid(path, o, …)` on a node that
    already has another id replaces the node (hierarchical_cache.py:437); the replacement holds the
    new id, keeps the type, has no children, and every id that was held below `path` is forgotten
    (unless it is the new id itself, which now belongs to the replacement) -/
theorem replace_forgets_descendants {c : Cfg} (g : CfgGood c) {s : HC} (hc : Coherent c s) (p : Str) (o o1 : Oid)
    (t : OType) {n : Nat} (hn : res s (tcomps c p) = some n) (ho1 : (s.nd n).oid = some o1) (hne : o1 ≠ o) (h0 : o ≠ 0)
    (hg : opSafe c s (.setOid p (some o) t) = true) (hok : (setOid c p (some o) t s).2 = .ok ()) :
    Coherent c (setOid c p (some o) t s).1 ∧
    getOid c (setOid c p (some o) t s).1 p = .ok (some o) ∧
    (∀ r, r ≠ [] → res (setOid c p (some o) t s).1 (tcomps c p ++ r) = none) ∧
    (∀ r m om, r ≠ [] → res s (tcomps c p ++ r) = some m → (s.nd m).oid = some om → om ≠ 0 → om ≠ o →
      getPath c (setOid c p (some o) t s).1 om = .ok none) := by
  have hg' : InsGuard c s p (some o) := (opSafe_iff g s (.setOid p (some o) t)).1 hg
  obtain ⟨a1, a2, a4, a5⟩ := setOid_replace g hc p o o1 t hn ho1 hne h0 hg'
  obtain ⟨i, hi, he⟩ := view_eq_some a2
  refine ⟨a1, ?_, fun r hr => view_eq_none.1 (a4 r hr), fun r m om hr hm hom hom0 homo => ?_⟩
  · simp only [getOid, getNode_path g, hi, show (_ : Node).oid = some o from congrArg Prod.snd he]
  · simp only [getPath, a5 r m om hr hm hom hom0 homo]

/-- termination of the recursive `delete`: in a coherent cache it always returns normally (the model's
    recursion budget, heap size + 1, is never exhausted), for every target -/
theorem delete_terminates {c : Cfg} (g : CfgGood c) {s : HC} (hc : Coherent c s) (oid : Option Oid) (path : Option Str)
    (harg : oid.isSome ∨ path.isSome) : (delete c oid path s).2 = .ok () := delete_total g hc oid path harg

/-- the model's recursion budgets (an artefact of writing Python's recursion as total functions) are
    never exhausted by a guarded operation on a coherent cache: no operation ends in the model-only
    outcome `fuel`; together with `coherent_acyclic` (no `RecursionError` from `full_path`) the
    bounded recursions of the model coincide with Python's unbounded ones -/
theorem no_budget_exhaustion {c : Cfg} (g : CfgGood c) {s : HC} (hc : Coherent c s) (op : Op)
    (hg : opSafe c s op = true) : (step c s op).2 ≠ .error .fuel :=
  (step_safe g hc op ((opSafe_iff g s op).1 hg)).2

/-- After a successful `rename(old, new)` of the non-root node at `old` to a non-root `new`: the cache
    is coherent; whatever resolved at `old ++ r` now resolves at `new ++ r` (the node itself and every
    descendant); no moved node changed its id; and `get_path` of every moved id answers the new path. -/
theorem rename_moves_subtree {c : Cfg} (g : CfgGood c) {s : HC} (hc : Coherent c s) (old new : Str)
    (hg : tcomps c new ≠ []) {n : Nat} (hn : res s (tcomps c old) = some n) (hn0 : n ≠ 0)
    (hok : (rename c old new s).2 = .ok ()) :
    Coherent c (rename c old new s).1 ∧
    (∀ r, res (rename c old new s).1 (tcomps c new ++ r) = res s (tcomps c old ++ r)) ∧
    (∀ r m, res s (tcomps c old ++ r) = some m → ((rename c old new s).1.nd m).oid = (s.nd m).oid) ∧
    (∀ r m o, res s (tcomps c old ++ r) = some m → (s.nd m).oid = some o → o ≠ 0 →
      getPath c (rename c old new s).1 o = .ok (some (canon c.sep (tcomps c new ++ r)))) := by
  obtain ⟨hcoh, _, h⟩ := rename_spec g hc old new hg
  simp only [hn, if_neg hn0] at h
  obtain ⟨a1, a2, a3⟩ := h.1 hok
  have hmove : ∀ r, res (rename c old new s).1 (tcomps c new ++ r) = res s (tcomps c old ++ r) := by
    intro r
    unfold res
    rw [resFrom_append, resFrom_append]
    have h1 : resFrom (rename c old new s).1 0 (tcomps c new) = some n := a1
    have h2 : resFrom s 0 (tcomps c old) = some n := hn
    rw [h1, h2]
    exact a2 r
  have hsubm : ∀ r m, res s (tcomps c old ++ r) = some m → InSub s n m := by
    intro r m hm
    obtain ⟨x, hx, hr⟩ := res_prefix hm
    rw [hn] at hx; cases hx
    exact ⟨r, hr⟩
  refine ⟨hcoh, hmove, fun r m hm => a3 m (hsubm r m hm), fun r m o hm ho h0 => ?_⟩
  have hm' : res (rename c old new s).1 (tcomps c new ++ r) = some m := by rw [hmove]; exact hm
  have ho' : ((rename c old new s).1.nd m).oid = some o := by rw [a3 m (hsubm r m hm)]; exact ho
  have := hcoh.dget_idmap.2 ⟨⟨_, hm'⟩, ho', h0⟩
  simp only [getPath, this]
  exact hcoh.fullPath g hm'

/-- both mock-provider configurations satisfy the configuration guard -/
theorem mock_cfg_good (cs : Bool) : CfgGood (mkCfg cs false) := mkCfg_good cs

/-! Refinement to the plain dictionary specification (Model/HDict.lean).
`Abs s d` : the dictionary `d` answers every key path as the cache does (`dlook d = view s`, where
`view s q` is the `(type, id?)` of the node reachable from the root along the keys `q`).
The guard of the refinement is the guard of the coherence theorem plus: ids passed to
mkdir/create/update are None or truthy (`opOidOk`; `set_oid` asserts it, the empty-string id is the one
value the cache itself treats inconsistently). -/

/-- **one step**: a guarded operation on a coherent cache has the specified outcome (ok, or the
    ValueError / AssertionError of the argument checks) and re-establishes the abstraction relation -/
theorem hcache_refines_dict_step {c : Cfg} (g : CfgGood c) {s : HC} {d : D} (hc : Coherent c s) (habs : Abs s d)
    (hnf : NoFalsyV (view s)) (op : Op) (hg : opSafe c s op = true) (ho : opOidOk op = true) :
    ResAgree (step c s op).2 (specStep c d op).2 ∧ Abs (step c s op).1 (specStep c d op).1 ∧
      Coherent c (step c s op).1 ∧ NoFalsyV (view (step c s op).1) :=
  refine_step g hc habs hnf op ((opSafe_iff g s op).1 hg) ((opOidOk_iff op).1 ho)

/-- a sequence every operation of which satisfies both guards (`opSafe`, `opOidOk`) in the state it runs in -/
def GuardedR (c : Cfg) : HC → List Op → Prop
  | _, [] => True
  | s, op :: ops => opSafe c s op = true ∧ opOidOk op = true ∧ GuardedR c (step c s op).1 ops

def GuardedR.dec (c : Cfg) : (s : HC) → (ops : List Op) → Decidable (GuardedR c s ops)
  | _, [] => isTrue trivial
  | s, op :: ops => by
    unfold GuardedR
    exact @instDecidableAnd _ _ _ (@instDecidableAnd _ _ _ (GuardedR.dec c _ ops))

instance (c : Cfg) (s : HC) (ops : List Op) : Decidable (GuardedR c s ops) := GuardedR.dec c s ops

/-- the outcomes of the operations of a run, on the cache (`runResults`) and on the dictionary (`specResults`) -/
def runResults (c : Cfg) : HC → List Op → List (Except Err Unit)
  | _, [] => []
  | s, op :: ops => (step c s op).2 :: runResults c (step c s op).1 ops

def specResults (c : Cfg) : D → List Op → List SRes
  | _, [] => []
  | d, op :: ops => (specStep c d op).2 :: specResults c (specStep c d op).1 ops

def AllAgree : List (Except Err Unit) → List SRes → Prop
  | [], [] => True
  | r :: rs, x :: xs => ResAgree r x ∧ AllAgree rs xs
  | _, _ => False

/-- the refinement from any coherent cache that a dictionary abstracts and that holds no falsy id: coherence, the
    abstraction and the agreement of all outcomes after every doubly guarded sequence (induction on the sequence) -/
theorem hcache_refines_dict_from {c : Cfg} (g : CfgGood c) : ∀ (ops : List Op) (s : HC) (d : D),
    Coherent c s → Abs s d → NoFalsyV (view s) → GuardedR c s ops →
    Coherent c (run c s ops) ∧ Abs (run c s ops) (specRun c d ops) ∧ NoFalsyV (view (run c s ops)) ∧
      AllAgree (runResults c s ops) (specResults c d ops) := by
  intro ops
  induction ops with
  | nil => intro s d hc ha hn _; exact ⟨hc, ha, hn, trivial⟩
  | cons op ops ih =>
    intro s d hc ha hn hg
    obtain ⟨r1, r2, r3, r4⟩ := hcache_refines_dict_step g hc ha hn op hg.1 hg.2.1
    obtain ⟨a1, a2, a3, a4⟩ := ih _ _ r3 r2 r4 hg.2.2
    exact ⟨a1, a2, a3, r1, a4⟩

/-- after every guarded operation sequence (any length) the cache is abstracted
    by the dictionary obtained by running the specification on the same sequence, and every operation
    had the specified outcome -/
theorem hcache_refines_dict {c : Cfg} (g : CfgGood c) (r : Oid) (hr : r ≠ 0) (ops : List Op)
    (hg : GuardedR c (init r) ops) :
    Abs (run c (init r) ops) (specRun c (HDict.init r) ops) ∧
      AllAgree (runResults c (init r) ops) (specResults c (HDict.init r) ops) := by
  obtain ⟨_, a2, _, a4⟩ := hcache_refines_dict_from g ops _ _ (coherent_initial c r hr) (abs_init r) (noFalsy_init r hr) hg
  exact ⟨a2, a4⟩

/-- **lookups agree with a plain dictionary model of what was inserted and not since invalidated** (the last
    clause of the property): `get_oid`, `get_type`, `get_path` and `listdir` (as a set) of the cache after a
    guarded sequence are those of the dictionary specification run on the same sequence -/
theorem lookups_agree_with_dictionary {c : Cfg} (g : CfgGood c) (r : Oid) (hr : r ≠ 0) (ops : List Op)
    (hg : GuardedR c (init r) ops) :
    (∀ p, getOid c (run c (init r) ops) p = .ok (getOidD c (specRun c (HDict.init r) ops) p)) ∧
    (∀ p, getType c (run c (init r) ops) none (some p) = .ok (getTypeD c (specRun c (HDict.init r) ops) p)) ∧
    (∀ o, getPath c (run c (init r) ops) o = .ok ((getPathD (specRun c (HDict.init r) ops) o).map (canon c.sep))) ∧
    (∀ p, ∃ l, listdir c (run c (init r) ops) none (some p) = .ok l ∧
      ∀ a, a ∈ l ↔ hasChildD (specRun c (HDict.init r) ops) (pcomps c p) a = true) := by
  obtain ⟨hc, ha, hn, _⟩ := hcache_refines_dict_from g ops _ _ (coherent_initial c r hr) (abs_init r) (noFalsy_init r hr) hg
  exact ⟨fun p => getOid_refines g ha p, fun p => getType_refines g ha p, fun o => getPath_refines g hc ha hn o,
    fun p => listdir_refines g hc ha p⟩

/-! The guard's complement: kernel-checked witnesses (replayed on the real code on every run).
Each witness runs the model on a concrete sequence from the initial cache (root id 9, case-sensitive
mock configuration), shows that the last operation violates the guard, and that the resulting cache
is not coherent because of an observable breach: a cached id whose `get_path` is None, resp. a cached
id whose path does not resolve back to it. -/

def c0 : Cfg := mkCfg true false

theorem c0_good : CfgGood c0 := mkCfg_good true

def isOkNone {α} : Except Err (Option α) → Bool
  | .ok none => true
  | _ => false

def isOkSome {α} : Except Err (Option α) → Bool
  | .ok (some _) => true
  | _ => false

/-- an id other than the root's whose type `get_type` knows is in the id map -/
theorem cached_of_get_type {c : Cfg} {s : HC} {o : Oid} (h : isOkSome (getType c s (some o) none) = true)
    (hroot : some o ≠ s.rootOid) : ∃ n, dget s.idmap o = some n := by
  simp only [getType, getNode, hroot, if_false] at h
  cases hd : dget s.idmap o with
  | none => rw [hd] at h; simp [isOkSome] at h
  | some n => exact ⟨n, rfl⟩

/-- in a coherent cache `get_path` of a cached id is never None -/
theorem get_path_of_cached_id {c : Cfg} (g : CfgGood c) {s : HC} (hc : Coherent c s) (o : Oid)
    (h : isOkSome (getType c s (some o) none) = true) (hroot : some o ≠ s.rootOid) : isOkNone (getPath c s o) = false := by
  obtain ⟨n, hd⟩ := cached_of_get_type h hroot
  obtain ⟨p, hp, _⟩ := get_path_get_oid_inverse g hc hd
  rw [hp]; rfl

def okEq (a : Except Err (Option Str)) (b : Str) : Bool :=
  match a with
  | .ok (some x) => x == b
  | _ => false

def okOid (a : Except Err (Option Oid)) (b : Oid) : Bool :=
  match a with
  | .ok (some x) => x == b
  | _ => false

def w_insert_under_ancestor : List Op :=
  [.mkdir "/a".toList (some 1), .mkdir "/a/b".toList (some 2), .create "/a/b/a".toList (some 1)]

/-- `mkdir('/a','1'); mkdir('/a/b','2'); create('/a/b/a','1')` (the id is held by the ancestor `/a`):
    on the code before the repair the id map keeps an unreachable node; on the repaired code the sequence is
    inside the guard, the result is coherent, and id 1 resolves to the new file and back -/
theorem insert_under_ancestor_repaired :
    Coherent c0 (run c0 (init 9) w_insert_under_ancestor) ∧
    okEq (getPath c0 (run c0 (init 9) w_insert_under_ancestor) 1) "/a/b/a".toList = true ∧
    okOid (getOid c0 (run c0 (init 9) w_insert_under_ancestor) "/a/b/a".toList) 1 = true := by
  -- one evaluation of the run for the guard and both lookups
  have h : Guarded c0 (init 9) w_insert_under_ancestor ∧
      okEq (getPath c0 (run c0 (init 9) w_insert_under_ancestor) 1) "/a/b/a".toList = true ∧
      okOid (getOid c0 (run c0 (init 9) w_insert_under_ancestor) "/a/b/a".toList) 1 = true := by decide +kernel
  exact ⟨coherent_run_partial c0_good 9 (by decide) _ h.1, h.2⟩

def w_set_oid_ancestor : List Op :=
  [.mkdir "/a".toList (some 1), .mkdir "/a/b".toList none, .setOid "/a/b".toList (some 1) .dir]

/-- `mkdir('/a','1'); mkdir('/a/b',None); set_oid('/a/b','1',DIRECTORY)`: repaired likewise -/
theorem set_oid_ancestor_repaired :
    Coherent c0 (run c0 (init 9) w_set_oid_ancestor) ∧
    okEq (getPath c0 (run c0 (init 9) w_set_oid_ancestor) 1) "/a/b".toList = true ∧
    okOid (getOid c0 (run c0 (init 9) w_set_oid_ancestor) "/a/b".toList) 1 = true := by
  have h : Guarded c0 (init 9) w_set_oid_ancestor ∧
      okEq (getPath c0 (run c0 (init 9) w_set_oid_ancestor) 1) "/a/b".toList = true ∧
      okOid (getOid c0 (run c0 (init 9) w_set_oid_ancestor) "/a/b".toList) 1 = true := by decide +kernel
  exact ⟨coherent_run_partial c0_good 9 (by decide) _ h.1, h.2⟩

def w_root_id : List Op :=
  [.mkdir "/a".toList (some 1), .create "/a/b".toList (some 9)]

theorem okOid_ok {a : Except Err (Option Oid)} {b : Oid} (h : okOid a b = true) : a = .ok (some b) := by
  cases a with
  | error e => simp [okOid] at h
  | ok v =>
    cases v with
    | none => simp [okOid] at h
    | some x => simp only [okOid, beq_iff_eq] at h; rw [h]

theorem okEq_ok {a : Except Err (Option Str)} {b : Str} (h : okEq a b = true) : a = .ok (some b) := by
  cases a with
  | error e => simp [okEq] at h
  | ok v =>
    cases v with
    | none => simp [okEq] at h
    | some x => simp only [okEq, beq_iff_eq] at h; rw [h]

/-- `mkdir('/a','1'); create('/a/b', <root id>)`: the operation is outside the guard; it empties the
    cache, re-creates `/a`, links the new node and then fails (the eviction of "the previous owner" of
    the root's id recurses through the root for ever: RecursionError), leaving two reachable nodes
    with the root's id: `get_oid('/a/b')` is the root's id, while `get_path(root id)` is '/' -/
theorem root_id_reused_witness :
    opSafe c0 (run c0 (init 9) (w_root_id.take 1)) (.create "/a/b".toList (some 9)) = false ∧
    okOid (getOid c0 (run c0 (init 9) w_root_id) "/a/b".toList) 9 = true ∧
    okEq (getPath c0 (run c0 (init 9) w_root_id) 9) "/".toList = true := by
  decide +kernel

/-- the cache after that sequence is not coherent: `get_oid` and `get_path` are not inverse on the root's id -/
theorem root_id_reused_incoherent : ¬ Coherent c0 (run c0 (init 9) w_root_id) := by
  intro hc
  have h1 := okOid_ok root_id_reused_witness.2.1
  have h2 := okEq_ok root_id_reused_witness.2.2
  have h3 := get_oid_get_path_inverse c0_good hc h1 (by decide)
  rw [h2] at h3
  have : ("/".toList : Str) = normalizePath c0 "/a/b".toList false := by
    simpa using h3
  exact absurd this (by decide +kernel)

def w_root_path : List Op :=
  [.mkdir "/a".toList (some 1), .create "/".toList (some 2)]

/-- `mkdir('/a','1'); create('/','2')`: the cache is emptied and a child named '' appears under the
    root: `get_path(2)` is '/', but `get_oid('/')` is the root's id -/
theorem root_path_target_witness :
    opSafe c0 (run c0 (init 9) (w_root_path.take 1)) (.create "/".toList (some 2)) = false ∧
    okEq (getPath c0 (run c0 (init 9) w_root_path) 2) "/".toList = true ∧
    okOid (getOid c0 (run c0 (init 9) w_root_path) "/".toList) 9 = true ∧
    isOkNone (getOid c0 (run c0 (init 9) w_root_path) "/a".toList) = true := by
  decide +kernel

/-- the cache after that sequence is not coherent: the path `get_path(2)` answers does not resolve back to the id 2 -/
theorem root_path_target_incoherent : ¬ Coherent c0 (run c0 (init 9) w_root_path) := by
  intro hc
  obtain ⟨h2, hroot⟩ : isOkSome (getType c0 (run c0 (init 9) w_root_path) (some 2) none) = true ∧
      some 2 ≠ (run c0 (init 9) w_root_path).rootOid := by decide +kernel
  obtain ⟨n, hd⟩ := cached_of_get_type h2 hroot
  obtain ⟨p, hp, hback⟩ := get_path_get_oid_inverse c0_good hc hd
  have hw := root_path_target_witness
  rw [hp] at hw
  have hpe : p = "/".toList := by
    have := hw.2.1
    simp only [okEq, beq_iff_eq] at this
    exact this
  subst hpe
  rw [hback] at hw
  have := hw.2.2.1
  simp [okOid] at this

/-- non-vacuity: a guarded sequence (with auto-created parents, a type change, an id move and a
    rename of a folder with a child) whose guard holds at every step, on both mock configurations;
    the theorem then gives coherence of the result -/
def exampleOps : List Op :=
  [.mkdir "/a/b".toList (some 1), .create "/a/b/A".toList (some 2), .update "/a".toList .dir (some 3),
   .setOid "/b".toList (some 2) .file, .rename "/a/b".toList "/A/b".toList, .delete (some 3) none]

theorem GuardedR.guarded {c : Cfg} : ∀ {ops : List Op} {s : HC}, GuardedR c s ops → Guarded c s ops
  | [], _, _ => trivial
  | _ :: _, _, h => ⟨h.1, h.2.2.guarded⟩

theorem exampleOps_guarded :
    GuardedR (mkCfg true false) (init 9) exampleOps ∧ GuardedR (mkCfg false false) (init 9) exampleOps := by
  decide +kernel

example : Guarded (mkCfg true false) (init 9) exampleOps ∧ Guarded (mkCfg false false) (init 9) exampleOps :=
  exampleOps_guarded.imp GuardedR.guarded GuardedR.guarded

example : Coherent (mkCfg false false) (run (mkCfg false false) (init 9) exampleOps) :=
  coherent_run_partial (mkCfg_good false) 9 (by decide) exampleOps exampleOps_guarded.2.guarded

example : GuardedR (mkCfg true false) (init 9) exampleOps ∧ GuardedR (mkCfg false false) (init 9) exampleOps :=
  exampleOps_guarded

end CS.HCache
