import Csverif.Gen.ExcTable
/-
C10 — the tie between the source and the audited tables of Model/Spec/Faults.lean.
`Gen/ExcTable.lean` is regenerated from the source tree by tools/gen_exc_table.py on every run of the check; this
module is rebuilt then (it is deliberately NOT imported by Csverif.lean: a change of the source must break only this
obligation, not the build of the library).  If the class hierarchy of exceptions.py, the isinstance chain of
`notify_from_exception`, an except clause (its classes, their order) or a handler body (notify / punt / commit /
backoff / cursor reset / need_walk / need_auth, in order) of `_sync_one_entry`, `_validate_provider_roots`,
`EventManager.do` or `Runnable.run` changes, the kernel evaluation fails here and the check searches for a failing input.
-/
namespace CS.Faults
open CS.Gen

theorem gen_table_eq_audited :
    ExcTable.hierarchy = auditedHierarchy ∧
    ExcTable.notifyChain = auditedNotifyChain ∧ ExcTable.notifyElseNotifies = false ∧
    ExcTable.syncHandlers = auditedSyncHandlers ∧ ExcTable.syncSuccessCommits = true ∧
    ExcTable.rootsHandlers = auditedRootsHandlers ∧
    ExcTable.eventHandlers = auditedEventHandlers ∧
    ExcTable.loopHandlers = auditedLoopHandlers ∧
    ExcTable.changeGuarded = auditedChangeGuarded ∧
    ExcTable.unmapped = 0 := ⟨rfl, rfl, rfl, rfl, rfl, rfl, rfl, rfl, rfl, rfl⟩

end CS.Faults
