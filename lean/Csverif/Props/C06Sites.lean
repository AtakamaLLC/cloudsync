import Csverif.Gen.IntakeOrder
/-
C06 - the tie between the source and the write ORDER the durable-coverage theorems assume (Props/C06Durable.lean).
`Gen/IntakeOrder.lean` is regenerated from cloudsync/event.py by tools/gen_intake_order.py on every run of the check; this module
is deliberately NOT imported by Csverif.lean (a change of the source must break only this obligation).  If `storage_commit`, the
marker write, the cursor write, `state.update` or the loops of `do`, `_do_unsafe`, `_do_first_init`, `_do_walk_if_needed`,
`_process_event`, `_save_current_cursor`, `_forget_walk` are added, removed or reordered, the kernel evaluation fails here and the check
searches for a failing input (fault-after-walk family, write-order traces).
-/
namespace CS.IntakeSites
open CS.Gen

def audited : List (String × List String) := [
  ("do", ["unsafe", "forget_walk", "save_cursor"]),
  ("_do_unsafe", ["first_init", "walk", "for[", "process_event", "]", "events", "for[", "process_event", "]", "save_cursor"]),
  ("_do_first_init", ["forget_walk", "cursor"]),
  ("_do_walk_if_needed", ["walk_oid", "for[", "process_event", "]", "marker"]),
  ("_process_event", ["update", "commit"]),
  ("_save_current_cursor", ["cursor"]),
  ("_forget_walk", ["delete_tag"])]

theorem gen_order_eq_audited : IntakeOrder.sites = audited := rfl

def body (t : List (String × List String)) (f : String) : List String :=
  match t.find? (·.1 == f) with
  | some x => x.2
  | none => []

/-- inline the intake step's own functions, to a bounded depth (4 below: `do` → `_do_unsafe` → `_do_walk_if_needed` → `_process_event`
    is the longest chain of calls in the table) -/
def expand (t : List (String × List String)) : Nat → List String → List String
  | 0, l => l
  | n+1, l => l.flatMap (fun tok =>
      match tok with
      | "process_event" => expand t n (body t "_process_event")
      | "first_init" => expand t n (body t "_do_first_init")
      | "walk" => expand t n (body t "_do_walk_if_needed")
      | "save_cursor" => expand t n (body t "_save_current_cursor")
      | "forget_walk" => expand t n (body t "_forget_walk")
      | "unsafe" => expand t n (body t "_do_unsafe")
      | x => [x])

/-- the discipline on a flattened statement order: after an `update` nothing persistent (marker, cursor) is written, and no loop
    iteration ends, before a `commit` -/
def orderOk : Bool → List String → Bool
  | _, [] => true
  | dirty, tok :: rest =>
    match tok with
    | "update" => orderOk true rest
    | "commit" => orderOk false rest
    | "marker" => !dirty && orderOk dirty rest
    | "cursor" => !dirty && orderOk dirty rest
    | "]" => !dirty && orderOk dirty rest
    | _ => orderOk dirty rest

/-- checked on the generated table itself: in `do()` as it is, every `state.update` is written back before the walk marker, before
    the cursor and before the next loop iteration -/
theorem gen_commit_before_marker_and_cursor :
    orderOk false (expand IntakeOrder.sites 4 (body IntakeOrder.sites "do")) = true := by decide

/-- … and the walk marker is written after the walk loop, the cursor after the event loop (positions in the flattened order) -/
theorem gen_flat_order :
    expand IntakeOrder.sites 4 (body IntakeOrder.sites "_do_unsafe") =
      ["delete_tag", "cursor", "walk_oid", "for[", "update", "commit", "]", "marker", "for[", "update", "commit", "]",
       "events", "for[", "update", "commit", "]", "cursor"] := by decide

/-- non-vacuity: the batch-commit order is refused by the same check -/
example : orderOk false ["walk_oid", "for[", "update", "]", "marker", "events", "for[", "update", "]", "commit", "cursor"] = false := by
  decide

end CS.IntakeSites
