import Csverif.Proofs.Codec
import Csverif.Proofs.PersistInv
/-
C08 — persisted sync state equals in-memory state and round-trips unchanged.
Model: Model/Codec.lean (`CS.Codec`: the msgpack value level and the entry codec; `CS.Persist`: hooks, dirty set,
storage_commit, loader).
-/
namespace CS.Codec

theorem enum_tables_inverse :
    (∀ e : Exists, Exists.ofValue e.value = some e) ∧
    (∀ e : Ignore, Ignore.ofValue e.value = some e) ∧
    (∀ e : OType, OType.ofValue e.value = some e) ∧
    (∀ (s : String) (e : Exists), Exists.ofValue s = some e → e.value = s) ∧
    (∀ (s : String) (e : Ignore), Ignore.ofValue s = some e → e.value = s) ∧
    (∀ (s : String) (e : OType), OType.ofValue s = some e → e.value = s) := by
  refine ⟨Exists.ofValue_value, Ignore.ofValue_value, OType.ofValue_value, ?_, ?_, ?_⟩ <;>
    exact fun s e h => by simpa using List.find?_some h

/-- the value tables are injective (no two members share a string) -/
theorem enum_values_distinct :
    (Exists.all.map Exists.value).Nodup ∧ (Ignore.all.map Ignore.value).Nodup ∧ (OType.all.map OType.value).Nodup := by
  decide +kernel

/-- no current ignore reason is spelled like the legacy reason `'trashed'` -/
theorem legacy_reason_is_free : Ignore.ofValue "trashed" = none := by decide +kernel

/-- what an entry looks like after `serialize`, msgpack, `SyncEntry(parent, None, (sid, row))` -/
def Entry.reloaded (e : Entry) (sid : Nat) : Entry :=
  { s0 := e.s0.normed, s1 := e.s1.normed, ignored := e.ignored, priority := 0, storageId := some sid }

/-- msgpack-representable: `dumps` accepts the dict (all integers in the 64 bit range); `loads`
    (with `strict_map_key=False`) then accepts whatever `dumps` wrote -/
def Entry.Rep (e : Entry) : Prop := dumpsOk e.serialize = true

/-- `_set_mtime` only ever stores None or a number (state.py:100) -/
def Entry.MtimeOk (e : Entry) : Prop := e.s0.mtime.isNumOrNone = true ∧ e.s1.mtime.isNumOrNone = true

instance (e : Entry) : Decidable e.Rep := by unfold Entry.Rep; infer_instance
instance (e : Entry) : Decidable e.MtimeOk := by unfold Entry.MtimeOk; infer_instance

def Side.vals (s : Side) : List Val :=
  [s.side, s.hash, s.changed, s.syncHash, s.path, s.syncPath, s.oid, s.tempFile, s.size, s.mtime]

theorem Side.dumpsOk_serialize (s : Side) : dumpsOk s.serialize = true ↔ ∀ v ∈ s.vals, dumpsOk v = true := by
  cases hs : s.savedExists <;>
  simp only [Side.serialize, hs, dumpsOk, dumpsOkKvs, Key.dumpsOk, Side.vals, List.forall_mem_cons, List.not_mem_nil,
    Bool.and_eq_true, true_and, and_true, false_imp_iff, implies_true]

theorem Entry.rep_iff (e : Entry) :
    e.Rep ↔ (∀ v ∈ e.s0.vals ++ e.s1.vals, dumpsOk v = true) ∧ intOk e.priority = true := by
  simp only [Entry.Rep, Entry.serialize, dumpsOk, dumpsOkKvs, Key.dumpsOk, Bool.and_eq_true, Side.dumpsOk_serialize,
    List.forall_mem_append, true_and, and_true, and_assoc]

/-- the row is `norm` of the dict, and it loads back to the reloaded image (the dict itself is only needed to be
    representable for the row to exist) -/
theorem roundtrip_row (e : Entry) (sid : Nat) (hrep : e.Rep) (hm : e.MtimeOk) :
    e.row = .ok (norm e.serialize) ∧ Entry.deserialize sid (norm e.serialize) = .ok (e.reloaded sid) := by
  constructor
  · have hd : dumpsOk e.serialize = true := hrep
    simp [Entry.row, dumps, hd]
  · simp only [Entry.deserialize, loads, norm_idem]
    obtain ⟨s0, s1, ig, pr, st⟩ := e
    have h0 := Side.deserialize_serialize s0 0 hm.1
    have h1 := Side.deserialize_serialize s1 1 hm.2
    simp only [Entry.serialize, norm, normKvs, Entry.deserializeVal, Val.getItem, Val.getD, lookupKey, decodeIgnored]
    simp [h0, h1, bind, Except.bind, pure, Except.pure, Val.truthy, Ignore.value_ne_empty, Ignore.value_ne_trashed,
      Ignore.ofVal, Ignore.ofValue_value, Entry.reloaded]

/-- **Round trip.**  For every entry whose field values are msgpack-representable: the row `serialize`
    produces loads back, under any storage id, to an entry with the same types, paths, ids, hashes,
    sync markers, existence (including the corrupt marker and the saved existence), ignore reason,
    change stamps, sizes and mtimes — each value up to `norm` (Python lists come back as tuples) —
    with `priority` reset to 0 and `force_sync` reset to False. -/
theorem roundtrip (e : Entry) (sid : Nat) (hrep : e.Rep) (hm : e.MtimeOk) :
    ∃ row, e.row = .ok row ∧ Entry.deserialize sid row = .ok (e.reloaded sid) :=
  ⟨_, roundtrip_row e sid hrep hm⟩

/-- what `roundtrip` delivers, read field by field (the property's list) -/
theorem roundtrip_fields (e : Entry) (sid : Nat) (sd : Sd) :
    let s := e.side sd
    let s' := (e.reloaded sid).side sd
    s'.otype = s.otype ∧ s'.path = norm s.path ∧ s'.syncPath = norm s.syncPath ∧ s'.oid = norm s.oid ∧
    s'.hash = norm s.hash ∧ s'.syncHash = norm s.syncHash ∧ s'.exists_ = s.exists_ ∧ s'.savedExists = s.savedExists ∧
    s'.changed = norm s.changed ∧ s'.size = norm s.size ∧ s'.mtime = norm s.mtime ∧ s'.tempFile = norm s.tempFile ∧
    (e.reloaded sid).ignored = e.ignored := by
  cases sd <;> simp [Entry.side, Entry.reloaded, Side.normed]

/-- values without Python lists (bytes, str, int, float, None, nested tuples, dicts of those) come back exactly -/
theorem roundtrip_value_exact (v : Val) (h : noList v = true) : norm v = v := norm_of_noList v h

theorem list_comes_back_as_tuple (xs : List Val) : norm (.arr true xs) = .arr false (normList xs) ∧
    norm (.arr true xs) ≠ .arr true xs := by
  simp [norm]

theorem roundtrip_stable (v : Val) : norm (norm v) = norm v := norm_idem v

/-- a dict-typed hash with a non-string key (once dropped on load: fixed finding
    `dict-hash-nonstring-key-row-dropped-on-load`) is representable and round-trips like any other -/
def intKeyEntry : Entry :=
  { Entry.fresh .file with s0 := { Side.fresh 0 .file with oid := .str "a", hash := .map [(.int 1, .int 2)] } }

theorem dict_hash_nonstring_key_roundtrips :
    intKeyEntry.Rep ∧ intKeyEntry.row = .ok (norm intKeyEntry.serialize) ∧
    Entry.deserialize 1 (norm intKeyEntry.serialize) = .ok (intKeyEntry.reloaded 1) ∧
    (intKeyEntry.reloaded 1).s0.hash = .map [(.int 1, .int 2)] := by
  have hrep : intKeyEntry.Rep := by decide +kernel
  exact ⟨hrep, (roundtrip_row _ 1 hrep (by decide +kernel)).1, (roundtrip_row _ 1 hrep (by decide +kernel)).2, rfl⟩

/-- a side as releases before 10/21/19 wrote it: boolean/None `exists`, no `size`, `mtime`,
    `_saved_exists` -/
structure LegacySide where
  otype : OType
  side : Val
  hash : Val
  changed : Val
  syncHash : Val
  syncPath : Val
  path : Val
  oid : Val
  exists_ : Option Bool
  tempFile : Val

def LegacySide.toVal (s : LegacySide) : Val :=
  .map [ (.str "otype", .str s.otype.value), (.str "side", s.side), (.str "hash", s.hash), (.str "changed", s.changed),
         (.str "sync_hash", s.syncHash), (.str "path", s.path), (.str "sync_path", s.syncPath), (.str "oid", s.oid),
         (.str "exists", match s.exists_ with | none => .nil | some b => .bool b), (.str "temp_file", s.tempFile) ]

def LegacySide.loaded (s : LegacySide) : Side :=
  { otype := s.otype, side := norm s.side, hash := norm s.hash, changed := norm s.changed, syncHash := norm s.syncHash,
    syncPath := norm s.syncPath, path := norm s.path, oid := norm s.oid,
    exists_ := (match s.exists_ with | none => .unknown | some true => .exists_ | some false => .trashed),
    tempFile := norm s.tempFile, size := .nil, mtime := .nil, savedExists := none, forceSync := .bool false }

/-- the legacy ways of recording the ignore reason: the key `ignored` (possibly the old spelling
    `'trashed'`), or the boolean keys `discarded` / `conflicted`; no `priority` key -/
inductive LegacyIgnore where
  | reason (r : Ignore)
  | trashed
  | flags (discarded conflicted : Bool)

def LegacyIgnore.keys : LegacyIgnore → List (Key × Val)
  | .reason r => [(.str "ignored", .str r.value)]
  | .trashed => [(.str "ignored", .str "trashed")]
  | .flags d c => [(.str "discarded", .bool d), (.str "conflicted", .bool c)]

def LegacyIgnore.loaded : LegacyIgnore → Ignore
  | .reason r => r
  | .trashed => .discarded
  | .flags true _ => .discarded
  | .flags false true => .conflict
  | .flags false false => .none_

def legacyRow (a b : LegacySide) (ig : LegacyIgnore) : Val :=
  .map ([(.str "side0", a.toVal), (.str "side1", b.toVal)] ++ ig.keys)

theorem LegacySide.deserialize_toVal (s : LegacySide) (i : Int) :
    Side.deserialize i (norm s.toVal) = .ok s.loaded := by
  generalize hd : norm s.toVal = d
  simp only [LegacySide.toVal, norm, normKvs] at hd
  subst hd
  refine Side.deserialize_eq i _ s.otype _ .nil (ex := norm (match s.exists_ with | none => .nil | some b => .bool b))
    ?_ ?_ ?_ ?_ ?_ ?_ ?_ ?_ ?_ ?_ ?_ ?_ ?_ rfl ?_
  case refine_10 => rcases s.exists_ with _ | _ | _ <;> rfl
  all_goals simp only [Val.getItem_cons, Val.getD_cons, Val.getD_nil, String.reduceEq, if_true, if_false]

/-- **Rows written by older releases still load**: boolean/None existence maps to EXISTS / TRASHED /
    UNKNOWN, the missing `size`, `mtime`, `_saved_exists` and `priority` default, `'trashed'` and
    the `discarded` / `conflicted` flags map to the current reasons; every other field as in
    `roundtrip`. -/
theorem legacy_rows_load (a b : LegacySide) (ig : LegacyIgnore) (sid : Nat) :
    Entry.deserialize sid (norm (legacyRow a b ig)) =
      .ok { s0 := a.loaded, s1 := b.loaded, ignored := ig.loaded, priority := 0, storageId := some sid } := by
  simp only [Entry.deserialize, loads, norm_idem]
  generalize hd : norm (legacyRow a b ig) = d
  simp only [legacyRow, List.cons_append, List.nil_append, norm, normKvs] at hd
  subst hd
  refine Entry.deserializeVal_eq sid _ ?_ (LegacySide.deserialize_toVal a 0) ?_ (LegacySide.deserialize_toVal b 1) ?_
  · simp only [Val.getItem_cons, if_true]
  · simp only [Val.getItem_cons, String.reduceEq, if_true, if_false]
  · have hd : Ignore.ofValue "discarded" = some .discarded := by decide +kernel
    rcases ig with r | _ | ⟨_ | _, _ | _⟩ <;>
    simp [decodeIgnored, LegacyIgnore.keys, normKvs, norm, Val.getD_cons, Val.getD_nil, bind, Except.bind, pure, Except.pure,
      Val.truthy, Ignore.value_ne_empty, Ignore.value_ne_trashed, Ignore.ofVal, Ignore.ofValue_value, hd, LegacyIgnore.loaded]

/-- an unrecognised reason string loads as *not ignored* (state.py:396-398 assigns the fallback
    `DISCARDED` to a local that is never used) — a stated fact about the code as it is -/
theorem unknown_reason_loads_as_none (ser : Val) (r : Val) (hr : r.truthy = true) (hne : (r == Val.str "trashed") = false)
    (hu : Ignore.ofVal r = none) (hg : ser.getD "ignored" (.str "") = .ok r) : decodeIgnored ser = .ok .none_ := by
  simp [decodeIgnored, hg, bind, Except.bind, hr, hne, hu, pure, Except.pure]

/-- the CORRUPT marker with its saved existence survives (a corollary of `roundtrip`, spelled out) -/
theorem corrupt_marker_roundtrip (e : Entry) (sid : Nat) (sd : Sd) (x : Exists)
    (hc : (e.side sd).exists_ = .corrupt) (hs : (e.side sd).savedExists = some x) :
    ((e.reloaded sid).side sd).exists_ = .corrupt ∧ ((e.reloaded sid).side sd).savedExists = some x := by
  cases sd <;> simp_all [Entry.side, Entry.reloaded, Side.normed]

/-- a `_saved_exists` value that is not a member's string loads as UNKNOWN (state.py:271-275);
    a falsy one as None -/
theorem bad_saved_exists_loads_unknown (sv : Val) (ht : sv.truthy = true) (hb : Exists.ofVal sv = none) :
    (if sv.truthy then (match Exists.ofVal sv with | some e => some e | none => some Exists.unknown) else none)
      = some Exists.unknown := by
  simp [ht, hb]

theorem Entry.deserializeVal_priority (sid : Nat) (ser : Val) (e : Entry)
    (h : Entry.deserializeVal sid ser = .ok e) : e.priority = 0 ∧ e.storageId = some sid := by
  simp only [Entry.deserializeVal, bind, Except.bind, pure, Except.pure] at h
  repeat' split at h
  all_goals first | (injection h with h; subst h; exact ⟨rfl, rfl⟩) | cases h

/-- **`deserialize` never restores `priority`** (state.py:404 writes the default into the dict, not
    into the entry): whatever the row says, a loaded entry has priority 0.  `priority` is not in
    the property's field list; stated so that nobody relies on it. -/
theorem priority_not_restored (sid : Nat) (row : Val) (e : Entry)
    (h : Entry.deserialize sid row = .ok e) : e.priority = 0 := by
  simp only [Entry.deserialize] at h
  split at h
  · cases h
  · exact (Entry.deserializeVal_priority sid _ e h).1

/-- concretely: an entry punted to priority 3 comes back with 0 -/
example : ∃ e : Entry, e.priority = 3 ∧ e.Rep ∧ e.MtimeOk ∧ (e.reloaded 7).priority = 0 :=
  ⟨{ Entry.fresh .file with priority := 3 }, rfl, by decide, by decide, rfl⟩

/-- the hypotheses of `roundtrip` are satisfiable by a non-trivial entry (bytes hash, nested tuple
    sync hash with a dict, unicode path, corrupt marker, list-typed remote hash) -/
example : ∃ e : Entry, e.Rep ∧ e.MtimeOk ∧ e.s0.exists_ = .corrupt ∧ (e.reloaded 1).s1.hash ≠ e.s1.hash :=
  ⟨{ Entry.fresh .file with
      s0 := { Side.fresh 0 .file with oid := .str "é", path := .str "/é中", hash := .bin "00ff",
                                        syncHash := .arr false [.int 1, .map [(.str "k", .bin "01")]],
                                        exists_ := .corrupt, savedExists := some .exists_, mtime := .float 4610000000000000000 },
      s1 := { Side.fresh 1 .file with oid := .int 5, hash := .arr true [.int 1, .int 2] } },
   by decide, by decide, rfl, by decide⟩

end CS.Codec

namespace CS.Persist
open CS.Codec CS.Storage

/-- `read_all(tag)` of the SQLite backend, in terms of the table read as a map -/
theorem mem_rowsOf (t : Sqlite.Table Val) (h : Sqlite.Inv t) (k : Nat) (row : Val) :
    (k, row) ∈ rowsOf (.sqlite t) ↔ Sqlite.abs t tag k = some row := by
  have hm : ∀ tg, (tg, k, row) ∈ (t.filter (·.tag == tag)).map (fun r => (r.tag, r.id, r.val)) ↔
      Sqlite.abs t tg k = some row ∧ tg = tag := fun tg => by rw [Sqlite.mem_rows t h, beq_iff_eq]
  simp only [rowsOf, Backend.step, Sqlite.step]
  constructor
  · intro hk
    obtain ⟨⟨tg, n, v⟩, hx, he⟩ := List.mem_map.1 hk
    cases he
    obtain ⟨ha, rfl⟩ := (hm tg).1 hx
    exact ha
  · intro ha
    exact List.mem_map.2 ⟨(tag, k, row), (hm tag).2 ⟨ha, rfl⟩, rfl⟩

/-- **What "storage is exact" means.**  `silent` (ghost) is the set of entries that were changed on a
    path that reaches no dirty mark — the CORRUPT early returns of `SideState.__setattr__`, the ousting
    write of `_change_path`, a hook aborted by an exception — and not dirtied since.  With
    `silent = []` this is the property's statement: the rows of the tag are exactly the
    serialisations of the live non-trash entries, one row each. -/
structure Exact (st : St) : Prop where
  /-- no missing row: every live non-trash entry has a row and it is its current serialisation -/
  live_have_rows : ∀ (i : Nat) (e : Entry), st.ents[i]? = some e → i ∉ st.silent → e.isTrash = false →
    ∃ k row, e.storageId = some k ∧ e.row = .ok row ∧ (k, row) ∈ rowsOf st.store
  /-- no stale row: every row of the tag belongs to a live entry, which (unless silently changed) is
      not trash and serialises to exactly that row -/
  rows_have_owner : ∀ (k : Nat) (row : Val), (k, row) ∈ rowsOf st.store →
    ∃ (i : Nat) (e : Entry), st.ents[i]? = some e ∧ e.storageId = some k ∧
      (i ∉ st.silent → e.isTrash = false ∧ e.row = .ok row)
  /-- one owner per row -/
  owner_unique : ∀ (i j : Nat) (ei ej : Entry) (k : Nat), st.ents[i]? = some ei → st.ents[j]? = some ej →
    ei.storageId = some k → ej.storageId = some k → i = j
  /-- trash entries keep no storage id (so no later write on them can reach a row) -/
  trash_have_none : ∀ (i : Nat) (e : Entry), st.ents[i]? = some e → i ∉ st.silent → e.isTrash = true → e.storageId = none

theorem exact_of_inv (st : St) (h : Inv st) (hd : st.dirty = []) : Exact st := by
  obtain ⟨t, hs, hc, hst⟩ := h
  have hst : ∀ i e, st.ents[i]? = some e → i ∉ st.silent → _ := fun i e he hsil =>
    (Stored_iff t e).1 (hst i e he (by rw [hd]; simp) hsil)
  refine ⟨?_, ?_, ?_, ?_⟩
  · intro i e he hsil ht
    rcases hst i e he hsil with ⟨h1, _⟩ | ⟨_, k, row, hk, hr, ha⟩
    · rw [h1] at ht; cases ht
    · exact ⟨k, row, hk, hr, by rw [hs]; exact (mem_rowsOf t hc.tinv k row).2 ha⟩
  · intro k row hm
    rw [hs] at hm
    have ha := (mem_rowsOf t hc.tinv k row).1 hm
    obtain ⟨i, hi⟩ := hc.nostale k (by rw [ha]; simp)
    simp only [sidOf, Option.map_eq_some_iff] at hi
    obtain ⟨e, he, hk⟩ := hi
    refine ⟨i, e, he, hk, fun hsil => ?_⟩
    rcases hst i e he hsil with ⟨_, h2⟩ | ⟨ht, k', row', hk', hr, ha'⟩
    · rw [hk] at h2; cases h2
    · rw [hk] at hk'; cases hk'
      rw [ha] at ha'; cases ha'
      exact ⟨ht, hr⟩
  · intro i j ei ej k hi hj hki hkj
    exact hc.uniq i j k (by rw [sidOf_of_ent hi, hki]) (by rw [sidOf_of_ent hj, hkj])
  · intro i e he hsil ht
    rcases hst i e he hsil with ⟨_, h2⟩ | ⟨h1, _⟩
    · exact h2
    · rw [h1] at ht; cases ht

/-- **The invariant that is true of the code**, for every sequence of entry creations, hooked writes
    and commits from an empty database (no bound on the length): see `Inv` (Proofs/PersistInv.lean). -/
theorem persistence_invariant (ops : List Op) : Inv (run (St.init (.sqlite [])) ops) :=
  Inv_run ops _ Inv_init

theorem commit_ok_clears_dirty (a : St) (h : (step a .commit).1 = .ok ()) : (step a .commit).2.dirty = [] := by
  have he : step a .commit = storageCommit a := rfl
  rw [he] at h ⊢
  rw [storageCommit_eq] at h ⊢
  rcases hm : forEach a.dirty storageUpdate a with ⟨r | r, s'⟩
  · simp only [hm] at h; cases h
  · rfl

/-- **After `storage_commit`, storage is exact** — for every sequence of entry creations, hooked
    attribute writes and commits, whenever a commit returns normally.  (On the code before the repair of
    `stale-storage-id-after-row-delete` this holds only if no `_storage_update` runs on an entry
    whose row has been deleted.) -/
theorem commit_makes_storage_exact (ops : List Op) :
    let st := run (St.init (.sqlite [])) ops
    (step st .commit).1 = .ok () → Exact (step st .commit).2 := by
  intro st hok
  exact exact_of_inv _ (Inv_commit st (persistence_invariant ops)).1 (commit_ok_clears_dirty st hok)

/-- … and a commit never raises the `ValueError` of `Storage.update` (no row is ever missing): the
    only exception it can raise is the `OverflowError` of `msgpack.dumps` on an integer outside 64 bits -/
theorem commit_raises_only_overflow (ops : List Op) :
    let st := run (St.init (.sqlite [])) ops
    (step st .commit).1 = .ok () ∨ (step st .commit).1 = .error (.py .overflow) :=
  (Inv_commit _ (persistence_invariant ops)).2

/-- the same at any moment at which nothing is waiting in the dirty set -/
theorem storage_exact_when_clean (ops : List Op) :
    let st := run (St.init (.sqlite [])) ops
    st.dirty = [] → Exact st :=
  fun hd => exact_of_inv _ (persistence_invariant ops) hd

/-- hooked writes never touch storage or storage ids, and every entry they change is covered by the
    dirty set or the ghost set (the dirty-marking discipline) -/
theorem hooked_write_frame (st : St) (c : Call) : LeX none st (step st (.write c)).2 :=
  (Pres_hook (fuelFor st) c).run st

def wOid (i : Nat) (sd : Sd) (v : Val) : Op := .write (.side i sd (.plain .oid (.val v)))

/-! the repaired finding `stale-storage-id-after-row-delete`, kernel-checked on its exact replay -/

def staleIdOps : List Op :=
  [ .new .file, wOid 0 false (.str "a"), .commit,
    .new .file, wOid 1 false (.str "b"), .commit,
    wOid 1 false .nil, .commit,                          -- entry 1 is trash: row 2 deleted, storage id forgotten
    .new .file, wOid 2 false (.str "c"), .commit,        -- entry 2 gets rowid 2
    .write (.side 1 false (.plain .hash (.val (.str "x")))), .commit ]   -- touching the trash entry harms nobody

theorem storage_id_forgotten_after_row_delete :
    let st := run (St.init (.sqlite [])) staleIdOps
    st.dirty = [] ∧ st.silent = [] ∧ (st.ents.map Entry.isTrash) = [false, true, false] ∧
    (st.ents.map Entry.storageId) = [some 1, none, some 2] ∧ (rowsOf st.store).map (·.1) = [1, 2] := by decide +kernel

def resurrectOps : List Op :=
  [ .new .file, wOid 0 false (.str "a"), .commit, wOid 0 false .nil, .commit, wOid 0 false (.str "a"), .commit ]

theorem resurrected_entry_gets_a_new_row :
    let st := run (St.init (.sqlite [])) resurrectOps
    st.dirty = [] ∧ (st.ents.map Entry.isTrash) = [false] ∧ (st.ents.map Entry.storageId) = [some 1] ∧
    (rowsOf st.store).map (·.1) = [1] := by decide +kernel

/-! what the statement with `silent = []` excludes: a stated fact, kernel-checked

**the CORRUPT marker is set without a dirty mark** (`SideState.__setattr__`, the two early returns):
alone, it is not persisted by the next commit.  (In the engine `handle_corrupt` continues with
`mark_changed` on the same entry, and `update_entry` with `mark_changed`.) -/
def corruptOps : List Op :=
  [ .new .file, wOid 0 false (.str "a"), .write (.side 0 false (.exists_ (.enum .exists_))), .commit,
    .write (.side 0 false (.exists_ (.enum .corrupt))), .commit ]

theorem corrupt_mark_alone_not_persisted :
    let st := run (St.init (.sqlite [])) corruptOps
    st.dirty = [] ∧ st.silent = [0] ∧
    (st.ents.map fun e => (e.s0.exists_, e.s0.savedExists)) = [(.corrupt, some .exists_)] ∧
    ((rowsOf st.store).map fun r => (Entry.deserialize r.1 r.2).toOption.map fun e => (e.s0.exists_, e.s0.savedExists))
      = [some (.exists_, none)] := by decide +kernel

theorem reload_loaded (b : Backend) : Loaded (reload b) := (loadRows_spec (rowsOf b) (St.init b) (Loaded_init b)).1

/-- **the loader, specified**: the rebuilt state holds one entry per row that deserialises, in row
    order (a row that does not is deleted, nothing else is) -/
theorem reload_ents (b : Backend) : (reload b).ents = loadedEntries (rowsOf b) := by
  have := (loadRows_spec (rowsOf b) (St.init b) (Loaded_init b)).2
  simpa [reload, St.init] using this

/-- what the rebuilt state finds under a (string) id is an entry that carries that id … -/
theorem reload_lookup_sound (b : Backend) (sd : Sd) (s : String) (j : Nat)
    (h : lookupOid (reload b) sd (.str s) = some j) :
    ∃ e, (reload b).ents[j]? = some e ∧ (e.side sd).oid = .str s :=
  (reload_loaded b).sound sd s j h

/-- … and every rebuilt entry is found under each of its (string) ids, unless a later row carries
    the same id (`i ≤ j`) -/
theorem reload_lookup_complete (b : Backend) (sd : Sd) (s : String) (i : Nat) (e : Entry)
    (he : (reload b).ents[i]? = some e) (ho : (e.side sd).oid = .str s) :
    ∃ j, lookupOid (reload b) sd (.str s) = some j ∧ i ≤ j :=
  (reload_loaded b).complete sd s i e he ho

/-- nothing is indexed under the key None (repaired finding `loader-indexes-absent-side-under-none`) -/
theorem reload_none_key_absent (b : Backend) (sd : Sd) (stale : Bool) :
    lookupOid (reload b) sd .nil = none ∧ lookupPath (reload b) sd .nil stale = [] := by
  have h := (reload_loaded b).noneAbsent sd
  exact ⟨h.1, by simp [lookupPath, h.2]⟩

/-- the rebuilt pending set: exactly the rebuilt entries with a truthy change stamp on a side that
    has an id (repaired finding `reload-pending-set-differs`) -/
theorem reload_pending_spec (b : Backend) (i : Nat) :
    i ∈ (reload b).changeset ↔ ∃ e, (reload b).ents[i]? = some e ∧ e.pendingOnLoad = true :=
  (reload_loaded b).pending i

/-- the rebuilt entries are what the rows of the tag decode to -/
theorem reload_ent_iff (b : Backend) (e : Entry) :
    (∃ j : Nat, (reload b).ents[j]? = some e) ↔ ∃ k row, (k, row) ∈ rowsOf b ∧ Entry.deserialize k row = .ok e := by
  have : ∀ x : Except Err Entry, x.toOption = some e ↔ x = .ok e := fun x => by cases x <;> simp [Except.toOption]
  simp only [← List.mem_iff_getElem?, reload_ents, loadedEntries, List.mem_filterMap, Prod.exists, this]

theorem reloaded_side_oid (e : Entry) (k : Nat) (sd : Sd) : ((e.reloaded k).side sd).oid = norm (e.side sd).oid := by
  cases sd <;> rfl

theorem reloaded_pending (e : Entry) (k : Nat) : (e.reloaded k).pendingOnLoad = e.pendingOnLoad := by
  simp [Entry.pendingOnLoad, Entry.reloaded, Side.normed, norm_isNone, norm_truthy]

theorem not_trash_of_oid (e : Entry) (sd : Sd) (s : String) (h : (e.side sd).oid = .str s) : e.isTrash = false := by
  cases sd <;> simp_all [Entry.side, Entry.isTrash, Val.isNone]

/-- every entry rebuilt from an exact storage is the reloaded image of a live owner, under its storage id -/
theorem exact_row_decodes (st : St) (hex : Exact st) (hsil : st.silent = [])
    (hrep : ∀ (i : Nat) (e : Entry), st.ents[i]? = some e → e.isTrash = false → e.Rep ∧ e.MtimeOk)
    (j : Nat) (e' : Entry) (hj : (reload st.store).ents[j]? = some e') :
    ∃ (i : Nat) (e : Entry) (k : Nat), st.ents[i]? = some e ∧ e.isTrash = false ∧ e.storageId = some k ∧ e' = e.reloaded k := by
  have hns : ∀ i, i ∉ st.silent := fun i => by rw [hsil]; simp
  obtain ⟨k, row, hrow, hd⟩ := (reload_ent_iff ..).1 ⟨j, hj⟩
  obtain ⟨i, e, hei, hk, hlive⟩ := hex.rows_have_owner k row hrow
  obtain ⟨ht, hr⟩ := hlive (hns i)
  obtain ⟨hR, hM⟩ := hrep i e hei ht
  obtain ⟨hr', hd'⟩ := roundtrip_row e k hR hM
  rw [hr] at hr'; cases hr'
  rw [hd] at hd'; cases hd'
  exact ⟨i, e, k, hei, ht, hk, rfl⟩

/-- every live non-trash entry of an exact storage is rebuilt by the loader as its reloaded image -/
theorem exact_entry_reloaded (st : St) (hex : Exact st) (hsil : st.silent = [])
    (hrep : ∀ (i : Nat) (e : Entry), st.ents[i]? = some e → e.isTrash = false → e.Rep ∧ e.MtimeOk)
    (i : Nat) (e : Entry) (hei : st.ents[i]? = some e) (ht : e.isTrash = false) :
    ∃ (k j : Nat), e.storageId = some k ∧ (reload st.store).ents[j]? = some (e.reloaded k) := by
  have hns : ∀ i, i ∉ st.silent := fun i => by rw [hsil]; simp
  obtain ⟨k, row, hk, hr, hrow⟩ := hex.live_have_rows i e hei (hns i) ht
  obtain ⟨hR, hM⟩ := hrep i e hei ht
  obtain ⟨hr', hd'⟩ := roundtrip_row e k hR hM
  rw [hr] at hr'; cases hr'
  obtain ⟨j, hj⟩ := (reload_ent_iff ..).2 ⟨k, _, hrow, hd'⟩
  exact ⟨k, j, hk, hj⟩

/-- **Reload, relative to the live entries**: take a live state whose storage is exact (the
    conclusion of `commit_makes_storage_exact`, nothing silently changed) and whose live entries are
    msgpack-representable.  Then what the state rebuilt from storage finds under a string id is the reloaded image
    (`roundtrip`) of a live non-trash entry that carries that id, and every such entry is found under it. -/
theorem reload_equiv_entries (st : St) (hex : Exact st) (hsil : st.silent = [])
    (hrep : ∀ (i : Nat) (e : Entry), st.ents[i]? = some e → e.isTrash = false → e.Rep ∧ e.MtimeOk) (sd : Sd) (s : String) :
    (∀ j, lookupOid (reload st.store) sd (.str s) = some j →
      ∃ (i : Nat) (e : Entry) (k : Nat), st.ents[i]? = some e ∧ e.isTrash = false ∧ e.storageId = some k ∧ (e.side sd).oid = .str s ∧
        (reload st.store).ents[j]? = some (e.reloaded k)) ∧
    (∀ (i : Nat) (e : Entry), st.ents[i]? = some e → e.isTrash = false → (e.side sd).oid = .str s →
      ∃ j, lookupOid (reload st.store) sd (.str s) = some j) := by
  constructor
  · intro j hj
    obtain ⟨e', he', ho'⟩ := reload_lookup_sound st.store sd s j hj
    obtain ⟨i, e, k, hei, ht, hk, rfl⟩ := exact_row_decodes st hex hsil hrep j e' he'
    refine ⟨i, e, k, hei, ht, hk, ?_, he'⟩
    rw [reloaded_side_oid] at ho'
    exact norm_eq_str _ _ ho'
  · intro i e hei ht ho
    obtain ⟨k, i', _, hi'⟩ := exact_entry_reloaded st hex hsil hrep i e hei ht
    have ho2 : ((e.reloaded k).side sd).oid = .str s := by rw [reloaded_side_oid, ho]; rfl
    obtain ⟨j, hj, _⟩ := reload_lookup_complete st.store sd s i' _ hi' ho2
    exact ⟨j, hj⟩

/-- a change stamp on a side whose id is truthy (the live rule of `updated(key="changed")`) -/
def _root_.CS.Codec.Entry.pendingTruthy (e : Entry) : Bool :=
  (e.s0.oid.truthy && e.s0.changed.truthy) || (e.s1.oid.truthy && e.s1.changed.truthy)

/-- what C08 needs of the live indexes — exactly what C11 proves of every reachable state
    (`CS.State.live_index_ok`): the live id index returns exactly the entry that carries a string id,
    nothing under None, and every entry with a change stamp on a side that has a (truthy) id is pending.
    (The converse of the last clause is false of live states: C11's open finding
    `pending-flag-without-id`, here `pending_set_after_reload_narrower`.) -/
structure LiveIndexOK (st : St) : Prop where
  sound : ∀ (sd : Sd) (s : String) (i : Nat), lookupOid st sd (.str s) = some i →
    ∃ e, st.ents[i]? = some e ∧ (e.side sd).oid = .str s
  complete : ∀ (sd : Sd) (s : String) (i : Nat) (e : Entry), st.ents[i]? = some e → (e.side sd).oid = .str s →
    lookupOid st sd (.str s) = some i
  none_absent : ∀ (sd : Sd), lookupOid st sd .nil = none
  pending : ∀ (i : Nat) (e : Entry), st.ents[i]? = some e → e.pendingTruthy = true → i ∈ st.changeset

theorem not_trash_of_pendingOnLoad (e : Entry) (h : e.pendingOnLoad = true) : e.isTrash = false := by
  cases ht : e.isTrash
  · rfl
  · simp [Entry.pendingOnLoad, Entry.isTrash] at h ht; simp [ht.1, ht.2] at h

/-- **The pending set after a reload, exactly** (no hypothesis on the live indexes): on exact storage
    with representable entries, the rows that are pending in the rebuilt state are precisely the rows of
    the live entries that carry a change stamp on a side that has an id. -/
theorem reload_pending_exact (st : St) (hex : Exact st) (hsil : st.silent = [])
    (hrep : ∀ (i : Nat) (e : Entry), st.ents[i]? = some e → e.isTrash = false → e.Rep ∧ e.MtimeOk) (k : Nat) :
    (∃ (j : Nat) (e' : Entry), j ∈ (reload st.store).changeset ∧ (reload st.store).ents[j]? = some e' ∧ e'.storageId = some k) ↔
    (∃ (i : Nat) (e : Entry), st.ents[i]? = some e ∧ e.storageId = some k ∧ e.pendingOnLoad = true) := by
  constructor
  · rintro ⟨j, e', hjc, hje, hk'⟩
    obtain ⟨e'', hje', hp⟩ := (reload_pending_spec st.store j).1 hjc
    rw [hje] at hje'; injection hje' with hje'; subst hje'
    obtain ⟨i, e, k0, hei, _, hk, rfl⟩ := exact_row_decodes st hex hsil hrep j e' hje
    have : k0 = k := by simpa [Entry.reloaded] using hk'
    subst this
    rw [reloaded_pending] at hp
    exact ⟨i, e, hei, hk, hp⟩
  · rintro ⟨i, e, hei, hk, hp⟩
    obtain ⟨k0, j, hk0, hj⟩ := exact_entry_reloaded st hex hsil hrep i e hei (not_trash_of_pendingOnLoad e hp)
    rw [hk] at hk0; injection hk0 with hk0; subst hk0
    exact ⟨j, e.reloaded k, (reload_pending_spec st.store j).2 ⟨_, hj, by rw [reloaded_pending]; exact hp⟩, hj, rfl⟩

/-- **Reload equivalence — what is true.**  On exact storage, with representable entries and the live
    index facts C11 proves (`LiveIndexOK`):
    (1) under every key that is None or a string, the state rebuilt from storage answers `lookup_oid` with the
        reloaded image of exactly the entry the live state answers with (nothing if the live state has nothing);
    (2) the pending set of the rebuilt state is *narrower or equal*: a row is pending after the reload iff
        its live entry carries a change stamp on a side that has an id (`reload_pending_exact`), and every
        such entry whose stamped side's id is truthy is pending in the live state as well.
    The live pending set can be strictly wider — entries whose stamped sides all lack an id (and trash
    entries, which have no row): `pending_set_after_reload_narrower`. -/
theorem reload_equiv (st : St) (hex : Exact st) (hsil : st.silent = [])
    (hrep : ∀ (i : Nat) (e : Entry), st.ents[i]? = some e → e.isTrash = false → e.Rep ∧ e.MtimeOk)
    (hix : LiveIndexOK st) :
    (∀ (sd : Sd) (key : Val), (key = .nil ∨ ∃ s, key = .str s) →
      (lookupOid (reload st.store) sd key).bind (fun j => (reload st.store).ents[j]?) =
      (lookupOid st sd key).bind (fun i => (st.ents[i]?).bind (fun e => e.storageId.map e.reloaded))) ∧
    (∀ k : Nat,
      (∃ (j : Nat) (e' : Entry), j ∈ (reload st.store).changeset ∧ (reload st.store).ents[j]? = some e' ∧ e'.storageId = some k) →
      ∃ (i : Nat) (e : Entry), st.ents[i]? = some e ∧ e.storageId = some k ∧ e.pendingOnLoad = true ∧
        (e.pendingTruthy = true → i ∈ st.changeset)) := by
  constructor
  · intro sd key hkey
    rcases hkey with hkey | ⟨s, hkey⟩
    · subst hkey
      rw [(reload_none_key_absent st.store sd false).1, hix.none_absent sd]; rfl
    · subst hkey
      obtain ⟨h1, h2⟩ := reload_equiv_entries st hex hsil hrep sd s
      cases hl : lookupOid st sd (.str s) with
      | none =>
        cases hr : lookupOid (reload st.store) sd (.str s) with
        | none => rfl
        | some j =>
          obtain ⟨i, e, k, hei, _, _, ho, _⟩ := h1 j hr
          rw [hix.complete sd s i e hei ho] at hl; cases hl
      | some i =>
        obtain ⟨e, hei, ho⟩ := hix.sound sd s i hl
        obtain ⟨j, hj⟩ := h2 i e hei (not_trash_of_oid e sd s ho) ho
        obtain ⟨i', e', k, hei', _, hk, ho', hje⟩ := h1 j hj
        have := hix.complete sd s i' e' hei' ho'
        rw [hl] at this; injection this with this; subst this
        rw [hei] at hei'; injection hei' with hei'; subst hei'
        simp [hj, hje, hei, hk]
  · intro k hr
    obtain ⟨i, e, hei, hk, hp⟩ := (reload_pending_exact st hex hsil hrep k).1 hr
    exact ⟨i, e, hei, hk, hp, fun ht => hix.pending i e hei ht⟩

/-- when every id is None or truthy (no `''`, `0`, `b''` … used as an id) the two stamps coincide, so
    every row that is pending after the reload is pending in the live state -/
theorem reload_pending_subset (st : St) (hex : Exact st) (hsil : st.silent = [])
    (hrep : ∀ (i : Nat) (e : Entry), st.ents[i]? = some e → e.isTrash = false → e.Rep ∧ e.MtimeOk)
    (hix : LiveIndexOK st)
    (hids : ∀ (i : Nat) (e : Entry) (sd : Sd), st.ents[i]? = some e → (e.side sd).oid.isNone = false → (e.side sd).oid.truthy = true)
    (k : Nat)
    (hr : ∃ (j : Nat) (e' : Entry), j ∈ (reload st.store).changeset ∧ (reload st.store).ents[j]? = some e' ∧ e'.storageId = some k) :
    ∃ (i : Nat) (e : Entry), i ∈ st.changeset ∧ st.ents[i]? = some e ∧ e.storageId = some k := by
  obtain ⟨i, e, hei, hk, hp, hc⟩ := (reload_equiv st hex hsil hrep hix).2 k hr
  refine ⟨i, e, hc ?_, hei, hk⟩
  have h0 := hids i e false hei
  have h1 := hids i e true hei
  simp only [Entry.side] at h0 h1
  simp only [Entry.pendingOnLoad, Bool.or_eq_true, Bool.and_eq_true, Bool.not_eq_true'] at hp
  simp only [Entry.pendingTruthy, Bool.or_eq_true, Bool.and_eq_true]
  rcases hp with ⟨a, b⟩ | ⟨a, b⟩
  · exact Or.inl ⟨h0 a, b⟩
  · exact Or.inr ⟨h1 a, b⟩

/-- **the live pending set is not contained in the reloaded one** (kernel-checked; open finding
    `pending-set-after-reload-narrower`, root cause C11's `pending-flag-without-id`): a change stamp on
    an id-less side, then the *other* side gets an id — `_change_oid` makes the entry pending because
    "a side is stamped", the loader (and `updated(key="changed")`) only count stamps on sides that have
    an id.  The entry is live, stored, pending before the reload and not after it. -/
def narrowerOps : List Op :=
  [ .new .file, .write (.side 0 false (.plain .changed (.val (.int 5)))), wOid 0 true (.str "b"), .commit ]

theorem pending_set_after_reload_narrower :
    let st := run (St.init (.sqlite [])) narrowerOps
    st.dirty = [] ∧ st.silent = [] ∧ (st.ents.map Entry.isTrash) = [false] ∧ (rowsOf st.store).map (·.1) = [1] ∧
    st.changeset = [0] ∧ (reload st.store).changeset = [] ∧ (reload st.store).ents.length = 1 ∧
    (st.ents.map Entry.pendingOnLoad) = [false] := by decide +kernel

def noneKeyOps : List Op := [ .new .file, wOid 0 false (.str "a"), .commit ]

/-- a repaired finding on its exact replay (kernel-checked): after the reload nothing answers to None -/
theorem reload_none_key_replay :
    let st := run (St.init (.sqlite [])) noneKeyOps
    st.dirty = [] ∧ lookupOid st true .nil = none ∧ lookupPath st true .nil true = [] ∧
    lookupOid (reload st.store) true .nil = none ∧ lookupPath (reload st.store) true .nil true = [] ∧
    lookupPath (reload st.store) false .nil false = [] ∧ lookupOid (reload st.store) false (.str "a") = some 0 := by decide +kernel

def pendingOps : List Op :=
  [ .new .file, wOid 0 false (.str "a"), .write (.side 0 true (.plain .changed (.val (.int 5)))), .commit ]

/-- a repaired finding on its exact replay (kernel-checked): a change stamp on an id-less side is not pending,
    before the reload or after it -/
theorem reload_pending_replay :
    let st := run (St.init (.sqlite [])) pendingOps
    st.dirty = [] ∧ st.silent = [] ∧ st.changeset = [] ∧ (reload st.store).changeset = [] := by decide +kernel

/-- **Every event-intake step ends with an empty dirty set**: whatever mixture of walk events
    (`from_walk = True`: start-up walk or `CloudSync.walk()`) and provider events is delivered, if the
    step returns normally and the dirty set was empty before it, nothing is left waiting — each event is
    committed on its own, walk events included. -/
theorem intake_step_commits (evs : List IntakeEvent) : ∀ (st : St), st.dirty = [] →
    (intakeStep st evs).1 = .ok () → (intakeStep st evs).2.dirty = [] := by
  induction evs with
  | nil => intro st hd _; exact hd
  | cons ev rest ih =>
    intro st _ hok
    simp only [intakeStep] at hok ⊢
    rcases hp : processEvent st ev with ⟨r | r, st'⟩
    · simp only [hp] at hok; cases hok
    · simp only [hp] at hok ⊢
      refine ih st' ?_ hok
      have := commit_ok_clears_dirty (run st ev.writes) (by rw [show step _ .commit = processEvent st ev from rfl, hp])
      rwa [show step _ .commit = processEvent st ev from rfl, hp] at this

/-- an intake step keeps the invariant, whether or not one of its commits raises -/
theorem Inv_intakeStep (evs : List IntakeEvent) : ∀ (a : St), Inv a → Inv (intakeStep a evs).2 := by
  induction evs with
  | nil => intro a h; exact h
  | cons ev rest ih =>
    intro a h
    simp only [intakeStep]
    have h1 : Inv (processEvent a ev).2 := Inv_step _ .commit (Inv_run ev.writes a h)
    rcases hp : processEvent a ev with ⟨r | r, a'⟩
    · simp only [hp] at h1 ⊢; exact h1
    · simp only [hp] at h1 ⊢; exact ih a' h1

/-- … and, from an empty database, storage is exact after it (intake steps are runs of the operation
    language: `commit_makes_storage_exact` applies to them) -/
theorem intake_step_exact (ops : List Op) (evs : List IntakeEvent) :
    let st := run (St.init (.sqlite [])) ops
    st.dirty = [] → (intakeStep st evs).1 = .ok () → Exact (intakeStep st evs).2 := by
  intro st hd hok
  exact exact_of_inv _ (Inv_intakeStep evs st (persistence_invariant ops)) (intake_step_commits evs st hd hok)

instance : DecidableEq (Except HErr Unit) := fun a b =>
  match a, b with
  | .ok (), .ok () => isTrue rfl
  | .error x, .error y => if h : x = y then isTrue (by rw [h]) else isFalse (fun c => h (by injection c))
  | .ok (), .error _ => isFalse (fun c => by cases c)
  | .error _, .ok () => isFalse (fun c => by cases c)

def exampleOps : List Op :=
  [ .new .dir, wOid 0 false (.str "d"), .write (.side 0 false (.plain .path (.val (.str "/a")))),
    .new .file, wOid 1 false (.str "f"), .write (.side 1 false (.plain .path (.val (.str "/a/f")))),
    .write (.side 1 false (.plain .hash (.val (.bin "00ff")))), .commit,
    .new .file, wOid 2 true (.str "x"), .commit, wOid 2 true .nil, .commit,
    .write (.side 0 false (.plain .path (.val (.str "/b")))) ]

def exampleFinal : Except HErr Unit × St := step (run (St.init (.sqlite [])) exampleOps) .commit

/-- the hypotheses of `commit_makes_storage_exact` and `reload_equiv_entries` are satisfiable by a
    non-trivial run: two entries, a folder rename that drags a child along, an entry that becomes
    trash and loses its row, commits in between; the final commit returns normally, nothing is
    silently changed, two rows are stored, and the reload finds the child -/
example :
    exampleFinal.1 = .ok () ∧ exampleFinal.2.silent = [] ∧
    (exampleFinal.2.ents.map fun e => e.s0.path) = [.str "/b", .str "/b/f", .nil] ∧
    (exampleFinal.2.ents.map Entry.storageId) = [some 1, some 2, none] ∧
    (rowsOf exampleFinal.2.store).map (·.1) = [1, 2] ∧
    lookupOid (reload exampleFinal.2.store) false (.str "f") = some 1 := by decide +kernel

end CS.Persist
