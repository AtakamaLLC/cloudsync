import Csverif.Proofs.SchedPrio
import Csverif.Props.C17State
/-
C17 — the priority an entry HAS is the application's `prioritize()` of its CURRENT path.
The selection laws (Props/C17.lean, C17State.lean) speak about the priority stored in an entry; this file ties that number
to the application's classes.  Model: Model/Sched.lean (`changePath`, `opUpdateDir`, `Cls`).
-/
namespace CS.Sched

theorem tracks_fresh (cls : Cls) (n : Nat) (d : Bool) :
    Tracks cls ({ id := n, l := { dir := d }, r := { dir := d } } : Entry) :=
  Or.inr ⟨fun s => by cases s <;> rfl, 0, by simp⟩

theorem pc_grown {cls : Cls} {st st0 : St} (hg : Grown st st0) (h : PriorityCurrent cls st) : PriorityCurrent cls st0 := by
  rcases hg with rfl | ⟨d, rfl⟩
  · exact h
  · intro x hx
    rcases List.mem_append.1 hx with hx | hx
    · exact h x hx
    · rw [List.mem_singleton.1 hx]; exact tracks_fresh cls _ d

theorem opFinished_pc (cls : Cls) (dn : String → String) (st : St) (id : Nat) (h : PriorityCurrent cls st) :
    PriorityCurrent cls (opFinished dn st id) := by
  rcases opFinished_cases dn st id with ⟨h', _⟩ | ⟨ent, _, _, h'⟩ <;> rw [h']
  · exact h
  · intro x hx
    obtain ⟨y, hy, rfl⟩ := List.mem_map.1 hx
    split
    · exact tracksAt_congr (fun s => by cases s <;> rfl) (tracksAt_zero (h y hy))
    · exact h y hy

/-- the provider answers of the fill-in loop are consistent with the application's `prioritize` -/
def OracleOk (cls : Cls) (orc : Oracle) : Prop := ∀ id s pth q, orc id s = some (pth, q) → pth ≠ "" ∧ q = cls s pth

/-- a call is consistent with the application's `prioritize` -/
def Op.okFor (cls : Cls) : Op → Prop
  | .update s _ path prio _ => ∀ pth, path = some pth → pth ≠ "" ∧ prio = cls s pth
  | .attach s _ _ path prio => path ≠ "" ∧ prio = cls s path
  | .setprio _ _ => False                      -- hand-written priorities are outside
  | .fill orc _ => OracleOk cls orc
  | .updateDir cls' _ _ _ _ path _ => cls' = cls ∧ path ≠ ""
  | _ => True

theorem Op.writesIn_tracks (cls : Cls) (op : Op) (hok : op.okFor cls) :
    (∃ id, op = .finished id) ∨ op.writesIn (TrP cls) cls := by
  cases op with
  | update s oid path prio now =>
    exact .inr fun p last => ⟨fun e => updateA_id .., fun e => tracks_updateA cls p last now e s oid path prio hok⟩
  | attach s id oid path prio =>
    exact .inr fun p => ⟨fun e => by simp, fun e he => tracks_setPathA cls p _ s path prio hok.1 hok.2 (tracks_setOidA cls e s oid he)⟩
  | mark s id now => exact .inr fun last => ⟨fun e => markA_id .., fun e => tracks_markA cls last now e s⟩
  | punt id =>
    exact .inr fun p => ⟨fun e => setPriorityA_id .., fun e he => tracks_setPriorityA cls p e _ (tracksAt_succ he)⟩
  | setprio id v => exact hok.elim
  | clear s id => exact .inr ⟨fun e => setChangedA_id .., fun e => tracks_setChangedA cls e s _⟩
  | setaged s id => exact .inr ⟨fun e => setChangedA_id .., fun e => tracks_setChangedA cls e s _⟩
  | syncpath s id p => exact .inr ⟨fun e => setSide_id .., fun e => tracks_setSide cls e s _ rfl⟩
  | finished id => exact .inl ⟨id, rfl⟩
  | fill orc now =>
    exact .inr fun p id => ⟨fun e => fillEntryA_id .., fun e => tracks_fillEntryA cls p now _ _ e (hok id false) (hok id true)⟩
  | updateDir cls' oip s oid prior path now =>
    obtain ⟨rfl, hne⟩ := hok
    exact .inr ⟨rfl, folderWrites_trp cls', fun h => absurd h hne⟩

theorem applyOp_pc (cls : Cls) (dn : String → String) (st : St) (op : Op) (hok : op.okFor cls)
    (h : PriorityCurrent cls st) : PriorityCurrent cls (applyOp dn st op) := by
  rcases op.writesIn_tracks cls hok with ⟨id, rfl⟩ | hw
  · exact opFinished_pc cls dn st id h
  · obtain ⟨st0, hg, m⟩ := applyOp_moves dn st op hw
    exact (pcx_nil cls _).1 (m.pcx (fun _ hf => hf) ((pcx_nil cls st0).2 (pc_grown hg h)))

/-- a folder appears, is renamed or moved: the folder and every descendant track afterwards -/
theorem opUpdateDir_pc (cls : Cls) (oip : Bool × Bool) (st : St) (s : Bool) (oid : String) (prior : Option String)
    (path : String) (now : Rat) (hne : path ≠ "") (h : PriorityCurrent cls st) :
    PriorityCurrent cls (opUpdateDir cls oip st s oid prior path now).1 :=
  applyOp_pc cls (fun p => p) st (.updateDir cls oip s oid prior path now) ⟨rfl, hne⟩ h

/-- **PriorityCurrent holds in every state reached from a fresh SyncState by any sequence of the modelled calls that are
    consistent with `cls`** (`Op.okFor`), folder renames / moves with all their descendants at any depth included:
    `_update_kids_of` re-enters `_change_path` for every kid, which re-prioritises it from its NEW path.
    Outside: hand-written priorities (`setprio`; the engine's own parent-first inheritance, manager.py:1493-1499,
    deliberately gives a parent the child's urgency). -/
theorem reachable_priority_current (cls : Cls) (dn : String → String) (p : Rat × Rat) (last : Rat) (ops : List Op)
    (hok : ∀ op ∈ ops, op.okFor cls) : PriorityCurrent cls (runOps dn { punt := p, last := last } ops) := by
  suffices ∀ st, PriorityCurrent cls st → PriorityCurrent cls (runOps dn st ops) from
    this _ (fun _ he => absurd he (by simp))
  induction ops with
  | nil => exact fun _ h => h
  | cons op ops ih =>
    intro st h
    exact ih (fun o ho => hok o (List.mem_cons_of_mem _ ho)) _ (applyOp_pc cls dn st op (hok op List.mem_cons_self) h)

/-- a negative priority is never stale: some current path of the entry is in a negative class -/
theorem stale_negative_impossible (cls : Cls) (e : Entry) (h : Tracks cls e) (hneg : e.priority < 0) :
    ∃ s p, (e.side s).path = some p ∧ cls s p < 0 := by
  have hk : ∀ k : Nat, e.priority ≠ k := fun k h => absurd (h ▸ hneg) (not_lt_of_ge (Nat.cast_nonneg k))
  rcases h with ⟨s, p, h1, _, hr⟩ | ⟨_, k, h⟩
  · refine ⟨s, p, h1, ?_⟩
    rcases hr with ⟨k, h⟩ | ⟨k, h⟩
    · exact lt_of_le_of_lt (le_add_of_nonneg_right (Nat.cast_nonneg k)) (h ▸ hneg)
    · exact absurd h (hk k)
  · exact absurd h (hk k)

/-- **an entry whose current paths are all in non-negative classes is never propagated before it has aged**: if `change`
    returns it, a change of one of its sides was notified at least `age` ago -/
theorem nonneg_class_ages (cls : Cls) (st : St) (hpc : PriorityCurrent cls st) (now age : Rat) (e : Entry)
    (hc : changeSt st now age = some e) (hcls : ∀ s p, (e.side s).path = some p → 0 ≤ cls s p) :
    sideAged e.l.changed (now - age) = true ∨ sideAged e.r.changed (now - age) = true := by
  have h1 := change_returns_eligible _ now age e hc
  obtain ⟨j, _, hg⟩ := (mem_pendingEntries st e).1 h1.1
  have ht := hpc e (get?_mem hg)
  have hnn : ¬ e.priority < 0 := by
    intro hneg
    obtain ⟨s, p, hp, hlt⟩ := stale_negative_impossible cls e ht hneg
    exact absurd (hcls s p hp) (not_le_of_gt hlt)
  rcases (eligible_iff e now age).1 h1.2 with h | h | h
  · exact Or.inl h
  · exact Or.inr h
  · exact absurd h hnn

/-- lower classes go first, for entries that still carry exactly the class of a current path -/
theorem class_order (st : St) (cls : Cls) (now age : Rat) (e e' : Entry) (hc : changeSt st now age = some e)
    (he' : e' ∈ st.pendingEntries) (hel : eligible e' now age = true)
    (s s' : Bool) (p p' : String) (hq : e.priority = cls s p) (hq' : e'.priority = cls s' p') :
    cls s p ≤ cls s' p' :=
  hq ▸ hq' ▸ change_priority_le hc he' hel

/-- what a kid looks like after a folder move that carries it along without consulting `prioritize` (the variant: an early
    return before `prioritize` while kids are being moved) -/
def staleKid : Entry :=
  { id := 1, priority := -1, l := { changed := some 2000, oid := some "k", path := some "/normal/D/K" } }

/-- the application: the two paths used below `/urgent` are immediate, the rest normal -/
def urgentCls : Cls := fun _ p => if p == "/urgent/D/K" || p == "/urgent/D" then -1 else 0

/-- kernel-checked witness: before the move the kid (`/urgent/D/K`, priority −1) tracks; carried to `/normal/D/K` with its
    priority left alone it does not, although a re-prioritising write would; and `change` hands it out 1 s after its
    change with ageing 100, while its class is 0 -/
theorem kids_stale_witness :
    Tracks urgentCls { staleKid with l := { staleKid.l with path := some "/urgent/D/K" } } ∧
    ¬ Tracks urgentCls staleKid ∧
    Tracks urgentCls (setPathA (1/4, 1/4) { staleKid with l := { staleKid.l with path := some "/urgent/D/K" } } false
      "/normal/D/K" (urgentCls false "/normal/D/K")).1 ∧
    (change [staleKid] 2001 100).map (·.id) = some 1 ∧ urgentCls false "/normal/D/K" = 0 ∧
    change [{ staleKid with priority := 0 }] 2001 100 = none := by
  refine ⟨tracksAt_cls (s := false) (p := "/urgent/D/K") rfl (by decide), ?_, ?_, by decide +kernel,
    by decide +kernel, by decide +kernel⟩
  · intro h
    have := stale_negative_impossible urgentCls staleKid h (by decide +kernel)
    obtain ⟨s, p, hp, hlt⟩ := this
    cases s
    · have : p = "/normal/D/K" := by
        have : (staleKid.side false).path = some "/normal/D/K" := rfl
        rw [this] at hp; exact (Option.some.inj hp).symm
      subst this
      revert hlt; decide +kernel
    · have : (staleKid.side true).path = none := rfl
      rw [this] at hp; exact absurd hp (by simp)
  · apply tracks_setPathA urgentCls _ _ false _ _ (by decide) rfl
    exact tracksAt_cls (s := false) (p := "/urgent/D/K") rfl (by decide)

/-- the hypotheses are satisfiable: three calls consistent with `urgentCls` — a folder appears, a file below it, the folder
    is moved across classes -/
example : ∃ ops : List Op, (∀ op ∈ ops, op.okFor urgentCls) ∧ ops.length = 3 :=
  ⟨[.updateDir urgentCls (false, false) false "d" none "/urgent/D" 1000,
    .update false "k" (some "/urgent/D/K") (urgentCls false "/urgent/D/K") 1001,
    .updateDir urgentCls (false, false) false "d" none "/normal/D" 1002],
   by
     intro op hop
     simp only [List.mem_cons, List.mem_nil_iff, or_false] at hop
     rcases hop with rfl | rfl | rfl
     · exact ⟨rfl, by decide⟩
     · intro pth h; cases h; exact ⟨by decide, rfl⟩
     · exact ⟨rfl, by decide⟩,
   rfl⟩

end CS.Sched
