import Csverif.Gen.RunnableReach
import Mathlib.Tactic.Linarith
import Mathlib.Tactic.Positivity
import Mathlib.Tactic.Ring
/-
C18 — service loops: bounded geometric backoff, final stop, ordered notifications.
Model: Model/Runnable.lean.
-/
namespace CS.Runnable

theorem pow_step (mn mult : Rat) (k : Nat) (h0 : 0 ≤ mn) (h1 : 1 ≤ mult) :
    mn * mult ^ k ≤ mn * mult ^ (k+1) := by
  have : 0 ≤ mn * mult ^ k := by positivity
  rw [pow_succ]; nlinarith

/-- after k+1 consecutive failures (backoff request, exception or BaseException) from a clear state
    the loop waits `min(max, min * mult^k)` — geometric, bounded -/
theorem backoff_after_k (p : Params) (h0 : 0 ≤ p.mn) (h1 : 1 ≤ p.mult) (k : Nat) :
    failK p (k+1) = min p.mx (p.mn * p.mult ^ k) := by
  induction k with
  | zero => simp [failK, incr, max_eq_right h0]
  | succ k ih =>
    have hstep := pow_step p.mn p.mult k h0 h1
    have hnn : 0 ≤ p.mn * p.mult ^ k := by positivity
    have hge : p.mn ≤ p.mn * p.mult ^ (k+1) := by
      have : (1:Rat) ≤ p.mult ^ (k+1) := one_le_pow₀ h1
      nlinarith
    rw [failK, ih, incr]
    rcases le_total (p.mn * p.mult ^ k) p.mx with hle | hle
    · rw [min_eq_right hle]
      have : p.mn * p.mult ^ k * p.mult = p.mn * p.mult ^ (k+1) := by rw [pow_succ]; ring
      rw [this, max_eq_left hge]
    · rw [min_eq_left hle]
      have hmx : p.mx ≤ p.mn * p.mult ^ (k+1) := le_trans hle hstep
      rw [min_eq_left hmx]
      rcases le_or_gt 0 p.mx with hp | hn
      · have : p.mx ≤ p.mx * p.mult := by nlinarith
        exact min_eq_left (le_trans this (le_max_left _ _))
      · exact min_eq_left (le_trans (le_of_lt (lt_of_lt_of_le hn h0)) (le_max_right _ _))

/-- the guard `1 ≤ mult` is needed: with a multiplier below one the code floors at `min`, which is
    not the geometric law -/
example : failK ⟨1, 10, 1/2⟩ 2 ≠ min 10 (1 * (1/2 : Rat) ^ 1) := by
  simp [failK, incr]; norm_num

/-- a successful call that did something returns the loop to no waiting -/
theorem success_clears (p : Params) (b : Rat) (hb : 0 ≤ b) : after p b .success = 0 := by
  simp only [after]
  split_ifs with h
  · rfl
  · exact le_antisymm (not_lt.mp h) hb

/-- a call that did nothing (`nothing_happened()`) keeps the current waiting time -/
theorem noop_keeps (p : Params) (b : Rat) : after p b .noop = b := rfl

/-- every kind of failure escalates the same way -/
theorem failures_escalate (p : Params) (b : Rat) :
    after p b .backoffReq = incr p b ∧ after p b .exc = incr p b ∧ after p b .baseExc = incr p b ∧
      after p b .noopThenFail = incr p b :=
  ⟨rfl, rfl, rfl, rfl⟩

/-- a call that reported "nothing happened" and then failed is a failure like any other: the no-op flag
    does not outlive the call, so the next effective success clears the backoff -/
theorem noop_flag_does_not_leak (p : Params) (b : Rat) (hb : 0 ≤ incr p b) :
    after p (after p b .noopThenFail) .success = 0 := success_clears p _ hb

/-- the loop keeps running whatever `do()` raises: one sleep is requested after every outcome -/
theorem loop_survives_any_outcome (p : Params) (sleep b : Rat) (outs : List Outcome) :
    (runSeq p sleep b outs).2.length = outs.length := by
  induction outs generalizing b with
  | nil => rfl
  | cons o os ih => simp [runSeq, ih]

/-- the wait at the (k+1)-th consecutive failure from a clear state -/
theorem sleeps_during_failures (p : Params) (sleep : Rat) (hmn : 0 < p.mn) (hmx : 0 < p.mx) (h1 : 1 ≤ p.mult)
    (k : Nat) : (runSeq p sleep (failK p k) [.exc]).2 = [min p.mx (p.mn * p.mult ^ k)] := by
  have hk := backoff_after_k p (le_of_lt hmn) h1 k
  have hpos : 0 < min p.mx (p.mn * p.mult ^ k) := lt_min hmx (by positivity)
  have hrun : (runSeq p sleep (failK p k) [.exc]).2 = [sleepFor sleep (failK p (k+1))] := rfl
  rw [hrun, hk]
  simp only [sleepFor]
  rw [if_pos hpos]

theorem testBit_foldl_or (codes : List Nat) (m k : Nat)
    (h : (codes.foldl (fun m c => m ||| (1 <<< c)) m).testBit k = true) : m.testBit k = true ∨ k ∈ codes := by
  induction codes generalizing m with
  | nil => exact Or.inl h
  | cons c cs ih =>
    rcases ih _ h with h1 | h1
    · rw [Nat.testBit_or, Bool.or_eq_true] at h1
      rcases h1 with h2 | h2
      · exact Or.inl h2
      · right
        rw [Nat.one_shiftLeft, Nat.testBit_two_pow] at h2
        simp at h2
        simp [h2]
    · exact Or.inr (List.mem_cons_of_mem _ h1)

theorem testBit_maskOf (codes : List Nat) (k : Nat) (h : (maskOf codes).testBit k = true) : k ∈ codes := by
  rcases testBit_foldl_or codes 0 k h with h1 | h1
  · simp at h1
  · exact h1

theorem LPc.fromNat_code (p : LPc) : LPc.fromNat p.code = p ∧ p.code < 14 := by cases p <;> exact ⟨rfl, by decide⟩

theorem CPc.fromNat_code (c : CPc) : CPc.fromNat c.code = c ∧ c.code < 24 := by
  cases c with
  | stop1 f w | stop2 f w | stop3 f w | stop4 f w => cases f <;> cases w <;> exact ⟨rfl, by decide⟩
  | _ => exact ⟨rfl, by decide⟩

theorem Intr.fromNat_code (i : Intr) : Intr.fromNat i.code = i ∧ i.code < 3 := by cases i <;> exact ⟨rfl, by decide⟩

theorem digit_mod {a r k : Nat} (h : r < k) : (a * k + r) % k = r := by
  rw [Nat.mul_comm, Nat.mul_add_mod, Nat.mod_eq_of_lt h]

theorem digit_div {a r k : Nat} (h : r < k) : (a * k + r) / k = a := by
  rw [Nat.mul_comm, Nat.mul_add_div (Nat.zero_lt_of_lt h), Nat.div_eq_of_lt h, Nat.add_zero]

theorem b2n_lt (b : Bool) : b2n b < 2 := by cases b <;> decide

theorem n2b_b2n (a : Nat) (b : Bool) : n2b (a * 2 + b2n b) = b := by
  rw [n2b, digit_mod (b2n_lt b)]
  cases b <;> rfl

theorem decode_encode (s : St) (h : s.bad ≤ 4) : decode (encode s) = s := by
  obtain ⟨lpc, cpc, stopping, shutdown, stopped, intr, ⟨d, hd⟩, quiesced, finalLive, finalized, bad⟩ := s
  obtain ⟨hl, hl'⟩ := lpc.fromNat_code
  obtain ⟨hc, hc'⟩ := cpc.fromNat_code
  obtain ⟨hi, hi'⟩ := intr.fromNat_code
  simp only [decode, encode, digit_mod, digit_div, n2b_b2n, b2n_lt, hl, hl', hc, hc', hi, hi', hd, Nat.min_eq_left h]

/-- `closedCodes` without the round trip, which `decode_encode` settles once for all states; a call is enabled only for the
    idle application thread, so the seven calls are tried in those states only -/
def closedFast (codes : List Nat) : Bool :=
  let mask := maskOf codes
  codes.all fun c =>
    let s := decode c
    (if s.cpc == .idle then acts else [.loop true, .loop false, .app]).all fun a =>
      match step s a with
      | none => true
      | some t => mask.testBit (encode t) && decide (t.bad ≤ 4)

theorem closedCodes_of_fast {codes : List Nat} (h : closedFast codes = true) : closedCodes codes = true := by
  simp only [closedFast, closedCodes, List.all_eq_true] at h ⊢
  intro c hc a ha
  cases hs : step (decode c) a with
  | none => rfl
  | some t =>
    have hm : a ∈ if (decode c).cpc == .idle then acts else [.loop true, .loop false, .app] := by
      split
      · exact ha
      · next hi =>
        cases a with
        | call k => simp [step, hi] at hs
        | loop b => cases b <;> simp
        | app => simp
    have := h c hc a hm
    simp only [hs, Bool.and_eq_true, decide_eq_true_eq] at this ⊢
    exact ⟨this.1, decode_encode t this.2⟩

/-- the generated list is closed under every action of both threads -/
theorem reach_closed : closedCodes reachCodes = true := closedCodes_of_fast (by decide +kernel)

theorem reach_good : reachCodes.all (fun c => (decode c).bad == 0) = true := by decide +kernel

def InCert (s : St) : Prop := encode s ∈ reachCodes ∧ decode (encode s) = s

theorem enabled_mem_acts (s t : St) (a : Act) (h : step s a = some t) : a ∈ acts := by
  cases a with
  | loop b => cases b <;> simp [acts]
  | app => simp [acts]
  | call c =>
    simp only [step] at h
    split at h
    · rename_i hc
      simp only [Bool.and_eq_true] at hc
      cases c <;> simp [callable] at hc
      case stop1 f w => cases f <;> cases w <;> simp [acts]
      all_goals simp [acts]
    · cases h

theorem inCert_step (s t : St) (a : Act) (hs : InCert s) (h : step s a = some t) : InCert t := by
  have hc := reach_closed
  simp only [closedCodes, List.all_eq_true] at hc
  have h1 := hc (encode s) hs.1
  rw [hs.2] at h1
  have h2 := h1 a (enabled_mem_acts s t a h)
  rw [h] at h2
  simp only [Bool.and_eq_true, decide_eq_true_eq] at h2
  exact ⟨testBit_maskOf _ _ h2.1, h2.2⟩

theorem inCert_exec (sched : List Act) (s : St) (hs : InCert s) : InCert (exec s sched) := by
  induction sched generalizing s with
  | nil => exact hs
  | cons a as ih =>
    simp only [exec]
    cases h : step s a with
    | none => simpa using ih s hs
    | some t => simpa using ih t (inCert_step s t a hs h)

theorem inCert_init : InCert init := by
  unfold InCert
  decide +kernel

theorem reach_all {P : St → Bool} (h : reachCodes.all (fun c => P (decode c)) = true) (sched : List Act) :
    P (exec init sched) = true := by
  have hc := inCert_exec sched init inCert_init
  rw [← hc.2]
  exact List.all_eq_true.1 h _ hc.1

/-- **Every interleaving, of any length**, of the loop thread's and the application thread's atomic
    steps keeps all four monitored properties:
    P1 `do()` is never called after a waiting `stop()`/`wait()` has returned (until `start()`);
    P2 cleanup runs at most once per started thread;
    P3 when a final stop issued to a live loop has returned after joining, cleanup has run exactly once;
    P4 `start()` never creates a thread while the last stop request was final. -/
theorem protocol_safe (sched : List Act) : (exec init sched).bad = 0 := by
  simpa using reach_all (P := fun s => s.bad == 0) reach_good sched

def atStop4 (s : St) : Bool := match s.cpc with | .stop4 _ _ => true | _ => false
def loopOnly (s : St) (n : Nat) : St := exec s (List.replicate n (.loop false))

theorem reach_terminates :
    reachCodes.all (fun c => !atStop4 (decode c) || !alive (loopOnly (decode c) 8)) = true := by
  decide +kernel

/-- no lost wake-up: once a stop request has been fully issued, the loop thread exits within eight of
    its own steps **even if no sleep ever times out** (the flag is re-read after every sleep and the
    wake-up event is level-triggered).  Eight steps of this coarse model; in the statement-level model of
    Props/C18Threads.lean the bound is 11 statements (`loop_exits_after_stop`). -/
theorem loop_terminates_after_stop (sched : List Act) (h : atStop4 (exec init sched) = true) :
    alive (loopOnly (exec init sched) 8) = false := by
  have := reach_all (P := fun s => !atStop4 s || !alive (loopOnly s 8)) reach_terminates sched
  rw [h] at this
  simpa using this

/-- non-vacuity: a concrete schedule (start, run two iterations, final waiting stop) reaches the join -/
example : (exec init [.call .start1, .app, .app, .app, .app, .app, .loop true, .loop true, .loop true, .loop true,
    .loop true, .call (.stop1 true true), .app, .app, .app]).cpc = .stop4 true true := by decide

variable {N : Type}

/-- the notifications still queued in front of the stop marker (all of the queue if there is none), in order: those the
    loop will still deliver -/
def pendingBeforeStop : List (Option N) → List N
  | [] => []
  | none :: _ => []
  | some n :: q => n :: pendingBeforeStop q

/-- one call of `do()`: handler invocations so far plus what is still pending stay the same list: nothing is skipped,
    duplicated or reordered, whatever the handler raises -/
theorem nDo_preserves (raises : N → Bool) (s : NState N) (hs : s.stopReq = false) :
    (nDo raises s).delivered ++ (if (nDo raises s).stopReq then [] else pendingBeforeStop (nDo raises s).queue)
      = s.delivered ++ pendingBeforeStop s.queue := by
  unfold nDo
  cases hq : s.queue with
  | nil => simp [hq, hs]
  | cons x q =>
    cases x with
    | none => simp [pendingBeforeStop]
    | some n => simp [pendingBeforeStop, hs]

/-- delivered notifications are always a prefix of those raised (order, at-most-once, no skip) and a
    handler exception does not stop later deliveries: the run's deliveries do not depend on `raises` -/
theorem delivered_is_prefix_of_raised (raises : N → Bool) (k : Nat) (s : NState N) (hs : s.stopReq = false) :
    ∃ rest, (nRun raises k s).delivered ++ rest = s.delivered ++ pendingBeforeStop s.queue := by
  induction k generalizing s with
  | zero => exact ⟨_, rfl⟩
  | succ k ih =>
    simp only [nRun, hs, Bool.false_eq_true, if_false]
    have hp := nDo_preserves raises s hs
    cases hstop : (nDo raises s).stopReq with
    | true =>
      refine ⟨[], ?_⟩
      cases k with
      | zero => simp only [nRun]; simpa [hstop] using hp
      | succ k => simp only [nRun, hstop, if_true]; simpa [hstop] using hp
    | false =>
      obtain ⟨rest, hr⟩ := ih (nDo raises s) hstop
      refine ⟨rest, ?_⟩
      rw [hr]
      simpa [hstop] using hp

theorem handler_exception_does_not_matter (r1 r2 : N → Bool) (k : Nat) (s : NState N) :
    (nRun r1 k s).delivered = (nRun r2 k s).delivered := by
  induction k generalizing s with
  | zero => rfl
  | succ k ih =>
    simp only [nRun]
    split
    · rfl
    · have : nDo r1 s = nDo r2 s := by unfold nDo; cases s.queue with
        | nil => rfl
        | cons x q => cases x <;> rfl
      rw [this]; exact ih _

/-- every notification raised before the stop marker is delivered exactly once, given enough iterations -/
theorem all_delivered_if_not_stopped (raises : N → Bool) (ns : List N) :
    (nRun raises ns.length { queue := ns.map some, delivered := [], stopReq := false }).delivered = ns := by
  suffices h : ∀ (d : List N), (nRun raises ns.length { queue := ns.map some, delivered := d, stopReq := false }).delivered = d ++ ns by
    simpa using h []
  induction ns with
  | nil => intro d; simp [nRun]
  | cons n ns ih =>
    intro d
    simp only [List.length_cons, nRun, Bool.false_eq_true, if_false, List.map_cons, nDo]
    rw [ih]; simp

end CS.Runnable
