import Csverif.Model.Spec.Faults
import Csverif.Props.C18
/-
C10 — transient provider faults: survive, report, retry, still converge.
Model: Model/Spec/Faults.lean; the loop itself: Model/Runnable.lean (C18).
"After the faults stop the sides converge, nothing lost" is not a theorem about a model of the whole engine: it is
checked on real runs by the monitor (`Driver/MonC10.lean`, which executes `faultOk`/`faultReported`/`escapeOk`, and the
`c01`/`c02` monitors of C01/C02).
-/
namespace CS.Faults

theorem Exc.all_complete (e : Exc) : e ∈ Exc.all := by cases e <;> decide

/-- the hierarchy is less than six deep: the fuel of `Exc.mro` is never used up -/
theorem Exc.mroFuel_five (p : Exc) : Exc.mroFuel 5 p = p.mro := by cases p <;> rfl

/-- `isSub` is the reflexive-transitive closure of the direct-base relation of exceptions.py -/
theorem isSub_iff_parent (a b : Exc) :
    isSub a b = true ↔ a = b ∨ ∃ p, a.parent = some p ∧ isSub p b = true := by
  rw [isSub, Exc.mro, Exc.mroFuel]
  cases a.parent with
  | none => simp [@eq_comm _ a b]
  | some p => simp [Exc.mroFuel_five, isSub, @eq_comm _ a b]

theorem isSub_refl (a : Exc) : isSub a a = true := by cases a <;> decide

theorem temporary_family (e : Exc) :
    isSub e .temporary = true ↔ e = .temporary ∨ e = .outOfSpace ∨ e = .resourceModified := by
  cases e <;> decide

/-- the comment at event.py:177 is wrong: CloudRootMissingError is not a CloudTemporaryError -/
theorem root_missing_not_temporary : isSub .rootMissing .temporary = false := by decide

/-- every class of exceptions.py is an Exception (so the loop's second clause would catch it) -/
theorem cloud_classes_are_exceptions : ∀ e ∈ Exc.cloudClasses, isSub e .cloudException = true ∧ isSub e .exception_ = true := by
  decide

/-- `matchesKind` as the table it is: the classes the property lists, each with the kind it is reported under -/
theorem matchesKind_table {e : Exc} {k : NKind} (h : matchesKind e k = true) :
    e = .disconnected ∧ k = .disconnectedError ∨ e = .outOfSpace ∧ k = .outOfSpaceError ∨
      e = .fileName ∧ k = .fileNameError ∨ e = .namespace_ ∧ k = .namespaceError ∨
      e = .temporary ∧ k = .temporaryError ∨ e = .resourceModified ∧ k = .temporaryError := by
  cases e <;> cases k <;> first | exact absurd h (by decide) | simp

/-- every condition the property lists yields the notification of the matching kind -/
theorem notify_matching_kind (e : Exc) (k : NKind) (h : matchesKind e k = true) : notifyFromException e = some k := by
  rcases matchesKind_table h with ⟨rfl, rfl⟩ | ⟨rfl, rfl⟩ | ⟨rfl, rfl⟩ | ⟨rfl, rfl⟩ | ⟨rfl, rfl⟩ | ⟨rfl, rfl⟩ <;> rfl

/-- and nothing else is ever reported under one of those kinds -/
theorem notify_only_matching (e : Exc) (k : NKind) (h : notifyFromException e = some k) :
    matchesKind e k = true ∨ (k = .rootMissingError ∧ e = .rootMissing) := by
  cases e <;> cases k <;> first | (exact absurd h (by decide)) | decide

theorem notify_silent_iff (e : Exc) :
    notifyFromException e = none ↔
      e ∈ [.baseException, .exception_, .cloudException, .fileNotFound, .fileExists, .token, .cursor, .tooManyRetries,
           .corrupt, .backoffError, .otherException, .otherBase] := by
  cases e <;> decide

/-- a fault of a listed kind raised while an entry is being synchronised: the notification of the matching kind is
    queued (exactly that one), the entry is punted (not dropped), and only the backoff request leaves the step -/
theorem sync_entry_reports (e : Exc) (k : NKind) (h : matchesKind e k = true) :
    (syncOneEntry (.raised e)).1.notes = [k] ∧ (syncOneEntry (.raised e)).1.punts = 1 ∧
    (syncOneEntry (.raised e)).1.raised = some .backoffError ∧ (syncOneEntry (.raised e)).2 = false := by
  rcases matchesKind_table h with ⟨rfl, rfl⟩ | ⟨rfl, rfl⟩ | ⟨rfl, rfl⟩ | ⟨rfl, rfl⟩ | ⟨rfl, rfl⟩ | ⟨rfl, rfl⟩ <;> decide

/-- whatever Exception the attempt raises, the failing entry is punted exactly once and the step ends with the
    backoff request: no Exception escapes `_sync_one_entry` -/
theorem failing_entry_is_punted_not_dropped (e : Exc) (h : isSub e .exception_ = true) :
    (syncOneEntry (.raised e)).1.punts = 1 ∧ (syncOneEntry (.raised e)).1.raised = some .backoffError := by
  cases e <;> first | (exact absurd h (by decide)) | decide

/-- the classes that do leave `_sync_one_entry` as themselves: exactly the non-Exception BaseExceptions -/
theorem sync_entry_escapes_iff (e : Exc) :
    (syncOneEntry (.raised e)).1.raised ≠ some .backoffError ↔ e = .baseException ∨ e = .otherBase := by
  cases e <;> decide

/-- the temporary-style clause does not commit the state, the catch-all clause does (manager.py:193 vs 201) -/
theorem sync_entry_commit_rule (e : Exc) (h : isSub e .exception_ = true) :
    (syncOneEntry (.raised e)).1.commits =
      if isAny e [.temporary, .disconnected, .outOfSpace, .token, .namespace_] then 0 else 1 := by
  cases e <;> first | (exact absurd h (by decide)) | decide

/-- an expired token in a sync step: punted and backed off, but no notification (none is demanded) -/
theorem sync_entry_token_silent :
    (syncOneEntry (.raised .token)).1 = { punts := 1, raised := some .backoffError } := by decide

/-- a successful attempt commits once and raises nothing -/
theorem sync_entry_success (a b : Bool) : syncOneEntry (.returned a b) = ({ commits := 1 }, a || b) := rfl

/- FULL STATEMENT — false of the code as it is (kept for the record):
theorem sync_do_reports (ph : SyncPhase) (e : Exc) (k : NKind) (h : matchesKind e k = true) :
    (syncDo ph e).notes = [k] ∧ (syncDo ph e).raised = some .backoffError
It fails for `ph = .change`: `SyncManager.do` calls `self.state.change(self.aging)` (manager.py:227) outside every
try statement, and `change` looks up missing paths with `provider.info_oid` (state.py:1207-1210). -/

/-- everywhere but in that unguarded lookup a listed fault is reported and becomes a backoff request -/
theorem sync_do_reports_partial (ph : SyncPhase) (hph : ph ≠ .change) (e : Exc) (k : NKind) (h : matchesKind e k = true) :
    (syncDo ph e).notes = [k] ∧ (syncDo ph e).raised = some .backoffError := by
  cases ph with
  | roots => rcases matchesKind_table h with ⟨rfl, rfl⟩ | ⟨rfl, rfl⟩ | ⟨rfl, rfl⟩ | ⟨rfl, rfl⟩ | ⟨rfl, rfl⟩ | ⟨rfl, rfl⟩ <;> decide
  | change => exact absurd rfl hph
  | entry => exact ⟨(sync_entry_reports e k h).1, (sync_entry_reports e k h).2.2.1⟩

/-- kernel-checked counterexample: a temporary error raised by the path lookup inside `state.change` leaves
    `SyncManager.do` as it is, with no notification (replayed on the real engine by the harness:
    known finding `fault-in-change-lookup-unreported`) -/
theorem sync_do_change_unreported :
    matchesKind .temporary .temporaryError = true ∧
    (syncDo .change .temporary).notes = [] ∧ (syncDo .change .temporary).raised = some .temporary := by decide

/-- root validation (manager.py:205-221): every Exception becomes a backoff request; cloud ones are reported
    (this is the one place a ROOT_MISSING_ERROR notification comes from) -/
theorem roots_never_escape (e : Exc) (h : isSub e .exception_ = true) : (validateRoots e).raised = some .backoffError := by
  cases e <;> first | (exact absurd h (by decide)) | decide

theorem roots_report_root_missing : (validateRoots .rootMissing).notes = [.rootMissingError] := by decide

/- FULL STATEMENT — false of the code as it is (kept for the record):
theorem event_do_reports (e : Exc) (k : NKind) (h : matchesKind e k = true) :
    (eventDo true e).notes = [k] ∧ (eventDo true e).raised = some .backoffError
It fails for CloudFileNameError, which `EventManager.do` does not catch (no provider raises it from `events()`,
`walk` or `info_oid`, so this is a fact about the table, not a reachable defect). -/

theorem event_do_reports_partial (e : Exc) (k : NKind) (h : matchesKind e k = true) (hn : isSub e .fileName = false) :
    (eventDo true e).notes = [k] ∧ (eventDo true e).raised = some .backoffError := by
  rcases matchesKind_table h with ⟨rfl, rfl⟩ | ⟨rfl, rfl⟩ | ⟨rfl, rfl⟩ | ⟨rfl, rfl⟩ | ⟨rfl, rfl⟩ | ⟨rfl, rfl⟩ <;>
    first | exact absurd hn (by decide) | decide

/-- kernel-checked counterexample for the full statement -/
theorem event_do_filename_escapes :
    matchesKind .fileName .fileNameError = true ∧ (eventDo true .fileName).notes = [] ∧
    (eventDo true .fileName).raised = some .fileName := by decide

/-- exactly these classes leave `EventManager.do` unclassified (everything else becomes the backoff request) -/
theorem event_do_escapes_iff (b : Bool) (e : Exc) :
    (eventDo b e).raised ≠ some .backoffError ↔
      e ∈ [.baseException, .exception_, .cloudException, .fileNotFound, .fileName, .rootMissing, .fileExists,
           .tooManyRetries, .corrupt, .otherException, .otherBase] := by
  cases b <;> cases e <;> decide

/-- what really happens to CloudRootMissingError in the event manager: it is NOT handled by the first clause
    (it is not a CloudTemporaryError); it leaves `do()` unclassified and unreported — the service loop then treats
    it like any other exception (`loop_absorbs_escapes`) -/
theorem root_missing_escapes_event_do (b : Bool) : eventDo b .rootMissing = { raised := some .rootMissing } := by
  cases b <;> decide

/-- out-of-space is a temporary error, so the event manager reports it under its own kind -/
theorem event_do_out_of_space : (eventDo true .outOfSpace).notes = [.outOfSpaceError] := by decide

theorem event_do_token : eventDo true .token = { needAuth := true, raised := some .backoffError } := by decide

theorem event_do_cursor :
    eventDo true .cursor = { cursorReset := true, walkForgot := true, needWalk := true, raised := some .backoffError } := by
  decide

/-- without a notification manager nothing is reported (event.py:180) -/
theorem event_do_without_nmgr_silent (e : Exc) : (eventDo false e).notes = [] := by cases e <;> decide

/-- whatever leaves `do()` — the backoff request, an unclassified exception such as CloudRootMissingError or the
    unreported lookup fault, even a BaseException — the loop escalates its backoff and goes on -/
theorem loop_absorbs_escapes (p : Runnable.Params) (b : Rat) (g : Bool) (e : Exc) :
    Runnable.after p b (loopOutcome g (some e)) = Runnable.incr p b := by
  cases e <;> rfl

/-- the loops keep running: for every sequence of step results (returned with/without progress, or anything
    raised) exactly one sleep is requested per iteration, none is skipped and the loop never ends -/
theorem loops_survive_all_faults (p : Runnable.Params) (sleep b : Rat) (rs : List (Bool × Option Exc)) :
    (Runnable.runSeq p sleep b (rs.map (fun r => loopOutcome r.1 r.2))).2.length = rs.length := by
  rw [Runnable.loop_survives_any_outcome]; simp

theorem runSeq_all_raised (p : Runnable.Params) (sleep : Rat) (es : List Exc) (g : Bool) (k : Nat) :
    (Runnable.runSeq p sleep (Runnable.failK p k) (es.map (fun e => loopOutcome g (some e)))).1 =
      Runnable.failK p (k + es.length) := by
  induction es generalizing k with
  | nil => rfl
  | cons e es ih =>
    simp only [List.map_cons, Runnable.runSeq, List.length_cons]
    rw [loop_absorbs_escapes]
    have : Runnable.incr p (Runnable.failK p k) = Runnable.failK p (k+1) := rfl
    rw [this, ih (k+1)]
    congr 1; omega

/-- while faults keep coming the wait grows geometrically up to the maximum (C18's law, instantiated) -/
theorem consecutive_faults_back_off (p : Runnable.Params) (sleep : Rat) (h0 : 0 ≤ p.mn) (h1 : 1 ≤ p.mult)
    (es : List Exc) (e : Exc) (g : Bool) :
    (Runnable.runSeq p sleep 0 ((e :: es).map (fun e => loopOutcome g (some e)))).1 =
      min p.mx (p.mn * p.mult ^ es.length) := by
  have h := runSeq_all_raised p sleep (e :: es) g 0
  simp only [Runnable.failK] at h
  rw [h]
  simpa [Nat.add_comm] using Runnable.backoff_after_k p h0 h1 es.length

/-- a step that returns after doing something clears the backoff -/
theorem success_after_faults_clears (p : Runnable.Params) (b : Rat) (hb : 0 ≤ b) :
    Runnable.after p b (loopOutcome true none) = 0 := Runnable.success_clears p b hb

theorem notify_is_chain (e : Exc) : notifyFromException e = chainNotify auditedNotifyChain e := by
  cases e <;> decide

theorem sync_entry_is_table (e : Exc) :
    (syncOneEntry (.raised e)).1 = runHandlers auditedNotifyChain true auditedSyncHandlers e := by
  cases e <;> decide

theorem roots_is_table (e : Exc) : validateRoots e = runHandlers auditedNotifyChain true auditedRootsHandlers e := by
  cases e <;> decide

theorem event_do_is_table (b : Bool) (e : Exc) :
    eventDo b e = runHandlers auditedNotifyChain b auditedEventHandlers e := by
  cases b <;> cases e <;> decide

/-- the loop's clause list catches every class, and classifies it as `loopOutcome` does (the number is the index of the
    catching clause in `auditedLoopHandlers`) -/
theorem loop_is_table (e : Exc) (g : Bool) :
    (auditedLoopHandlers.findIdx? (fun h => isAny e h.classes)) =
      some (match loopOutcome g (some e) with | .backoffReq => 0 | .exc => 1 | _ => 2) := by
  cases e <;> cases g <;> decide

theorem hierarchy_is_parent : ∀ c ∈ Exc.cloudClasses, (c, (c.parent).getD .baseException) ∈ auditedHierarchy := by
  decide

theorem sync_do_change_is_unguarded : auditedChangeGuarded = false := rfl

/-! Punting: the argument is a potential.  `work B q` adds, for an entry that will succeed, the attempts it still needs (its remaining
failures plus one), and for an entry that fails for ever, its distance from `B`, a bound that no priority of a succeeding
entry ever reaches (`boundedBy`).  While some entry can still succeed the priority served is below `B`, so one `qStep` lowers
`work` by exactly one: the attempt is the success or one of the failures of a succeeding entry, or it punts a permanently
failing one a step closer to `B` (`work_procFirst`); after `work B q` steps nothing that can succeed is left. -/

theorem minPrio_eq_none {q : List QEnt} (h : minPrio q = none) : q = [] := by
  cases q with
  | nil => rfl
  | cons e es =>
    simp only [minPrio] at h
    cases hm : minPrio es <;> simp [hm] at h

theorem minPrio_le {q : List QEnt} {m : Int} (h : minPrio q = some m) : ∀ e ∈ q, m ≤ e.prio := by
  fun_induction minPrio q generalizing m with
  | case1 => cases h
  | case2 e es hn =>
    cases h
    rw [minPrio_eq_none hn]
    simp
  | case3 e es m' hm ih =>
    cases h
    simp only [List.forall_mem_cons]
    exact ⟨by split <;> omega, fun x hx => by have := ih hm x hx; split <;> omega⟩

theorem minPrio_attained {q : List QEnt} {m : Int} (h : minPrio q = some m) : ∃ e ∈ q, e.prio = m := by
  fun_induction minPrio q generalizing m with
  | case1 => cases h
  | case2 e es hn => cases h; exact ⟨e, List.mem_cons_self .., rfl⟩
  | case3 e es m' hm ih =>
    cases h
    split
    · exact ⟨e, List.mem_cons_self .., rfl⟩
    · exact (ih hm).imp fun x hx => ⟨List.mem_cons_of_mem _ hx.1, hx.2⟩

def finIds (q : List QEnt) : List Nat := (finiteEnts q).map (·.id)
def permIds (q : List QEnt) : List Nat := (q.filter (fun e => e.fails.isNone)).map (·.id)

theorem finiteEnts_cons (e : QEnt) (es : List QEnt) :
    finiteEnts (e :: es) = if e.fails.isSome then e :: finiteEnts es else finiteEnts es := by
  simp only [finiteEnts, List.filter_cons]

theorem finIds_cons (e : QEnt) (es : List QEnt) :
    finIds (e :: es) = if e.fails.isSome then e.id :: finIds es else finIds es := by
  simp only [finIds, finiteEnts_cons]
  split <;> rfl

theorem permIds_cons (e : QEnt) (es : List QEnt) :
    permIds (e :: es) = if e.fails.isNone then e.id :: permIds es else permIds es := by
  simp only [permIds, List.filter_cons]
  split <;> rfl

theorem work_procFirst (B m : Int) (hB : m < B) (q : List QEnt) (hex : ∃ e ∈ q, e.prio = m) :
    work B (procFirst m q).1 + 1 = work B q := by
  fun_induction procFirst m q with
  | case1 => obtain ⟨e, he, _⟩ := hex; cases he
  | case2 e es hp hf => simp only [work, weight, hf]; omega
  | case3 e es hp k hf => simp only [work, weight, hf]; omega
  | case4 e es hp hf => simp only [work, weight, hf, punt]; omega
  | case5 e es hp ih =>
    have := ih (hex.imp fun x ⟨hx, hxm⟩ => ⟨(List.mem_cons.1 hx).resolve_left fun h => hp (h ▸ hxm), hxm⟩)
    simp only [work]; omega

theorem bounded_procFirst (B m : Int) (q : List QEnt) (hb : boundedBy B q) : boundedBy B (procFirst m q).1 := by
  fun_induction procFirst m q <;> simp only [boundedBy, List.forall_mem_cons] at hb ⊢
  case case1 => exact hb
  case case2 => exact hb.2
  case case3 e es hp k hf => exact ⟨fun j hj => by cases hj; have := hb.1 _ hf; simp only [punt]; omega, hb.2⟩
  case case4 e es hp hf => exact ⟨fun j hj => (by rw [hf] at hj; cases hj), hb.2⟩
  case case5 e es hp ih => exact ⟨hb.1, ih hb.2⟩

/-- an attempt never loses an entry: it is still queued, or it was the one synchronised -/
theorem procFirst_keeps (m : Int) (q : List QEnt) (i : Nat) (h : i ∈ finIds q) :
    i ∈ finIds (procFirst m q).1 ∨ (procFirst m q).2 = some i := by
  fun_induction procFirst m q <;> try simp only [finIds_cons] at h ⊢
  case case1 => exact Or.inl h
  case case2 e es hp hf => simpa [hf, or_comm, eq_comm] using h
  case case3 e es hp k hf => simpa [hf] using h
  case case4 e es hp hf => simpa [hf] using h
  case case5 e es hp ih =>
    cases hf : e.fails.isSome <;> simp only [hf, Bool.false_eq_true, ↓reduceIte, List.mem_cons] at h ⊢
    · exact ih h
    · exact h.elim (fun h => Or.inl (Or.inl h)) fun h => (ih h).imp_left Or.inr

/-- the permanently failing entries are set aside, never removed, never marked synchronised -/
theorem procFirst_perm (m : Int) (q : List QEnt) :
    permIds (procFirst m q).1 = permIds q ∧ ∀ i, (procFirst m q).2 = some i → i ∈ finIds q := by
  fun_induction procFirst m q <;> try simp only [permIds_cons, finIds_cons]
  case case1 => simp
  case case2 e es hp hf => simp [hf]
  case case3 e es hp k hf => simp [hf]
  case case4 e es hp hf => simp [hf]
  case case5 e es hp ih =>
    refine ⟨by rw [ih.1], fun i hi => ?_⟩
    split
    · exact List.mem_cons_of_mem _ (ih.2 i hi)
    · exact ih.2 i hi

theorem finiteEnts_nil_procFirst (m : Int) (q : List QEnt) (h : finiteEnts q = []) : finiteEnts (procFirst m q).1 = [] := by
  fun_induction procFirst m q <;> simp only [finiteEnts_cons] at h ⊢
  case case1 => rfl
  case case2 e es hp hf => simp [hf] at h
  case case3 e es hp k hf => simp [hf] at h
  case case4 e es hp hf => simpa [hf] using h
  case case5 e es hp ih =>
    cases hf : e.fails.isSome <;> simp only [hf, Bool.false_eq_true, ↓reduceIte] at h ⊢
    · exact ih h
    · cases h

theorem finiteEnts_nil_qStep (s : QState) (h : finiteEnts s.q = []) : finiteEnts (qStep s).q = [] := by
  unfold qStep
  cases hm : minPrio s.q with
  | none => exact h
  | some m => exact finiteEnts_nil_procFirst m s.q h

theorem qRun_induct {P : QState → Prop} (hstep : ∀ s, P s → P (qStep s)) (n : Nat) {s : QState} (h : P s) :
    P (qRun n s) := by
  induction n generalizing s with
  | zero => exact h
  | succ n ih => exact ih (hstep s h)

theorem work_pos_of_finite (B : Int) (q : List QEnt) (h : finiteEnts q ≠ []) : 0 < work B q := by
  induction q with
  | nil => exact absurd rfl h
  | cons e es ih =>
    cases hf : e.fails with
    | some k => simp only [work, weight, hf]; omega
    | none => have := ih (by simpa [finiteEnts_cons, hf] using h); simp only [work]; omega

theorem exists_finite (q : List QEnt) (h : finiteEnts q ≠ []) : ∃ e ∈ q, ∃ k, e.fails = some k := by
  obtain ⟨x, hx⟩ := List.exists_mem_of_ne_nil _ h
  obtain ⟨hx1, hx2⟩ := List.mem_filter.1 hx
  exact ⟨x, hx1, Option.isSome_iff_exists.1 hx2⟩

theorem qStep_progress (B : Int) (s : QState) (hb : boundedBy B s.q) (hf : finiteEnts s.q ≠ []) :
    work B (qStep s).q + 1 = work B s.q ∧ boundedBy B (qStep s).q := by
  obtain ⟨f, hfq, k, hk⟩ := exists_finite s.q hf
  unfold qStep
  cases hm : minPrio s.q with
  | none => have := minPrio_eq_none hm; rw [this] at hfq; simp at hfq
  | some m =>
    have hle := minPrio_le hm f hfq
    have hfb := hb f hfq k hk
    have hB : m < B := by omega
    exact ⟨work_procFirst B m hB s.q (minPrio_attained hm), bounded_procFirst B m s.q hb⟩

/-- RETRY / NO STARVATION.  Take any queue in which some entries fail a finite number of times and others fail
    forever (locked files).  After `work B q` scheduling steps — a number that does not depend on how long the
    permanently failing entries keep failing — no entry that can succeed is left waiting:
    the failing files do not stop the other files from synchronising. -/
theorem failing_entries_do_not_starve_others (B : Int) (n : Nat) (s : QState)
    (hb : boundedBy B s.q) (hn : work B s.q ≤ n) : finiteEnts (qRun n s).q = [] := by
  induction n generalizing s with
  | zero =>
    by_cases hf : finiteEnts s.q = []
    · exact hf
    · have := work_pos_of_finite B s.q hf; omega
  | succ n ih =>
    by_cases hf : finiteEnts s.q = []
    · exact qRun_induct finiteEnts_nil_qStep (n+1) hf
    · obtain ⟨h1, h2⟩ := qStep_progress B s hb hf
      exact ih (qStep s) h2 (by omega)

theorem qStep_keeps (s : QState) (i : Nat) (h : i ∈ finIds s.q ∨ i ∈ s.synced) :
    i ∈ finIds (qStep s).q ∨ i ∈ (qStep s).synced := by
  unfold qStep
  cases hm : minPrio s.q with
  | none => exact h
  | some m =>
    rcases h with h | h
    · rcases procFirst_keeps m s.q i h with h' | h'
      · exact Or.inl h'
      · right; simp [h']
    · right; simp [h]

/-- an entry that fails k times and then succeeds IS eventually synchronised (it is marked synced, not merely
    gone), whatever else is queued, including entries that fail forever -/
theorem retried_entry_is_eventually_synced (B : Int) (n : Nat) (s : QState)
    (hb : boundedBy B s.q) (hn : work B s.q ≤ n) (e : QEnt) (he : e ∈ s.q) (k : Nat) (hk : e.fails = some k) :
    e.id ∈ (qRun n s).synced := by
  have hi : e.id ∈ finIds s.q := by
    simp only [finIds, finiteEnts, List.mem_map, List.mem_filter]
    exact ⟨e, ⟨he, by simp [hk]⟩, rfl⟩
  have hnil := failing_entries_do_not_starve_others B n s hb hn
  rcases qRun_induct (fun s => qStep_keeps s e.id) n (Or.inl hi) with h | h
  · simp [finIds, hnil] at h
  · exact h

theorem qStep_perm (s : QState) : permIds (qStep s).q = permIds s.q := by
  unfold qStep
  cases hm : minPrio s.q with
  | none => rfl
  | some m => exact (procFirst_perm m s.q).1

/-- a permanently failing entry is set aside, not dropped: it is still queued after any number of steps -/
theorem permanently_failing_entry_stays_queued (n : Nat) (s : QState) : permIds (qRun n s).q = permIds s.q :=
  qRun_induct (P := fun x => permIds x.q = permIds s.q) (fun x hx => (qStep_perm x).trans hx) n rfl

/-- a single entry: k failures, then success at attempt k+1 -/
theorem retry_k_then_success (i : Nat) (p : Int) (k : Nat) (done : List Nat) :
    qRun (k+1) ⟨[⟨i, p, some k⟩], done⟩ = ⟨[], done ++ [i]⟩ := by
  induction k generalizing p with
  | zero => simp [qRun, qStep, minPrio, procFirst]
  | succ k ih =>
    have : qStep ⟨[⟨i, p, some (k+1)⟩], done⟩ = ⟨[⟨i, punt p, some k⟩], done⟩ := by
      simp [qStep, minPrio, procFirst]
    rw [qRun, this, ih]

/-- once unlocked (its remaining failures become finite) the set-aside entry is synchronised as well:
    the theorem above applies to the queue as it then is -/
theorem unlocked_entry_syncs (B : Int) (n : Nat) (q : List QEnt) (done : List Nat) (i : Nat) (p : Int)
    (hb : boundedBy B (⟨i, p, some 0⟩ :: q)) (hn : work B (⟨i, p, some 0⟩ :: q) ≤ n) :
    i ∈ (qRun n ⟨⟨i, p, some 0⟩ :: q, done⟩).synced :=
  retried_entry_is_eventually_synced B n ⟨⟨i, p, some 0⟩ :: q, done⟩ hb hn ⟨i, p, some 0⟩ (by simp) 0 rfl

/-- a fault the monitor accepts was reported under every kind the property demands (the model's prediction
    contains the matching kind), provided the site is one the partial theorems cover -/
theorem faultOk_reports (f : FaultObs) (k : NKind) (h : faultOk f = true) (hk : matchesKind f.exc k = true)
    (hs : f.site = .syncEntry ∨ isSub f.exc .fileName = false) :
    (f.site.source, k) ∈ f.notes ∧ f.escaped = some .backoffError := by
  unfold faultOk at h
  simp only [Bool.and_eq_true, decide_eq_true_eq, List.all_eq_true] at h
  obtain ⟨h1, h2⟩ := h
  have hp : (predict f.site f.exc).notes = [k] ∧ (predict f.site f.exc).raised = some .backoffError := by
    cases hsite : f.site with
    | syncEntry => exact sync_do_reports_partial .entry (by decide) f.exc k hk
    | event side =>
      rcases hs with hs | hs
      · rw [hsite] at hs; cases hs
      · exact event_do_reports_partial f.exc k hk hs
  constructor
  · have := h2 k (by rw [hp.1]; simp)
    simpa using this
  · rw [h1, hp.2]

theorem faultReported_iff (f : FaultObs) :
    faultReported f = true ↔
      (∀ k, matchesKind f.exc k = true → (f.site.source, k) ∈ f.notes) ∧ f.escaped = some .backoffError := by
  unfold faultReported
  simp only [Bool.and_eq_true, decide_eq_true_eq, List.all_eq_true, Bool.or_eq_true, Bool.not_eq_true']
  constructor
  · rintro ⟨h1, h2⟩
    refine ⟨fun k hk => ?_, h2⟩
    have hk' : k ∈ NKind.all := by cases k <;> decide
    rcases h1 k hk' with h | h
    · rw [hk] at h; cases h
    · simpa using h
  · rintro ⟨h1, h2⟩
    refine ⟨fun k _ => ?_, h2⟩
    cases hk : matchesKind f.exc k
    · exact Or.inl rfl
    · right; simpa using h1 k hk

/-! the hypotheses are satisfiable -/
example : ∃ (B : Int) (s : QState), boundedBy B s.q ∧ work B s.q ≤ 7 ∧ finiteEnts s.q ≠ [] ∧ permIds s.q ≠ [] ∧
    (qRun 7 s).synced = [2, 1] ∧ permIds (qRun 7 s).q = [9] :=
  ⟨3, ⟨[⟨1, 0, some 2⟩, ⟨9, 0, none⟩, ⟨2, 1, some 0⟩], []⟩, by
    refine ⟨?_, by decide, by decide, by decide, by decide, by decide⟩
    intro e he k hk
    simp only [List.mem_cons, List.mem_nil_iff, or_false] at he
    rcases he with rfl | rfl | rfl
    · simp at hk; subst hk; decide
    · simp at hk
    · simp at hk; subst hk; decide⟩

example : ∃ f : FaultObs, faultOk f = true ∧ faultReported f = true ∧ matchesKind f.exc .outOfSpaceError = true :=
  ⟨⟨.event 1, .outOfSpace, [(.remote, .outOfSpaceError)], some .backoffError⟩, by decide, by decide, by decide⟩

end CS.Faults
